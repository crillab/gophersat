import GS.Spec.ListLemmas
import GS.Spec.Basic
import GS.Spec.LitSum
import GS.Check.Brute
import GS.Check.Rup
import GS.Spec.MaxSat
import GS.Check.MaxSatBrute
import GS.Proto
import GS.Ops
import GS.OpsAll
import GS.Props.C01
import GS.Props.C06
import GS.Spec.Formula
import GS.Check.FormulaBrute
import GS.OpsBf
import GS.Model.BfParse
import GS.Model.PbSet
import GS.OpsPb
import GS.Props.C02
import GS.Props.C03
import GS.Props.C04
import GS.Props.C05
import GS.Props.C07
import GS.Props.C08
import GS.Props.C09
import GS.Props.C10
import GS.Props.C13
import GS.Props.C15
import GS.Props.C18
import GS.Generated.Facts
import GS.Props.Facts
import GS.Model.Print
import GS.Props.C19
import GS.Props.C16
import GS.Props.C20
import GS.Model.Constr
import GS.Props.C02_Constr
import GS.OpsConstr
import GS.Model.Cdcl
import GS.Props.C01_Cdcl
import GS.OpsCdcl
import GS.Model.Optim
import GS.Props.C03_Optim
import GS.OpsOptim
import GS.Model.Enum
import GS.Props.C05_Enum
import GS.Model.Mus
import GS.Props.C07_Mus
import GS.Model.SimplifyPB
import GS.Props.C14_PbSet
import GS.Props.C14_SimplifyPB
import GS.Props.C14_Learned
import GS.Model.MaxSatEnc
import GS.Props.C04_MaxSat
import GS.Props.C04_MaxSatNew
import GS.OpsMaxSat
import GS.Model.Amo
import GS.Props.C15_Amo
import GS.OpsAmo
import GS.Model.Explain
import GS.Props.C08_Explain
import GS.OpsExplain
import GS.Model.BfBase
import GS.Model.Bf
import GS.OpsBfModel
import GS.Props.C11_BfBase
import GS.Props.C11_Bf
import GS.Props.C12_Bf
import GS.Model.BfRender
import GS.Props.C17_Parse
import GS.Model.Chan
import GS.OpsChan
import GS.Props.C20_ChanBase
import GS.Props.C20_Chan
import GS.Props.C20_ChanTrace
import GS.Props.C16_Chan
import GS.OpsEnum
import GS.Model.MaxSatSigned
import GS.Props.C04_MaxSatSigned
import GS.OpsMaxSatSigned
import GS.Model.BfUnique
import GS.Props.C11_Unique
import GS.OpsBfUnique
import GS.Model.Formats
import GS.Props.C13_Formats
import GS.OpsFormats
import GS.Model.Simplify
import GS.OpsSimplify
import GS.Props.C01_Simplify
import GS.Model.Analyze
import GS.OpsAnalyze
import GS.Props.C01_Analyze
import GS.Props.C08_Complete
import GS.Props.C02_SimplifyPB
import GS.Model.Append
import GS.Props.C09_Append
import GS.OpsAppend
import GS.Model.OptimSigned
import GS.Props.C03_OptimSigned
import GS.OpsOptimSigned
import GS.Model.Trail
import GS.Props.C01_Trail
import GS.OpsTrail
import GS.Model.CpAnalyze
import GS.OpsCpAnalyze
import GS.Props.C14_CpLemmas
import GS.Props.C14_CpAnalyze
import GS.Model.MusFixed
import GS.Props.C07_MaxSatFixed
import GS.Props.C14_CpAsserting
import GS.Model.EnumRound
import GS.Props.C05_EnumRound
import GS.OpsEnumRound
import GS.Model.Assume
import GS.Props.C10_Assume
import GS.OpsAssume
import GS.Model.SolverPrint
import GS.Props.C18_SolverPrint
import GS.OpsSolverPrint
import GS.Model.OpbFull
import GS.Props.C13_OpbFull
import GS.OpsOpbFull
import GS.Model.TrailPb
import GS.Props.C02_TrailPb
import GS.OpsTrailPb
import GS.Model.Queue
import GS.OpsQueue
import GS.Props.C01_Queue
import GS.Model.CnfBytes
import GS.OpsCnfBytes
import GS.Props.C13_CnfBytes
import GS.Model.PbProp
import GS.OpsPbProp
import GS.Props.C02_PbPropSwap
import GS.Props.C02_PbProp
import GS.Model.Watch
import GS.OpsWatch
import GS.Props.C01_Watch
import GS.Props.C01_WatchDyn
import GS.Props.C01_WatchLoop
import GS.Props.C01_WatchPropagate
import GS.Props.C01_WatchInit
import GS.Props.C01_WatchTrail
import GS.Model.Search
import GS.OpsSearch
import GS.Props.C01_Search
import GS.Props.C02_PbPropBridge
import GS.Props.C02_PbPropSame
import GS.Props.C02_PbPropWatch
import GS.Props.C02_PbPropCardWatch
import GS.Generated.IntCode
import GS.Model.IntCodeSem
import GS.Props.C01_IntCode
import GS.Model.Luby
import GS.OpsIntCode
import GS.Model.TextBytes
import GS.OpsTextBytes
import GS.Props.C13_TextBytes
import GS.Model.BfLex
import GS.OpsBfLex
import GS.Props.C17_BfLex
import GS.Model.WatchLevels
import GS.Props.C01_WatchLevels
import GS.Props.C01_WatchLevelsLoop
