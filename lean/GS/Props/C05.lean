import GS.Check.Brute
/-!
# C05 — Model counting and enumeration are exact

The oracle that judges the implementation's answers for this property in the harness is
`modelsOver` / `bruteCount` of `GS.Check.Brute` (`mem_modelsOver`, `modelsOver_nodup`: the models
over `1..n`, each once).  The theorems about the mirror of `Enumerate` / `CountModels` are in
`GS/Props/C05_Enum.lean` and `GS/Props/C05_EnumRound.lean`.
-/
namespace GS
end GS
