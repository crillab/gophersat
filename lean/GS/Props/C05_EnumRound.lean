import GS.Model.EnumRound
import GS.Props.C05_Enum
import GS.Props.C01_Trail
/-!
# C05 — one concrete round of `Enumerate` / `CountModels` meets the contract of `enum_exact`

`GS.Props.C05_Enum` proves `enum_exact` for the enumeration loop over an abstract per-round
`Contract`.  Here the pieces of `solver.go` that implement one round, mirrored line by line in
`GS.Model.EnumRound`, are proved to meet it.

* `addCurrentModels` / `countCurrentModels` on the Go array `s.lastModel`: below 64 unbound
  variables the Go expansion **is** `GS.Enum.expand`, same order (`expandGo_eq_expand`); from 64
  on nothing is delivered (`expandGo_overflow`).
* `decisionLits` does not panic in a reachable state and returns the negated decisions, deepest
  first (`decisionLits_eq`; cell by cell: `DecisionLitsSpec`).
* `round_contract`: the pair (model, negated `decisionLits`) satisfies `GS.Enum.Contract`; the
  `Sat` answer ("every completion of the current model satisfies the problem") is the hypothesis
  `hsat`.  `enum_exact_concrete` is `enum_exact` for a search that answers in such states.
* `block_assert_enabled`: the `default:` branch is an accepted `assertLearned` (the blocking
  clause is unit on its first literal after the cut at `lvl - 1`).
-/
namespace GS.EnumRound
open GS GS.Analyze GS.Trail GS.Enum

theorem testBit_guard (i j : Nat) (hi : i < 2 ^ 64) :
    (decide (j < 64) && i.testBit j) = i.testBit j := by
  by_cases hj : j < 64
  · simp [hj]
  · have : i < 2 ^ j := Nat.lt_of_lt_of_le hi (Nat.pow_le_pow_right (by omega) (by omega))
    simp [hj, Nat.testBit_lt_two_pow this]

theorem toOpt_zero (m : List Int) : toOpt (0 :: m) = none :: toOpt m := rfl

theorem toOpt_cons {x : Int} (hx : x ≠ 0) (m : List Int) :
    toOpt (x :: m) = some (decide (x > 0)) :: toOpt m := by
  unfold toOpt
  rw [List.map_cons, if_neg hx]

/-- One pass of the inner loop over the Go slice (`pre` = the part already passed) is the abstract
    `fillFrom`, whatever the slice held at the unbound positions. -/
theorem setUnbound_eq (i : Nat) (hi : i < 2 ^ 64) : ∀ (m : List Int) (j : Nat) (pre cur : List Bool),
    agreesB (toOpt m) cur = true →
    setUnbound i j (unboundFrom pre.length m) (pre ++ cur) = pre ++ fillFrom i j (toOpt m) := by
  intro m
  induction m with
  | nil =>
    intro j pre cur h
    cases cur with
    | nil => rfl
    | cons _ _ => cases h
  | cons x m ih =>
    intro j pre cur h
    by_cases hx : x = 0
    · subst hx
      rw [toOpt_zero] at h ⊢
      match cur, h with
      | c :: cur, h =>
        have := ih (j + 1) (pre ++ [i.testBit j]) cur h
        rw [List.length_append, List.length_singleton, List.append_assoc, List.append_assoc,
          List.singleton_append, List.singleton_append] at this
        rw [unboundFrom, if_pos rfl, setUnbound, List.set_append_right _ _ (Nat.le_refl _),
          Nat.sub_self, List.set_cons_zero, testBit_guard i j hi, fillFrom, this]
    · rw [toOpt_cons hx] at h ⊢
      match cur, h with
      | c :: cur, h =>
        rw [agreesB, Bool.and_eq_true, beq_iff_eq] at h
        have := ih j (pre ++ [c]) cur h.2
        rw [List.length_append, List.length_singleton, List.append_assoc, List.append_assoc,
          List.singleton_append, List.singleton_append] at this
        rw [unboundFrom, if_neg hx, fillFrom, h.1, this]

theorem agreesB_base : ∀ (m : List Int), agreesB (toOpt m) (baseModel m) = true
  | [] => rfl
  | x :: m => by
    by_cases hx : x = 0
    · subst hx; exact agreesB_base m
    · rw [toOpt_cons hx, baseModel, List.map_cons, agreesB, beq_self_eq_true]
      exact agreesB_base m

theorem agreesB_fillFrom (m : List (Option Bool)) (i j : Nat) : agreesB m (fillFrom i j m) = true := by
  rw [fillFrom_eq_fill]; exact agreesB_fill m _

theorem expandLoop_eq (m : List Int) : ∀ (is : List Nat) (cur : List Bool),
    (∀ i ∈ is, i < 2 ^ 64) → agreesB (toOpt m) cur = true →
    expandLoop (unboundFrom 0 m) is cur = is.map (fun i => fillFrom i 0 (toOpt m)) := by
  intro is
  induction is with
  | nil => intro cur _ _; rfl
  | cons i is ih =>
    intro cur hlt h
    have e : setUnbound i 0 (unboundFrom 0 m) cur = fillFrom i 0 (toOpt m) :=
      setUnbound_eq i (hlt i List.mem_cons_self) m 0 [] cur h
    simp only [expandLoop, List.map_cons, e]
    rw [ih _ (fun i' hi' => hlt i' (List.mem_cons_of_mem _ hi')) (agreesB_fillFrom _ _ _)]

theorem nbGo_fold : ∀ (m : List Int) (acc : Nat), acc < 2 ^ 64 →
    m.foldl (fun nb lvl => if lvl = 0 then nb * 2 % 2 ^ 64 else nb) acc =
      acc * 2 ^ nbUnbound (toOpt m) % 2 ^ 64 := by
  intro m
  induction m with
  | nil => intro acc h; rw [List.foldl_nil, toOpt, List.map_nil, nbUnbound, Nat.pow_zero, Nat.mul_one, Nat.mod_eq_of_lt h]
  | cons x m ih =>
    intro acc h
    by_cases hx : x = 0
    · subst hx
      rw [List.foldl_cons, if_pos rfl, ih _ (Nat.mod_lt _ (by decide)), toOpt_zero,
        nbUnbound, Nat.mod_mul_mod, @Nat.pow_succ 2 (nbUnbound (toOpt m)), Nat.mul_assoc, Nat.mul_comm 2]
    · rw [List.foldl_cons, if_neg hx, toOpt_cons hx, nbUnbound]
      exact ih acc h

theorem nbGo_eq (m : List Int) : nbGo m = 2 ^ nbUnbound (toOpt m) % 2 ^ 64 := by
  rw [nbGo, nbGo_fold m 1 (by decide), Nat.one_mul]

theorem expandGo_eq_range (m : List Int) :
    expandGo m = (List.range (2 ^ nbUnbound (toOpt m) % 2 ^ 64)).map
      (fun i => fillFrom i 0 (toOpt m)) := by
  unfold expandGo
  rw [nbGo_eq, expandLoop_eq m _ _
    (fun i hi => Nat.lt_trans (List.mem_range.1 hi) (Nat.mod_lt _ (by decide))) (agreesB_base m)]

theorem expandGo_eq_expand (m : List Int) (h : nbUnbound (toOpt m) < 64) :
    expandGo m = expand (toOpt m) := by
  rw [expandGo_eq_range, Nat.mod_eq_of_lt (Nat.pow_lt_pow_right (by omega) h)]
  rfl

/-- With 64 unbound variables or more the counter wraps to 0 and **nothing is delivered**. -/
theorem expandGo_overflow (m : List Int) (h : 64 ≤ nbUnbound (toOpt m)) : expandGo m = [] := by
  rw [expandGo_eq_range]
  have : 2 ^ nbUnbound (toOpt m) % 2 ^ 64 = 0 :=
    Nat.mod_eq_zero_of_dvd (Nat.pow_dvd_pow 2 h)
  rw [this]; rfl

theorem countGo_eq (m : List Int) : countGo m = countCurrentGo (toOpt m) := by
  unfold countGo toInt64 countCurrentGo
  rw [nbGo_eq]

theorem toOpt_getElem? (m : List Int) (i : Nat) :
    (toOpt m)[i]? = (m[i]?).map fun x => if x = 0 then none else some (decide (x > 0)) :=
  List.getElem?_map

theorem length_toOpt (m : List Int) : (toOpt m).length = m.length := by simp [toOpt]

/-- **`addCurrentModels` / `countCurrentModels` are exact below 64 unbound variables**; the
    returned count (`uint64` read as `int`) only with at most 62. -/
theorem expand_models_spec (m : List Int) (h : nbUnbound (toOpt m) < 64) :
    expandGo m = expand (toOpt m) ∧
    (expandGo m).length = 2 ^ nbUnbound (toOpt m) ∧ (expandGo m).Nodup ∧
    (∀ bs, bs ∈ expandGo m ↔
      (bs.length = m.length ∧ ∀ (i : Nat) (x : Int), m[i]? = some x → x ≠ 0 →
        bs[i]? = some (decide (x > 0)))) ∧
    (nbUnbound (toOpt m) ≤ 62 → countGo m = ((expandGo m).length : Int)) := by
  have he := expandGo_eq_expand m h
  have hs := expand_spec (toOpt m)
  refine ⟨he, by rw [he]; exact hs.1, by rw [he]; exact hs.2.1, ?_, ?_⟩
  · intro bs
    rw [he, hs.2.2.1 bs, length_toOpt]
    constructor
    · rintro ⟨h1, h2⟩
      exact ⟨h1, fun i x hx hx0 => h2 i _ (by
        rw [toOpt_getElem?, hx, Option.map_some, if_neg hx0])⟩
    · rintro ⟨h1, h2⟩
      refine ⟨h1, fun i b hb => ?_⟩
      rw [toOpt_getElem?] at hb
      obtain ⟨x, hx, hxb⟩ := Option.map_eq_some_iff.1 hb
      by_cases hx0 : x = 0
      · rw [if_pos hx0] at hxb; cases hxb
      · rw [if_neg hx0] at hxb; cases hxb
        exact h2 i x hx hx0
  · intro h62
    rw [countGo_eq, (countCurrentGo_exact_iff _).2 h62, he, hs.1]; rfl

/-- Assumptions live at level 1 (`Assume` binds them before any decision). -/
def AssumedTop (s : State) : Prop := ∀ e ∈ s.es, e.assumed = true → e.lvl = 1

def VarsLe (n : Nat) (es : List Entry) : Prop := ∀ e ∈ es, e.var ≤ n

/-- No assumption on the trail (`Enumerate` / `CountModels` called without `Assume`). -/
def NoAssumed (s : State) : Prop := ∀ e ∈ s.es, e.assumed = false

def notAssume : Op → Prop
  | .assume _ => False
  | _ => True

theorem NoAssumed.top {s : State} (h : NoAssumed s) : AssumedTop s := by
  intro e he ha; rw [h e he] at ha; cases ha

theorem AssumedTop.not_assumed {s : State} (ha : AssumedTop s) {e : Entry} (he : e ∈ s.es)
    (h2 : 2 ≤ e.lvl) : e.assumed = false := by
  cases hx : e.assumed with
  | false => rfl
  | true => have := ha e he hx; omega

theorem step_preserves_assumedTop {s s' : State} {o : Op} (h : AssumedTop s)
    (hs : step s o = some s') : AssumedTop s' := by
  intro e he hx
  rcases step_mem hs he with h' | h' | h'
  · exact h e h' hx
  · rw [h'] at hx; cases hx
  · exact h'.1

theorem step_preserves_noAssumed {s s' : State} {o : Op} (h : NoAssumed s) (ho : notAssume o)
    (hs : step s o = some s') : NoAssumed s' := by
  intro e he
  rcases step_mem hs he with h' | h' | ⟨_, l, rfl⟩
  · exact h e h'
  · exact h'
  · exact ho.elim

theorem run_preserves_noAssumed (ops : List Op) {s s' : State} (h : NoAssumed s)
    (ho : ∀ o ∈ ops, notAssume o) (hr : run s ops = some s') : NoAssumed s' :=
  run_induction ops (fun o hmem _ _ ht hs => step_preserves_noAssumed ht (ho o hmem) hs) h hr

theorem reachable_assumedTop {ops : List Op} {s : State} (hrun : run empty ops = some s) :
    AssumedTop s :=
  run_induction ops (fun _ _ _ _ ht hs => step_preserves_assumedTop ht hs)
    (fun e he => by cases he) hrun

theorem decision_eq {s : State} (hi : Inv s) (ha : AssumedTop s) {e1 e2 : Entry} (h1 : e1 ∈ s.es)
    (h2 : e2 ∈ s.es) (hr1 : e1.reason = none) (hr2 : e2.reason = none) (hk : 2 ≤ e1.lvl)
    (hl : e1.lvl = e2.lvl) : e1 = e2 :=
  decision_unique hi hk h1 h2 hr1 (ha.not_assumed h1 hk) rfl hr2
    (ha.not_assumed h2 (hl ▸ hk)) hl.symm

theorem modelOf_length (n : Nat) (es : List Entry) : (modelOf n es).length = n := by
  simp [modelOf]

theorem modelOf_getElem? {n : Nat} (es : List Entry) {i : Nat} (h : i < n) :
    (modelOf n es)[i]? = some (modelAt es (i + 1)) := by
  simp [modelOf, List.getElem?_map, List.getElem?_range h]

theorem modelAt_of_mem {es : List Entry} (hnd : es.Pairwise (fun x y => x.var ≠ y.var))
    {e : Entry} (he : e ∈ es) :
    modelAt es e.var = if e.lit > 0 then (e.lvl : Int) else -(e.lvl : Int) := by
  unfold modelAt; rw [findVar_of_mem hnd he]

theorem var_pos {e : Entry} (h : e.lit ≠ 0) : 1 ≤ e.var := by
  unfold Entry.var; omega

theorem natAbs_signed (c : Prop) [Decidable c] (k : Nat) :
    (if c then (k : Int) else -(k : Int)).natAbs = k := by
  split <;> omega

/-- `abs(s.model[lit.Var()])` for a trail literal is its level. -/
theorem natAbs_modelOf_var {n : Nat} {es : List Entry}
    (hnd : es.Pairwise (fun x y => x.var ≠ y.var)) {e : Entry} (he : e ∈ es) (h0 : e.lit ≠ 0)
    (hn : e.var ≤ n) : (((modelOf n es)[e.var - 1]?).getD 0).natAbs = e.lvl := by
  have h1 := var_pos h0
  rw [modelOf_getElem? es (by omega : e.var - 1 < n), Nat.sub_add_cancel h1, Option.getD_some,
    modelAt_of_mem hnd he, natAbs_signed]

theorem dlStep_skip {es : List Entry} {n t : Nat} (ht : t < n) (lits : List Int)
    (h : ∀ e, findVar es (t + 1) = some e → e.reason = none → e.lvl ≤ 1) :
    dlStep es (modelOf n es) (some lits) t = some lits := by
  simp only [dlStep, modelOf_getElem? es ht, Option.getD_some, modelAt, reasonOf]
  cases hf : findVar es (t + 1) with
  | none => rfl
  | some e =>
    simp only [natAbs_signed]
    rw [if_neg]
    intro hc
    simp only [Bool.and_eq_true, Option.isNone_iff_eq_none, decide_eq_true_eq] at hc
    have := h e hf hc.1
    omega

/-- `hlen` is `idx ≥ 0` (the Go code panics otherwise). -/
theorem dlStep_decision {es : List Entry} {n t : Nat} (ht : t < n) {lits : List Int} {e : Entry}
    (hf : findVar es (t + 1) = some e) (hr : e.reason = none) (h2 : 2 ≤ e.lvl)
    (hlen : e.lvl ≤ lits.length + 1) :
    dlStep es (modelOf n es) (some lits) t =
      some (lits.set (lits.length + 1 - e.lvl) (-e.lit)) := by
  have hv : e.lit.natAbs = t + 1 := (findVar_some hf).2
  have hval : (if (if e.lit > 0 then (e.lvl : Int) else -(e.lvl : Int)) < 0 then ((t : Int) + 1)
      else -((t : Int) + 1)) = -e.lit := by
    by_cases hp : e.lit > 0
    · rw [if_pos hp, if_neg (by omega)]; omega
    · rw [if_neg hp, if_pos (by omega)]; omega
  simp only [dlStep, modelOf_getElem? es ht, Option.getD_some, modelAt, reasonOf, hf,
    natAbs_signed, hr, Option.isNone_none, Bool.true_and, hval]
  rw [if_pos (decide_eq_true (show 1 < e.lvl from h2)), if_pos (by omega),
    show lits.length - 1 - (e.lvl - 2) = lits.length + 1 - e.lvl by omega]

theorem negDecisions_pos {s : State} (hi : Inv s) (hd : HasDecisions s) (ha : AssumedTop s) :
    ((decisions s).reverse.map (-·)).length = s.lvl - 1 ∧
    ∀ e ∈ s.es, e.reason = none → 2 ≤ e.lvl →
      ((decisions s).reverse.map (-·))[s.lvl - e.lvl]? = some (-e.lit) := by
  have hl := decEntries_lvl hi hd
  have hlen : (decEntries s).length = s.lvl - 1 := by
    have := congrArg List.length hl
    rwa [List.length_map, List.length_range'] at this
  rw [show decisions s = (decEntries s).map (·.lit) from rfl, ← List.map_reverse, List.map_map]
  refine ⟨by rw [List.length_map, List.length_reverse, hlen], fun e he hr h2 => ?_⟩
  -- `e` is the `i`-th decision, of level `2 + i`
  obtain ⟨i, hi', hget⟩ :=
    List.getElem_of_mem (mem_decEntries.2 ⟨he, hr, ha.not_assumed he h2, h2⟩)
  have hlv : e.lvl = 2 + 1 * i := by
    have := List.getElem_map (·.lvl) (l := decEntries s) (i := i) (h := by rwa [List.length_map])
    rw [hget] at this
    rw [← this]
    simp only [hl, List.getElem_range']
  rw [hlen] at hi'
  have hb := hi.trail.bound e he
  rw [List.getElem?_map, List.getElem?_reverse' (j := i) (by omega),
    List.getElem?_eq_getElem (by omega), hget]
  rfl

/-- Iteration `t` of the loop writes cell `j`. -/
def DlWrites (s : State) (t j : Nat) : Prop :=
  ∃ e, findVar s.es (t + 1) = some e ∧ e.reason = none ∧ 2 ≤ e.lvl ∧ j = s.lvl - e.lvl

/-- The loop of `decisionLits` from any iteration on, for a target `T` that holds the negated
    decision of level `k` in cell `lvl - k`: every write puts the target's value, so if the cells
    that no variable still ahead writes are right already, the loop ends on `T`.  That two
    decisions never share a cell is not needed. -/
theorem dlFold_eq {s : State} {n : Nat} {T : List Int} (hb : ∀ e ∈ s.es, e.lvl ≤ s.lvl)
    (hT : ∀ e ∈ s.es, e.reason = none → 2 ≤ e.lvl → T[s.lvl - e.lvl]? = some (-e.lit)) :
    ∀ (ts : List Nat) (lits : List Int), (∀ t ∈ ts, t < n) → lits.length = s.lvl - 1 →
      (∀ j, (∀ t ∈ ts, ¬ DlWrites s t j) → lits[j]? = T[j]?) →
      ts.foldl (dlStep s.es (modelOf n s.es)) (some lits) = some T
  | [], lits, _, _, h => congrArg some (List.ext_getElem? fun j => h j fun _ ht => nomatch ht)
  | t :: ts, lits, hts, hlen, h => by
    obtain ⟨ht, hts'⟩ := List.forall_mem_cons.1 hts
    rw [List.foldl_cons]
    by_cases hdec : ∃ e0, findVar s.es (t + 1) = some e0 ∧ e0.reason = none ∧ 2 ≤ e0.lvl
    · obtain ⟨e0, hf, hr0, h20⟩ := hdec
      have he0 := (findVar_some hf).1
      have hb0 := hb e0 he0
      rw [dlStep_decision ht hf hr0 h20 (by omega), hlen,
        show s.lvl - 1 + 1 - e0.lvl = s.lvl - e0.lvl by omega]
      refine dlFold_eq hb hT ts _ hts' (by rw [List.length_set]; exact hlen) fun j hj => ?_
      by_cases hne : s.lvl - e0.lvl = j
      · rw [← hne, List.getElem?_set_self (by omega), hT e0 he0 hr0 h20]
      · rw [List.getElem?_set_ne hne]
        exact h j (List.forall_mem_cons.2 ⟨fun ⟨e, hf', _, _, hj'⟩ =>
          hne (by cases hf.symm.trans hf'; exact hj'.symm), hj⟩)
    · rw [dlStep_skip ht lits fun e0 hf hr0 => Nat.le_of_not_lt fun h2 => hdec ⟨e0, hf, hr0, h2⟩]
      exact dlFold_eq hb hT ts lits hts' hlen fun j hj => h j (List.forall_mem_cons.2
        ⟨fun ⟨e, hf', hr, h2, _⟩ => hdec ⟨e, hf', hr, h2⟩, hj⟩)

/-- **`decisionLits` returns the negated decisions, deepest first** (and does not panic). -/
theorem decisionLits_eq {s : State} (n : Nat) (hi : Inv s) (hd : HasDecisions s)
    (ha : AssumedTop s) (hv : VarsLe n s.es) :
    decisionLits s.es (modelOf n s.es) = some ((decisions s).reverse.map (-·)) := by
  unfold decisionLits
  cases hl : s.es.getLast? with
  | none => rw [decisions, List.getLast?_eq_none_iff.1 hl]; rfl
  | some last =>
    obtain ⟨hmem, hlv⟩ := last_lvl hi hd hl
    have hpos := hi.lvl_pos
    obtain ⟨hlenT, hT⟩ := negDecisions_pos hi hd ha
    simp only [natAbs_modelOf_var hi.trail.nodup hmem (hi.trail.nonzero last hmem) (hv last hmem),
      hlv, modelOf_length]
    rw [if_neg (by omega)]
    refine dlFold_eq hi.trail.bound hT _ _ (fun t => List.mem_range.1) List.length_replicate
      fun j hj => ?_
    by_cases hj' : j < s.lvl - 1
    · -- cell `j` is written: by the variable of the decision of level `lvl - j`
      obtain ⟨e, he, hek, hr, _⟩ := hd (s.lvl - j) (by omega) (Nat.sub_le _ _)
      have h1 := var_pos (hi.trail.nonzero e he)
      have hn := hv e he
      refine absurd ⟨e, ?_, hr, by omega, by omega⟩ (hj (e.var - 1) (List.mem_range.2 (by omega)))
      rw [Nat.sub_add_cancel h1]
      exact findVar_of_mem hi.trail.nodup he
    · rw [List.getElem?_eq_none (by rw [List.length_replicate]; omega),
        List.getElem?_eq_none (by rw [hlenT]; omega)]

/-- What `decisionLits` returns in state `s`. -/
structure DecisionLitsSpec (s : State) (lits : List Int) : Prop where
  length : lits.length = s.lvl - 1
  /-- position `lvl - k` holds the negation of the decision of level `k` (deepest first) -/
  pos : ∀ k, 2 ≤ k → k ≤ s.lvl → ∃ e ∈ s.es, e.lvl = k ∧ e.reason = none ∧ e.assumed = false ∧
    lits[s.lvl - k]? = some (-e.lit)
  mem : ∀ l, l ∈ lits ↔ -l ∈ decisions s
  nodup : lits.Nodup
  nil_iff : lits = [] ↔ decisions s = []

theorem negDecisions_spec {s : State} (hi : Inv s) (hd : HasDecisions s) (ha : AssumedTop s) :
    DecisionLitsSpec s ((decisions s).reverse.map (-·)) := by
  obtain ⟨hlen, hP⟩ := negDecisions_pos hi hd ha
  refine ⟨hlen, fun k h2 hle => ?_, fun l => ?_, ?_, ?_⟩
  · obtain ⟨e, he, hek, hr, hae⟩ := hd k h2 hle
    exact ⟨e, he, hek, hr, hae, hek ▸ hP e he hr (by omega)⟩
  · rw [List.mem_map]
    exact ⟨fun ⟨d, hd', e⟩ => e ▸ (Int.neg_neg d).symm ▸ List.mem_reverse.1 hd',
      fun h => ⟨-l, List.mem_reverse.2 h, Int.neg_neg l⟩⟩
  · refine List.pairwise_map.2 (List.pairwise_reverse.2 (List.pairwise_map.2
      (((hi.trail.nodup.sublist List.filter_sublist)).imp fun hv hl => ?_)))
    exact hv (by unfold Entry.var; omega)
  · rw [List.map_eq_nil_iff, List.reverse_eq_nil_iff]

/-- `decisionLits_eq` with the list read cell by cell; `= some lits`: the Go code does not panic. -/
theorem decisionLits_spec {s : State} (n : Nat) (hi : Inv s) (hd : HasDecisions s)
    (ha : AssumedTop s) (hv : VarsLe n s.es) :
    ∃ lits, decisionLits s.es (modelOf n s.es) = some lits ∧ DecisionLitsSpec s lits :=
  ⟨_, decisionLits_eq n hi hd ha hv, negDecisions_spec hi hd ha⟩

theorem reachable_decisionLits {ops : List Op} {s : State} (n : Nat)
    (hrun : run empty ops = some s) (hv : VarsLe n s.es) :
    ∃ lits, decisionLits s.es (modelOf n s.es) = some lits ∧ DecisionLitsSpec s lits :=
  decisionLits_spec n (reachable_inv hrun) (reachable_hasDecisions hrun)
    (reachable_assumedTop hrun) hv

theorem toOpt_modelOf_getElem? {n : Nat} {es : List Entry} (hpos : ∀ e ∈ es, 1 ≤ e.lvl) {i : Nat}
    (h : i < n) :
    (toOpt (modelOf n es))[i]? = some ((findVar es (i + 1)).map fun e => decide (e.lit > 0)) := by
  rw [toOpt, List.getElem?_map, modelOf_getElem? es h, Option.map_some, modelAt]
  cases hf : findVar es (i + 1) with
  | none => rfl
  | some e =>
    have := hpos e (findVar_some hf).1
    by_cases hp : e.lit > 0
    · simp only [hp, if_true, Option.map_some, decide_true]
      rw [if_neg (by omega), decide_eq_true (by omega)]
    · simp only [hp, if_false, Option.map_some, decide_false]
      rw [if_neg (by omega), decide_eq_false (by omega)]

theorem agrees_iff_trail {s : State} {n : Nat} (hi : Inv s) (hv : VarsLe n s.es) (bs : List Bool)
    (hlen : bs.length = n) :
    agreesB (toOpt (modelOf n s.es)) bs = true ↔ ∀ e ∈ s.es, litTrue (asgOf bs) e.lit = true := by
  rw [agreesB_iff, length_toOpt, modelOf_length]
  constructor
  · rintro ⟨_, h⟩ e he
    obtain ⟨v, hv1⟩ : ∃ v, e.lit.natAbs = v + 1 :=
      ⟨_, (Nat.sub_add_cancel (var_pos (hi.trail.nonzero e he))).symm⟩
    have h2 : e.lit.natAbs ≤ n := hv e he
    rw [litTrue_asgOf_iff hv1 (by omega)]
    refine h _ _ ?_
    rw [toOpt_modelOf_getElem? hi.lvls_pos (by omega), ← hv1]
    exact congrArg some (congrArg (Option.map _) (findVar_of_mem hi.trail.nodup he))
  · intro h
    refine ⟨hlen, fun i b hb => ?_⟩
    have hin : i < n := Nat.lt_of_not_le fun hle => by
      rw [List.getElem?_eq_none (by rw [length_toOpt, modelOf_length]; exact hle)] at hb; cases hb
    rw [toOpt_modelOf_getElem? hi.lvls_pos hin] at hb
    cases hf : findVar s.es (i + 1) with
    | none => rw [hf] at hb; cases hb
    | some e =>
      rw [hf] at hb
      obtain ⟨he, hev⟩ := findVar_some hf
      obtain rfl : decide (e.lit > 0) = b := Option.some.inj (Option.some.inj hb)
      exact (litTrue_asgOf_iff hev (by omega)).1 (h e he)

def EntailedOver (n : Nat) (p : Problem) (c : List Int) : Prop :=
  ∀ bs ∈ modelsOver n p, clauseTrue (asgOf bs) c = true

theorem neg_map_neg (lits : List Int) : negLits (lits.map (fun l => -l)) = lits := by
  rw [negLits, List.map_map]
  exact (List.map_congr_left fun l _ => Int.neg_neg l).trans (List.map_id lits)

theorem roundPair_eq (es : List Entry) (model lits : List Int)
    (h : decisionLits es model = some lits) :
    roundPair es model = some (toOpt model, lits.map (fun l => -l)) := by
  unfold roundPair; rw [h]

/-- **The concrete round meets the per-round contract of `enum_exact`.**

Hypotheses, all on the state `s` in which `search` answered `Sat` on problem `p` (`n` variables):
* `hi`, `hd` : invariant of the trail machine and one decision per level (`reachable_inv`,
  `reachable_hasDecisions`: true in every reachable state);
* `hna` : no assumption; `hv` : trail variables among `1..n`;
* `hsrc` : antecedents and level-1 facts hold in every model of `p` over `1..n` (clauses of the
  problem, learned clauses, blocking clauses, learned units);
* `hsat` : **what the `Sat` answer means** — every completion of the current partial model
  satisfies `p`.  This is the hypothesis the search provides; it is not proved here.

The pair `(m, D)` handed to the abstract loop is (current model, negated `decisionLits`), so that
the blocking clause `negLits D` is the Go slice literal for literal. -/
theorem round_contract (n : Nat) (p : Problem) {s : State} (hi : Inv s) (hd : HasDecisions s)
    (hna : NoAssumed s) (hv : VarsLe n s.es)
    (hsrc : Sourced (EntailedOver n p) s)
    (hsat : ∀ bs, agreesB (toOpt (modelOf n s.es)) bs = true → Problem.holds (asgOf bs) p = true) :
    ∃ lits, decisionLits s.es (modelOf n s.es) = some lits ∧ DecisionLitsSpec s lits ∧
      roundPair s.es (modelOf n s.es) = some (toOpt (modelOf n s.es), lits.map (fun l => -l)) ∧
      negLits (lits.map (fun l => -l)) = lits ∧
      ∀ step : Step, step p = roundPair s.es (modelOf n s.es) → Contract n step p := by
  have hres := decisionLits_eq n hi hd hna.top hv
  have hpair := roundPair_eq _ _ _ hres
  have hlenm : (toOpt (modelOf n s.es)).length = n := by rw [length_toOpt, modelOf_length]
  -- the list handed to the abstract loop is `(decisions s).reverse`
  have hD : ∀ d, d ∈ ((decisions s).reverse.map (-·)).map (-·) ↔ d ∈ decisions s :=
    fun d => by rw [← negLits, neg_map_neg, List.mem_reverse]
  refine ⟨_, hres, negDecisions_spec hi hd hna.top, hpair, neg_map_neg _, fun step hstep =>
    .of_some (hstep.trans hpair) (fun bs hag => ?_) (fun d hd' => ?_) (fun bs hb hall => ?_)⟩
  · have hl : bs.length = n := by rw [agreesB_length _ _ hag, hlenm]
    refine ⟨(mem_modelsOver n p bs).2 ⟨hl, hsat bs hag⟩, ?_⟩
    unfold allTrue
    rw [List.all_eq_true]
    intro d hd'
    obtain ⟨e, he, hel, _⟩ := mem_decisions.1 ((hD d).1 hd')
    rw [← hel]
    exact (agrees_iff_trail hi hv bs hl).1 hag e he
  · obtain ⟨e, he, hel, _⟩ := mem_decisions.1 ((hD d).1 hd')
    rw [← hel]; exact hi.trail.nonzero e he
  · have hl : bs.length = n := ((mem_modelsOver n p bs).1 hb).1
    rw [agrees_iff_trail hi hv bs hl]
    unfold allTrue at hall
    rw [List.all_eq_true] at hall
    refine sourced_entailed hi hsrc (asgOf bs) (fun c hc => hc bs hb) fun l hl' => ?_
    rcases List.mem_append.1 hl' with hl' | hl'
    · exact hall l ((hD l).2 hl')
    · obtain ⟨e, he, _, _, ha⟩ := mem_assumptions.1 hl'
      rw [hna e he] at ha
      cases ha

/-- The `switch len(lits)`. -/
def nextOf : List Int → Next
  | [] => .finished
  | [l] => .unit l
  | ls => .clause ls

theorem nextOf_lits (lits : List Int) : (nextOf lits).lits = lits := by
  match lits with
  | [] => rfl
  | [_] => rfl
  | _ :: _ :: _ => rfl

theorem roundStep_eq (es : List Entry) (model : List Int) :
    roundStep es model =
      (decisionLits es model).map (fun lits => ⟨expandGo model, countGo model, nextOf lits⟩) := by
  unfold roundStep
  cases decisionLits es model with
  | none => rfl
  | some lits =>
    match lits with
    | [] => rfl
    | [_] => rfl
    | _ :: _ :: _ => rfl

/-- **One iteration of the abstract loop is `roundStep`** (below 64 unbound variables), with the
    literals of `decisionLits` in the Go order. -/
theorem enumLoop_round (step : Step) (fuel : Nat) (p : Problem) (es : List Entry)
    (model : List Int) (r : Round) (hs : step p = roundPair es model)
    (hr : roundStep es model = some r) (hk : nbUnbound (toOpt model) < 64) :
    enumLoop step (fuel + 1) p = r.models ++
      (match r.next with
       | .finished => []
       | .unit l => enumLoop step fuel (p ++ [Lin.ofClause [l]])
       | .clause ls => enumLoop step fuel (p ++ [Lin.ofClause ls])) := by
  rw [roundStep_eq] at hr
  cases hd : decisionLits es model with
  | none => rw [hd] at hr; cases hr
  | some lits =>
    rw [hd] at hr
    simp only [Option.map_some, Option.some.injEq] at hr
    subst hr
    rw [roundPair_eq _ _ _ hd] at hs
    simp only [enumLoop, hs, neg_map_neg, expandGo_eq_expand model hk]
    match lits with
    | [] => rfl
    | [_] => rfl
    | _ :: _ :: _ => rfl

/-- The search seen as an oracle that returns the state of the trail machine at a `Sat` answer
    (`none` = `Unsat`); the enumeration loop reads that state through `roundPair`. -/
def stepOf (n : Nat) (search : Problem → Option State) : Step := fun p =>
  match search p with
  | none => none
  | some s => roundPair s.es (modelOf n s.es)

/-- What is assumed of the search on problem `p`: the hypotheses of `round_contract` at a `Sat`
    answer, and completeness of an `Unsat` answer. -/
structure SearchOk (n : Nat) (search : Problem → Option State) (p : Problem) : Prop where
  unsat : search p = none → modelsOver n p = []
  inv : ∀ s, search p = some s → Inv s ∧ HasDecisions s ∧ NoAssumed s ∧ VarsLe n s.es
  sourced : ∀ s, search p = some s → Sourced (EntailedOver n p) s
  sat : ∀ s, search p = some s → ∀ bs, agreesB (toOpt (modelOf n s.es)) bs = true →
    Problem.holds (asgOf bs) p = true

theorem stepOf_contract {n : Nat} {search : Problem → Option State} {p : Problem}
    (h : SearchOk n search p) : Contract n (stepOf n search) p := by
  cases hs : search p with
  | none => exact .of_none (by rw [stepOf, hs]) (h.unsat hs)
  | some s =>
    obtain ⟨hi, hd, hna, hv⟩ := h.inv s hs
    obtain ⟨_, _, _, _, _, hc⟩ := round_contract n p hi hd hna hv (h.sourced s hs) (h.sat s hs)
    exact hc _ (by rw [stepOf, hs])

/-- **`enum_exact` applies to the concrete round**, given `SearchOk` on `F` extended by the
    blocking clauses.  `decisionLits` is the mirror of `GS.Model.EnumRound`; the expansion is the
    unbounded `GS.Enum.expand`, which is `addCurrentModels` only in rounds with fewer than 64
    unbound variables (`enumLoop_round`, `expandGo_overflow`). -/
theorem enum_exact_concrete (n : Nat) (search : Problem → Option State) (F : Problem)
    (h : ∀ bl, SearchOk n search (F ++ bl)) (fuel : Nat) (hf : countOver n F < fuel) :
    (enumLoop (stepOf n search) fuel F).Nodup ∧
    (∀ bs, bs ∈ enumLoop (stepOf n search) fuel F ↔ bs ∈ modelsOver n F) ∧
    (∀ bs, bs ∈ enumLoop (stepOf n search) fuel F →
      bs.length = n ∧ Problem.holds (asgOf bs) F = true) ∧
    (enumLoop (stepOf n search) fuel F).length = countOver n F ∧
    countLoop (stepOf n search) fuel F = countOver n F :=
  enum_exact n (stepOf n search) F (fun bl => stepOf_contract (h bl)) fuel hf

/-- `round_contract` with the state hypotheses discharged by reachability: `ops` is any sequence
    the trail machine accepts from the empty trail, without `assume`, whose antecedents and facts
    hold in every model of `p` over `1..n`. -/
theorem round_contract_reachable (n : Nat) (p : Problem) {ops : List Op} {s : State}
    (hrun : run empty ops = some s) (hops : ∀ o ∈ ops, OpOk (EntailedOver n p) o)
    (hna : ∀ o ∈ ops, notAssume o) (hv : VarsLe n s.es)
    (hsat : ∀ bs, agreesB (toOpt (modelOf n s.es)) bs = true → Problem.holds (asgOf bs) p = true) :
    ∃ lits, decisionLits s.es (modelOf n s.es) = some lits ∧ DecisionLitsSpec s lits ∧
      roundPair s.es (modelOf n s.es) = some (toOpt (modelOf n s.es), lits.map (fun l => -l)) ∧
      negLits (lits.map (fun l => -l)) = lits ∧
      ∀ step : Step, step p = roundPair s.es (modelOf n s.es) → Contract n step p :=
  round_contract n p (reachable_inv hrun) (reachable_hasDecisions hrun)
    (run_preserves_noAssumed ops (fun e he => by cases he) hna hrun) hv
    (run_preserves_sourced ops init_inv empty_sourced hops hrun) hsat

/-- **The blocking clause is unit after the backjump.**  With two decisions or more, the
    `default:` branch (`lit = lits[0]; lvl = abs(s.model[v]) - 1; cleanupBindings(lvl);
    s.reason[v] = c; propagateAndSearch(lit, lvl)`) is the machine operation
    `assertLearned lits[0] lits (lvl - 1)`, and the machine accepts it: after the cut at level
    `lvl - 1` the first literal (negation of the deepest decision) is unbound and all the others
    are false.  This is what the order "deepest decision first" of `decisionLits` is for. -/
theorem block_assert_enabled {s : State} (n : Nat) (hi : Inv s) (hd : HasDecisions s)
    (ha : AssumedTop s) (hv : VarsLe n s.es) {lits : List Int}
    (hres : decisionLits s.es (modelOf n s.es) = some lits) (h2 : 2 ≤ lits.length) :
    ∃ l s', lits.head? = some l ∧
      blockOp (modelOf n s.es) lits = some (.assertLearned l lits (s.lvl - 1)) ∧
      step s (.assertLearned l lits (s.lvl - 1)) = some s' ∧ s'.lvl = s.lvl - 1 ∧
      s'.es = s.es.filter (fun e => decide (e.lvl ≤ s.lvl - 1)) ++
        [⟨l, s.lvl - 1, false, some lits⟩] := by
  obtain ⟨l, l2, rest, rfl⟩ : ∃ l l2 rest, lits = l :: l2 :: rest :=
    match lits, h2 with
    | l :: l2 :: rest, _ => ⟨l, l2, rest, rfl⟩
  have hnd := hi.trail.nodup
  have spec := negDecisions_spec hi hd ha
  rw [Option.some.inj ((decisionLits_eq n hi hd ha hv).symm.trans hres)] at spec
  have hlen := spec.length
  -- the first literal negates the decision `et` of the current level
  obtain ⟨et, het, hetl, hetr, heta, hget⟩ := spec.pos s.lvl (by omega) (Nat.le_refl _)
  rw [Nat.sub_self] at hget
  have het0 := hi.trail.nonzero et het
  have hvar : (-et.lit).natAbs = et.var := Int.natAbs_neg _
  obtain rfl : -et.lit = l := Option.some.inj hget.symm
  have hcut : 1 ≤ s.lvl - 1 := by omega  -- `hlen`, `h2`: two literals, so two decisions
  refine ⟨_, _, rfl, ?_, assertLearned_accepts hi.trail.mono hcut (Nat.sub_le _ _)
    (Int.neg_ne_zero.2 het0) List.mem_cons_self (fun e he hev => ?_) (fun f hf hne => ?_), rfl, rfl⟩
  · simp only [blockOp, hvar, natAbs_modelOf_var hnd het het0 (hv et het), hetl]
  · rw [eq_of_var_eq hnd he het (hev.trans hvar)]
    omega
  · obtain ⟨e, he, hel, her, hea, he2⟩ := mem_decisions.1 ((spec.mem f).1 hf)
    have hb := hi.trail.bound e he
    refine ⟨e, he, hel, ?_⟩
    -- a decision of the current level would be `et`, and `f` the first literal
    false_or_by_contra
    have : e = et := decision_eq hi ha he het her hetr he2 (by omega)
    exact hne (by rw [← this]; omega)

/-- (1) No decision: fact `3`, propagation `-1`; `x2` is unbound.  Two models, enumeration over. -/
def ex1Ops : List Op := [.addFact 3, .propagate (-1) [-3, -1]]
def ex1 : State := ⟨1, [⟨3, 1, false, none⟩, ⟨-1, 1, false, some [-3, -1]⟩]⟩

example : run empty ex1Ops = some ex1 := by decide +kernel
example : modelOf 3 ex1.es = [-1, 0, 1] := by decide +kernel
example : decisionLits ex1.es (modelOf 3 ex1.es) = some [] := by decide +kernel
example : roundStep ex1.es (modelOf 3 ex1.es) =
    some ⟨[[false, false, true], [false, true, true]], 2, .finished⟩ := by decide +kernel

/-- (2) One decision (`-2`) with two propagations, a fact, and an unbound variable (`x3`):
    the blocking literal `2` is a unit, two models are delivered. -/
def ex2Ops : List Op := [.addFact 4, .decide (-2), .propagate 1 [2, 1], .propagate (-5) [-1, -5]]
def ex2 : State :=
  ⟨2, [⟨4, 1, false, none⟩, ⟨-2, 2, false, none⟩, ⟨1, 2, false, some [2, 1]⟩,
       ⟨-5, 2, false, some [-1, -5]⟩]⟩
def ex2P : Problem := [Lin.ofClause [4], Lin.ofClause [2, 1], Lin.ofClause [-1, -5]]

theorem ex2_run : run empty ex2Ops = some ex2 := by decide +kernel
example : run empty ex2Ops = some ex2 := ex2_run
example : modelOf 5 ex2.es = [2, -2, 0, 1, -2] := by decide +kernel
example : roundStep ex2.es (modelOf 5 ex2.es) =
    some ⟨[[true, false, false, true, false], [true, false, true, true, false]], 2, .unit 2⟩ := by
  decide +kernel
example : roundPair ex2.es (modelOf 5 ex2.es) =
    some ([some true, some false, none, some true, some false], [-2]) := by decide +kernel

/-- (3) Three levels of decisions (`6`, `1`, `-8`): the blocking clause lists the negated
    decisions deepest first; the `default:` branch backjumps to level 3 and asserts `8`. -/
def ex3Ops : List Op :=
  [.addFact 7, .decide 6, .decide 1, .propagate 2 [-1, 2], .propagate 3 [-1, 3],
   .propagate 4 [-2, -3, 4], .propagate 5 [-4, 5], .decide (-8), .propagate 9 [8, 9]]
def ex3 : State :=
  ⟨4, [⟨7, 1, false, none⟩, ⟨6, 2, false, none⟩, ⟨1, 3, false, none⟩,
       ⟨2, 3, false, some [-1, 2]⟩, ⟨3, 3, false, some [-1, 3]⟩,
       ⟨4, 3, false, some [-2, -3, 4]⟩, ⟨5, 3, false, some [-4, 5]⟩,
       ⟨-8, 4, false, none⟩, ⟨9, 4, false, some [8, 9]⟩]⟩

theorem ex3_run : run empty ex3Ops = some ex3 := by decide +kernel
example : run empty ex3Ops = some ex3 := ex3_run
example : modelOf 9 ex3.es = [3, 3, 3, 3, 3, 2, 1, -4, 4] := by decide +kernel
example : roundStep ex3.es (modelOf 9 ex3.es) =
    some ⟨[[true, true, true, true, true, true, true, false, true]], 1, .clause [8, -1, -6]⟩ := by
  decide +kernel
example : blockOp (modelOf 9 ex3.es) [8, -1, -6] = some (.assertLearned 8 [8, -1, -6] 3) := by
  decide +kernel
example : (step ex3 (.assertLearned 8 [8, -1, -6] 3)).map (fun s => (s.lvl, s.es.length, invB s)) =
    some (3, 8, true) := by decide +kernel

/-- A state the machine cannot reach (levels not monotone: a level-3 entry before the level-2
    one, hence a level *above* the last literal's): the Go code would index `lits[-1]`. -/
example : decisionLits [⟨1, 3, false, none⟩, ⟨2, 2, false, none⟩] [3, 2] = none := by decide +kernel

example : ∃ lits, decisionLits ex3.es (modelOf 9 ex3.es) = some lits ∧ DecisionLitsSpec ex3 lits :=
  reachable_decisionLits 9 ex3_run (by unfold VarsLe; decide +kernel)

example : ∃ l s', [8, -1, -6].head? = some l ∧
    blockOp (modelOf 9 ex3.es) [8, -1, -6] = some (.assertLearned l [8, -1, -6] (ex3.lvl - 1)) ∧
    step ex3 (.assertLearned l [8, -1, -6] (ex3.lvl - 1)) = some s' ∧ s'.lvl = ex3.lvl - 1 ∧
    s'.es = ex3.es.filter (fun e => decide (e.lvl ≤ ex3.lvl - 1)) ++
      [⟨l, ex3.lvl - 1, false, some [8, -1, -6]⟩] :=
  block_assert_enabled 9 (reachable_inv ex3_run) (reachable_hasDecisions ex3_run)
    (reachable_assumedTop ex3_run) (by unfold VarsLe; decide +kernel) (by decide +kernel) (by decide)

example : nbUnbound (toOpt (modelOf 5 ex2.es)) < 64 := by decide +kernel
set_option maxRecDepth 8192 in
example : countGo (List.replicate 63 0) = -9223372036854775808 ∧
    countGo (List.replicate 64 0) = 0 ∧ expandGo (List.replicate 64 0) = [] := by decide +kernel

/-- Hypotheses of `round_contract_reachable` on (2) with the problem `x4, x2 ∨ x1, ¬x1 ∨ ¬x5`
    over 5 variables: the run only uses clauses of the problem, and both completions of the
    current model satisfy it. -/
example : ∃ lits, decisionLits ex2.es (modelOf 5 ex2.es) = some lits ∧ DecisionLitsSpec ex2 lits ∧
    roundPair ex2.es (modelOf 5 ex2.es) = some (toOpt (modelOf 5 ex2.es), lits.map (fun l => -l)) ∧
    negLits (lits.map (fun l => -l)) = lits ∧
    ∀ step : Step, step ex2P = roundPair ex2.es (modelOf 5 ex2.es) → Contract 5 step ex2P := by
  have hc : ∀ c ∈ [[4], [2, 1], [-1, -5]], EntailedOver 5 ex2P c := by
    unfold EntailedOver; decide +kernel
  refine round_contract_reachable 5 ex2P ex2_run (opsFrom_opOk hc (by decide +kernel)) ?_
    (by unfold VarsLe; decide +kernel) ?_
  · intro o ho
    simp only [ex2Ops, List.mem_cons, List.not_mem_nil, or_false] at ho
    rcases ho with rfl | rfl | rfl | rfl <;> trivial
  · intro bs h
    exact (by decide +kernel : ∀ bs ∈ expand (toOpt (modelOf 5 ex2.es)),
      Problem.holds (asgOf bs) ex2P = true) bs ((mem_expand _ _).2 h)

/-- Why `round_contract` asks for `NoAssumed`: under `Assume` the loop enumerates the models *of
    the assumptions*; field `propagated` of the contract fails (no constraint, one variable,
    assumption `x1`: the model `[some true]` has no decision, yet `[false]` is a model of the
    problem). -/
example : ¬ (∀ bs ∈ modelsOver 1 [], allTrue bs [] = true → agreesB [some true] bs = true) := by
  decide +kernel

end GS.EnumRound

#print axioms GS.EnumRound.expandGo_eq_range
#print axioms GS.EnumRound.expandGo_eq_expand
#print axioms GS.EnumRound.expandGo_overflow
#print axioms GS.EnumRound.countGo_eq
#print axioms GS.EnumRound.expand_models_spec
#print axioms GS.EnumRound.decisionLits_spec
#print axioms GS.EnumRound.reachable_decisionLits
#print axioms GS.EnumRound.agrees_iff_trail
#print axioms GS.EnumRound.round_contract
#print axioms GS.EnumRound.round_contract_reachable
#print axioms GS.EnumRound.enumLoop_round
#print axioms GS.EnumRound.stepOf_contract
#print axioms GS.EnumRound.enum_exact_concrete
#print axioms GS.EnumRound.block_assert_enabled
