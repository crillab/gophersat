import GS.Model.Formats
import GS.Props.C02_Constr
import GS.Props.C04_MaxSat
/-!
# C13 / C18 — texts mean what their formats say; printed problems read back

Everything is stated on *lines of tokens* (`GS.Model.Formats`); the byte level is in
`GS.Props.C13_CnfBytes` and `GS.Props.C13_TextBytes`.

For each reader (`solver.ParseCNF`, `explain.ParseCNF`, `solver.ParseOPB`, `maxsat.ParseWCNF`) a
well-formed file is rendered with a free layout and the reader returns what the file denotes:
`parseCnf_render`, `explainParse_render`, `parseOpb_render`, `parseWcnf_render`. The two CNF readers
share `render_generic`. C18 (`cnf_print_parse`, `pb_print_parse`): `Problem.CNF()` and
`Problem.PBString()` print default renderings, so the same theorems apply.
-/
namespace GS.Formats
open GS GS.Constr

@[simp] theorem andThen_ok {α β : Type} (a : α) (f : α → Except String β) : andThen (.ok a) f = f a := rfl
@[simp] theorem andThen_error {α β : Type} (e : String) (f : α → Except String β) :
    andThen (.error e) f = .error e := rfl

theorem andThen_eq_ok {α β : Type} (x : Except String α) (f : α → Except String β) (b : β)
    (h : andThen x f = .ok b) : ∃ a, x = .ok a ∧ f a = .ok b := by
  cases x with
  | error e => simp at h
  | ok a => exact ⟨a, rfl, h⟩

/-! Both CNF parsers read integers one at a time (`step`) and treat a line of integer fields as
the sequence of its integers. -/

def feedG {σ : Type} (step : σ → Int → Except String σ) (st : σ) : List Int → Except String σ
  | [] => .ok st
  | v :: vs => andThen (step st v) (fun st' => feedG step st' vs)

def linesG {σ : Type} (toks : σ → Line → Except String σ) (st : σ) : List Line → Except String σ
  | [] => .ok st
  | l :: ls => andThen (toks st l) (fun st' => linesG toks st' ls)

theorem feedG_append {σ : Type} (step : σ → Int → Except String σ) :
    ∀ (xs ys : List Int) (st : σ),
      feedG step st (xs ++ ys) = andThen (feedG step st xs) (fun st' => feedG step st' ys) := by
  intro xs
  induction xs with
  | nil => intro ys st; rfl
  | cons x xs ih =>
    intro ys st
    simp only [List.cons_append, feedG]
    cases step st x with
    | error e => rfl
    | ok st' => simp only [andThen_ok]; exact ih ys st'

theorem linesG_append {σ : Type} (toks : σ → Line → Except String σ) :
    ∀ (xs ys : List Line) (st : σ),
      linesG toks st (xs ++ ys) = andThen (linesG toks st xs) (fun st' => linesG toks st' ys) := by
  intro xs
  induction xs with
  | nil => intro ys st; rfl
  | cons x xs ih =>
    intro ys st
    simp only [List.cons_append, linesG]
    cases toks st x with
    | error e => rfl
    | ok st' => simp only [andThen_ok]; exact ih ys st'

/-- A line loop written out with `match` (as the parsers' mirrors are) is `linesG`. -/
theorem eq_linesG {σ : Type} (toks : σ → Line → Except String σ) (f : σ → List Line → Except String σ)
    (h_nil : ∀ st, f st [] = .ok st)
    (h_cons : ∀ st l ls, f st (l :: ls) = andThen (toks st l) (fun st' => f st' ls)) :
    ∀ (ls : List Line) (st : σ), f st ls = linesG toks st ls := by
  intro ls
  induction ls with
  | nil => exact h_nil
  | cons l ls ih =>
    intro st
    rw [h_cons, linesG]
    exact congrArg _ (funext ih)

theorem linesG_intLines {σ : Type} (toks : σ → Line → Except String σ) (step : σ → Int → Except String σ)
    (h_int : ∀ st is, toks st (intLine is) = feedG step st is) :
    ∀ (A : List (List Int)) (rest : List Line) (st : σ),
      linesG toks st (A.map intLine ++ rest) =
        andThen (feedG step st A.flatten) (fun st' => linesG toks st' rest) := by
  intro A
  induction A with
  | nil => intro rest st; rfl
  | cons x A ih =>
    intro rest st
    simp only [List.map_cons, List.cons_append, linesG, List.flatten_cons, h_int, feedG_append]
    cases feedG step st x with
    | error e => rfl
    | ok st' => simp only [andThen_ok]; exact ih rest st'

theorem linesG_skip {σ α : Type} (toks : σ → Line → Except String σ) (good : σ → Prop) (mk : α → Line)
    (h_skip : ∀ st ts, good st → toks st (mk ts) = .ok st) :
    ∀ (cms : List α) (rest : List Line) (st : σ), good st →
      linesG toks st (cms.map mk ++ rest) = linesG toks st rest := by
  intro cms
  induction cms with
  | nil => intro rest st _; rfl
  | cons c cms ih =>
    intro rest st hg
    simp only [List.map_cons, List.cons_append, linesG, h_skip st c hg, andThen_ok]
    exact ih rest st hg

theorem cutFrom_flatten : ∀ (cuts : List Nat) (opn ts : List Int),
    (cutFrom opn cuts ts).1.flatten ++ (cutFrom opn cuts ts).2 = opn ++ ts := by
  intro cuts
  induction cuts with
  | nil => intro opn ts; simp [cutFrom]
  | cons n ns ih =>
    intro opn ts
    simp only [cutFrom, List.flatten_cons, List.append_assoc]
    rw [ih [] (ts.drop n)]
    simp

/-- **Layout independence.** A reader that (1) treats a line of integers as their sequence,
    (2) skips comment lines in a good state and (3) turns the integers of an acceptable clause
    followed by 0, read from a good state, into `add` (reaching a good state again) reads
    every rendering of acceptable clauses as the clauses, one `add` each. -/
theorem render_generic {σ : Type} (toks : σ → Line → Except String σ) (step : σ → Int → Except String σ)
    (good : σ → Prop) (okc : List Int → Prop) (add : σ → List Int → σ)
    (h_int : ∀ st is, toks st (intLine is) = feedG step st is)
    (h_comment : ∀ st ts, good st → toks st (commentLine ts) = .ok st)
    (h_clause : ∀ st c, good st → okc c → feedG step st (c ++ [0]) = .ok (add st c) ∧ good (add st c)) :
    ∀ (cs : List (List Int)) (ls : List ClauseLayout) (opn : List Int) (st st1 : σ),
      feedG step st opn = .ok st1 → good st1 → (∀ c ∈ cs, okc c) →
      linesG toks st (renderClauses cs ls opn) = .ok (cs.foldl add st1) := by
  intro cs
  induction cs with
  | nil =>
    intro ls opn st st1 hf _ _
    simp only [renderClauses, List.foldl_nil]
    cases opn with
    | nil =>
      simp only [feedG, Except.ok.injEq] at hf
      subst hf
      simp [linesG]
    | cons x xs =>
      simp only [List.isEmpty_cons, Bool.false_eq_true, if_false, linesG, h_int, hf, andThen_ok]
  | cons c cs ih =>
    intro ls opn st st1 hf hg hok
    have hc := h_clause st1 c hg (hok c (by simp))
    have hcs : ∀ c' ∈ cs, okc c' := fun c' h' => hok c' (by simp [h'])
    have hflat := cutFrom_flatten (ls.headD {}).cuts opn (c ++ [0])
    -- `opn ++ c ++ [0]` is fed in one piece; cut into lines afterwards (`cutFrom_flatten`), the same
    -- run passes through some state `stm` after the completed lines, before the line left open
    have hall : feedG step st (opn ++ (c ++ [0])) = .ok (add st1 c) := by
      rw [feedG_append, hf, andThen_ok]; exact hc.1
    rw [← hflat, feedG_append] at hall
    obtain ⟨stm, hm1, hm2⟩ := andThen_eq_ok _ _ _ hall
    simp only [renderClauses, List.foldl_cons]
    by_cases hj : (ls.headD {}).join = true
    · rw [if_pos hj, linesG_intLines toks step h_int, hm1, andThen_ok]
      exact ih ls.tail _ stm (add st1 c) hm2 hc.2 hcs
    · rw [if_neg hj, linesG_intLines toks step h_int, hm1, andThen_ok]
      simp only [linesG, h_int, hm2, andThen_ok]
      rw [linesG_skip toks good commentLine h_comment _ _ _ hc.2]
      exact ih ls.tail [] (add st1 c) (add st1 c) rfl hc.2 hcs

theorem cnfToks_intLine : ∀ (is : List Int) (st : CnfState), cnfToks st (intLine is) = feedG cnfInt st is := by
  intro is
  induction is with
  | nil => intro st; rfl
  | cons v vs ih =>
    intro st
    simp only [intLine, List.map_cons, cnfToks, feedG]
    cases cnfInt st v with
    | error e => rfl
    | ok st' => simp only [andThen_ok]; exact ih st'

theorem cnfToks_comment (st : CnfState) (ts : List Tok) (h : st.cur = []) :
    cnfToks st (commentLine ts) = .ok st := by
  have : firstChar "c" = some 'c' := by decide
  simp [commentLine, cnfToks, h, this]

theorem feed_cnf_lits (n : Nat) : ∀ (c : List Int) (st : CnfState), st.nbVars = (n : Int) →
    clauseWf n c = true → feedG cnfInt st c = .ok { st with cur := st.cur ++ c } := by
  intro c
  induction c with
  | nil => intro st _ _; simp [feedG]
  | cons l c ih =>
    intro st hn hwf
    rw [clauseWf_iff, List.forall_mem_cons] at hwf
    obtain ⟨⟨hl0, hln⟩, hrest⟩ := hwf
    have h1 : ¬ (l > st.nbVars ∨ -l > st.nbVars) := by rw [hn]; omega
    simp only [feedG, cnfInt, hl0, if_false, h1, andThen_ok]
    have := ih { st with cur := st.cur ++ [l] } hn ((clauseWf_iff n c).2 hrest)
    rw [this]
    simp

theorem feed_cnf_clause (n : Nat) (c : List Int) (st : CnfState) (hn : st.nbVars = (n : Int))
    (hcur : st.cur = []) (hwf : clauseWf n c = true) :
    feedG cnfInt st (c ++ [0]) = .ok { st with clauses := st.clauses ++ [c] } := by
  rw [feedG_append, feed_cnf_lits n c st hn hwf]
  simp [feedG, cnfInt, hcur]

theorem foldl_addClause : ∀ (cs : List (List Int)) (st : CnfState),
    cs.foldl (fun (s : CnfState) c => { s with clauses := s.clauses ++ [c] }) st =
      { st with clauses := st.clauses ++ cs } := by
  intro cs
  induction cs with
  | nil => intro st; simp
  | cons c cs ih => intro st; simp [ih]

theorem cnfToks_header (st : CnfState) (n m : Nat) (h : st.cur = []) :
    cnfToks st (cnfHeaderLine n m) = .ok { nbVars := n, clauses := [], cur := [] } := by
  have h1 : firstChar "p" = some 'p' := by decide
  have h4 : ¬ ((n : Int) < 0 ∨ (m : Int) < 0) := by omega
  simp [cnfHeaderLine, cnfToks, h, h1, cnfHeader, h4]

/-- **C13, DIMACS CNF.** `solver.ParseCNF` never fails on a rendering of a well-formed file,
    whatever the layout, and reads exactly its declared variables and its clauses. -/
theorem parseCnf_render (d : Dimacs) (lay : CnfLayout) (hwf : d.wf = true) :
    parseCnfTokens (d.renderLines lay) = .ok (d.nbVars, d.clauses) := by
  unfold parseCnfTokens Dimacs.renderLines
  rw [eq_linesG cnfToks cnfLines (fun _ => rfl) (fun st l ls => by rw [cnfLines]; cases cnfToks st l <;> rfl)]
  rw [linesG_skip cnfToks (fun s => s.cur = []) commentLine cnfToks_comment _ _ _ rfl]
  simp only [linesG, cnfToks_header {} _ _ rfl, andThen_ok]
  rw [linesG_skip cnfToks (fun s => s.cur = []) commentLine cnfToks_comment _ _ _ rfl]
  have := render_generic cnfToks cnfInt (fun s => s.cur = [] ∧ s.nbVars = (d.nbVars : Int))
    (fun c => clauseWf d.nbVars c = true) (fun s c => { s with clauses := s.clauses ++ [c] })
    (fun st is => cnfToks_intLine is st)
    (fun st ts hg => cnfToks_comment st ts hg.1)
    (fun st c hg hc => ⟨feed_cnf_clause d.nbVars c st hg.2 hg.1 hc, hg.1, hg.2⟩)
    d.clauses lay.clauses [] { nbVars := d.nbVars, clauses := [], cur := [] } _ rfl ⟨rfl, rfl⟩
    (List.all_eq_true.1 hwf)
  rw [this, foldl_addClause]
  simp [cnfFinish]

/-- `parseCnf_render` read through `Dimacs.sem`, which is `cnfTrue` of the file's clauses by definition. -/
theorem parseCnf_render_sem (d : Dimacs) (lay : CnfLayout) (hwf : d.wf = true) :
    ∃ r, parseCnfTokens (d.renderLines lay) = .ok r ∧ r.1 = d.nbVars ∧ ∀ a, cnfTrue a r.2 = d.sem a :=
  ⟨_, parseCnf_render d lay hwf, rfl, fun _ => rfl⟩

/-- `c hi` / `p cnf 3 4` / `c` / `1` / `` / `-2` / `0 3 0` / `0` / `c 5` / `2 3 -1 0`. -/
example :
    let d : Dimacs := ⟨3, [[1, -2], [3], [], [2, 3, -1]]⟩
    let lay : CnfLayout :=
      { beforeHeader := [[.word "hi"]], afterHeader := [[]],
        clauses := [{ cuts := [1, 0, 1], join := true }, { join := true }, { cuts := [0], comments := [[.int 5]] }] }
    d.wf = true ∧
    d.renderLines lay =
      [[.word "c", .word "hi"], [.word "p", .word "cnf", .int 3, .int 4], [.word "c"], [.int 1], [],
       [.int (-2)], [.int 0, .int 3, .int 0], [.int 0], [.word "c", .int 5],
       [.int 2, .int 3, .int (-1), .int 0]] := by decide +kernel

/-! ### Why the hypotheses: a literal beyond the header, a comment line inside a clause -/

example : parseCnfTokens [[.word "p", .word "cnf", .int 1, .int 1], [.int 2, .int 0]] =
    .error "invalid literal" := by rfl
example : parseCnfTokens [[.word "p", .word "cnf", .int 2, .int 1], [.int 1], [.word "c", .word "x"], [.int 2, .int 0]] =
    .error "cannot parse clause: not a digit" := by rfl

/-- One field of `parseClauses`. -/
def exInt (st : ExState) (lit : Int) : Except String ExState :=
  if lit ≠ 0 then .ok { st with cur := st.cur ++ [lit] }
  else andThen (exAddClause st st.cur) (fun st' => .ok { st' with cur := [] })

theorem exFields_intLine : ∀ (is : List Int) (st : ExState), exFields st (intLine is) = feedG exInt st is := by
  intro is
  induction is with
  | nil => intro st; rfl
  | cons v vs ih =>
    intro st
    simp only [intLine, List.map_cons, exFields, feedG, exInt]
    by_cases hv : v ≠ 0
    · rw [if_pos hv, if_pos hv, andThen_ok]; exact ih _
    · rw [if_neg hv, if_neg hv]
      cases exAddClause st st.cur with
      | error e => rfl
      | ok st' => simp only [andThen_ok]; exact ih _

theorem exLine_intLine (is : List Int) (st : ExState) : exLine st (intLine is) = feedG exInt st is := by
  cases is with
  | nil => rfl
  | cons v vs =>
    exact exFields_intLine (v :: vs) st

theorem exLine_comment (st : ExState) (ts : List Tok) : exLine st (commentLine ts) = .ok st := by
  simp [commentLine, exLine]

/-- What `explain.ParseCNF` accepts: non-zero literals, and a unit clause within the header's
    variables (the only place where the header is checked). -/
def exClauseOk (n : Nat) (c : List Int) : Prop :=
  (∀ l ∈ c, l ≠ 0) ∧ (∀ l, c = [l] → l.natAbs ≤ n)

theorem feed_ex_lits : ∀ (c : List Int) (st : ExState), (∀ l ∈ c, l ≠ 0) →
    feedG exInt st c = .ok { st with cur := st.cur ++ c } := by
  intro c
  induction c with
  | nil => intro st _; simp [feedG]
  | cons l c ih =>
    intro st h
    have hl : l ≠ 0 := h l (by simp)
    simp only [feedG, exInt, hl, ne_eq, not_false_eq_true, if_true, andThen_ok]
    rw [ih _ (fun l' h' => h l' (by simp [h']))]
    simp

theorem exAddClause_ok (n : Nat) (st : ExState) (c : List Int) (hn : st.nbVars = (n : Int))
    (hsz : st.units.size = n) (hc : exClauseOk n c) :
    exAddClause st c = .ok { st with clauses := st.clauses ++ [c], units := GS.Explain.addUnit st.units c } := by
  unfold exAddClause GS.Explain.addUnit
  match c, hc with
  | [], _ => rfl
  | [l], hc =>
    have hl0 : l ≠ 0 := hc.1 l (by simp)
    have hln : l.natAbs ≤ n := hc.2 l rfl
    have h1 : ¬ ((if l < 0 then -l else l) > st.nbVars) := by rw [hn]; split <;> omega
    have h2 : (if l < 0 then -l else l).toNat - 1 < st.units.size ∧ 0 < (if l < 0 then -l else l) := by
      rw [hsz]; split <;> omega
    simp only [h1, if_false, h2, and_self, if_true]
  | _ :: _ :: _, _ => rfl

theorem feed_ex_clause (n : Nat) (c : List Int) (st : ExState) (hn : st.nbVars = (n : Int))
    (hsz : st.units.size = n) (hcur : st.cur = []) (hc : exClauseOk n c) :
    feedG exInt st (c ++ [0]) =
      .ok { st with clauses := st.clauses ++ [c], units := GS.Explain.addUnit st.units c } := by
  rw [feedG_append, feed_ex_lits c st hc.1]
  have h := exAddClause_ok n { st with cur := st.cur ++ c } c hn hsz hc
  simp only [andThen_ok, feedG, exInt, ne_eq, not_true_eq_false, if_false, hcur, List.nil_append] at h ⊢
  rw [h]
  simp

theorem addUnit_size (u : Array Int) (c : List Int) : (GS.Explain.addUnit u c).size = u.size := by
  unfold GS.Explain.addUnit
  split <;> simp [setLit]

theorem foldl_exAdd : ∀ (cs : List (List Int)) (st : ExState),
    cs.foldl (fun (s : ExState) c =>
        { s with clauses := s.clauses ++ [c], units := GS.Explain.addUnit s.units c }) st =
      { st with clauses := st.clauses ++ cs, units := cs.foldl GS.Explain.addUnit st.units } := by
  intro cs
  induction cs with
  | nil => intro st; simp
  | cons c cs ih => intro st; simp [ih]

theorem exLine_header (st : ExState) (n m : Nat) :
    exLine st (cnfHeaderLine n m) =
      .ok { st with nbVars := n, nbClauses := m, units := Array.replicate n 0, clauses := [] } := by
  have h4 : ¬ ((n : Int) < 0) := by omega
  have h5 : ¬ ((m : Int) < 0) := by omega
  simp [cnfHeaderLine, exLine, exHeader, h4, h5]

/-- **C13, `explain.ParseCNF`.** The streaming parser returns exactly the clause list of a
    rendered file (comment lines may even sit inside a clause for this parser; the renderings
    considered are those of `Dimacs.renderLines`), with `NbClauses` the header's count and
    `units` the array `GS.Explain.mkPb` starts from. -/
theorem explainParse_render (d : Dimacs) (lay : CnfLayout) (hok : ∀ c ∈ d.clauses, exClauseOk d.nbVars c) :
    explainParseTokens (d.renderLines lay) = .ok (d.nbVars, GS.Explain.mkPb d.nbVars d.clauses) := by
  unfold explainParseTokens Dimacs.renderLines
  rw [eq_linesG exLine exLines (fun _ => rfl) (fun st l ls => by rw [exLines]; cases exLine st l <;> rfl)]
  rw [linesG_skip exLine (fun _ => True) commentLine (fun st ts _ => exLine_comment st ts) _ _ _ trivial]
  simp only [linesG, exLine_header, andThen_ok]
  rw [linesG_skip exLine (fun _ => True) commentLine (fun st ts _ => exLine_comment st ts) _ _ _ trivial]
  have := render_generic exLine exInt
    (fun s => s.cur = [] ∧ s.nbVars = (d.nbVars : Int) ∧ s.units.size = d.nbVars)
    (exClauseOk d.nbVars)
    (fun s c => { s with clauses := s.clauses ++ [c], units := GS.Explain.addUnit s.units c })
    (fun st is => exLine_intLine is st)
    (fun st ts _ => exLine_comment st ts)
    (fun st c hg hc => ⟨feed_ex_clause d.nbVars c st hg.2.1 hg.2.2 hg.1 hc, hg.1, hg.2.1,
      by simp only [addUnit_size]; exact hg.2.2⟩)
    d.clauses lay.clauses []
    { nbVars := d.nbVars, nbClauses := d.clauses.length, clauses := [], units := Array.replicate d.nbVars 0, cur := [] }
    _ rfl ⟨rfl, rfl, by simp⟩ hok
  rw [this, foldl_exAdd]
  simp [GS.Explain.mkPb, GS.Explain.initUnits]

theorem exClauseOk_of_wf (d : Dimacs) (hwf : d.wf = true) : ∀ c ∈ d.clauses, exClauseOk d.nbVars c := by
  intro c hc
  have h := (cnfWf_iff d.nbVars d.clauses).1 hwf c hc
  exact ⟨fun l hl => (h l hl).1, fun l e => (h l (e ▸ List.mem_singleton_self l)).2⟩

example :
    explainParseTokens [[.word "p", .word "cnf", .int 2, .int 2], [.int 1], [.word "c", .word "x"], [.int 2, .int 0, .int (-1)], [.int 0]] =
      .ok (2, GS.Explain.mkPb 2 [[1, 2], [-1]]) := by rfl

theorem atoiDigits_toDigits (n : Nat) : atoiDigits (Nat.toDigits 10 n) = some n := by
  unfold atoiDigits
  have h1 : (Nat.toDigits 10 n).isEmpty = false := by
    cases h : Nat.toDigits 10 n with
    | nil => exact absurd h Nat.toDigits_ne_nil
    | cons _ _ => rfl
  have h2 : (Nat.toDigits 10 n).all Char.isDigit = true := by
    rw [List.all_eq_true]
    intro c hc
    exact Nat.isDigit_of_mem_toDigits (by decide) (by decide) hc
  simp [h1, h2]

theorem atoi_toDigits (n : Nat) : atoi (Nat.toDigits 10 n) = some (n : Int) := by
  have hd := atoiDigits_toDigits n
  cases h : Nat.toDigits 10 n with
  | nil => exact absurd h Nat.toDigits_ne_nil
  | cons c ds =>
    have hc : c.isDigit = true :=
      Nat.isDigit_of_mem_toDigits (b := 10) (n := n) (by decide) (by decide) (by rw [h]; simp)
    rw [h] at hd
    have hm : c ≠ '-' := by intro e; subst e; simp at hc
    have hp : c ≠ '+' := by intro e; subst e; simp at hc
    unfold atoi
    split
    · rename_i heq; simp at heq; exact absurd heq.1 hm
    · rename_i heq; simp at heq; exact absurd heq.1 hp
    · simp [hd]

theorem varName_toList (l : Int) :
    (varName l).toList =
      if l < 0 then '~' :: 'x' :: Nat.toDigits 10 l.natAbs else 'x' :: Nat.toDigits 10 l.natAbs := by
  unfold varName
  split <;> simp [String.toList_append]

theorem varName_spec (l : Int) :
    hasVarPrefix (varName l).toList = true ∧ varLit (varName l).toList = some ((l.natAbs : Int), l) ∧
    ¬ (varName l).toList.length < 2 ∧ firstChar (varName l) ≠ some '*' := by
  rw [firstChar, varName_toList]
  by_cases h : l < 0
  · simp only [h, if_true, hasVarPrefix, varLit, List.drop_succ_cons, List.drop_zero, atoi_toDigits]
    refine ⟨trivial, ?_, by simp, by simp⟩
    simp; omega
  · simp only [h, if_false, hasVarPrefix]
    refine ⟨trivial, ?_, ?_, by simp⟩
    · simp [varLit, atoi_toDigits]; omega
    · have := @Nat.length_toDigits_pos 10 l.natAbs
      simp; omega

/-- `pb.NbVars` once `parseTerms` has read the terms `ts`. -/
def nbAfter (nb : Int) : List (Int × Int) → Int
  | [] => nb
  | t :: ts => nbAfter (if (t.2.natAbs : Int) > nb then (t.2.natAbs : Int) else nb) ts

theorem le_nbAfter : ∀ (ts : List (Int × Int)) (nb : Int),
    nb ≤ nbAfter nb ts ∧ ∀ t ∈ ts, (t.2.natAbs : Int) ≤ nbAfter nb ts := by
  intro ts
  induction ts with
  | nil => intro nb; exact ⟨Int.le_refl _, by simp⟩
  | cons t ts ih =>
    intro nb
    simp only [nbAfter, List.forall_mem_cons]
    generalize hm : (if (t.2.natAbs : Int) > nb then (t.2.natAbs : Int) else nb) = m
    have : nb ≤ m ∧ (t.2.natAbs : Int) ≤ m := by subst hm; split <;> omega
    obtain ⟨h1, h2⟩ := ih m
    exact ⟨by omega, by omega, h2⟩

theorem renderTerm_cases (om : Bool) (t : Int × Int) :
    renderTerm om t = [Tok.int t.1, varTok t.2] ∨ (t.1 = 1 ∧ renderTerm om t = [varTok t.2]) := by
  unfold renderTerm
  split
  · rename_i h
    simp only [Bool.and_eq_true, beq_iff_eq] at h
    exact Or.inr ⟨h.2, rfl⟩
  · exact Or.inl rfl

/-- `i` and `len` only select between error and panic. -/
theorem opbTerms_render (len : Nat) : ∀ (ts : List (Int × Int)) (os : List Bool) (i : Nat) (nb : Int),
    opbTerms len i nb (renderTerms ts os) = .ok (ts.map (·.1), ts.map (·.2), nbAfter nb ts) := by
  intro ts
  induction ts with
  | nil => intro os i nb; rfl
  | cons t ts ih =>
    intro os i nb
    obtain ⟨hp, hv, hlen, _⟩ := varName_spec t.2
    rcases renderTerm_cases (os.headD false) t with h | ⟨h1, h⟩
    · simp only [renderTerms, h, varTok, List.cons_append, List.nil_append, opbTerms, hp, hv, ih, Bool.not_true,
        Bool.false_eq_true, if_false, List.map_cons, hlen, decide_false, Bool.or_self, nbAfter]
    · simp only [renderTerms, h, varTok, List.cons_append, List.nil_append, opbTerms, hp, hv, ih, Bool.not_true,
        Bool.false_eq_true, if_false, List.map_cons, h1, nbAfter]

theorem renderTerms_head (t : Int × Int) (ts : List (Int × Int)) (os : List Bool) :
    ∃ f0 rest, renderTerms (t :: ts) os = f0 :: rest ∧ f0 ≠ Tok.word "min:" ∧
      ∀ r, isStarLine (f0 :: r) = false := by
  obtain ⟨hp, _, _, hs⟩ := varName_spec t.2
  rcases renderTerm_cases (os.headD false) t with h | ⟨_, h⟩
  · exact ⟨_, _, by simp only [renderTerms, h]; rfl, Tok.noConfusion, fun _ => rfl⟩
  · refine ⟨_, _, by simp only [renderTerms, h]; rfl, fun e => ?_, fun r => by simp [isStarLine, varTok, hs]⟩
    rw [varTok, Tok.word.injEq] at e
    rw [e] at hp
    exact absurd hp (by decide)

theorem opbFront_fields (cs : List PBC) (st : OpbState) :
    (opbFront st cs).nbVars = st.nbVars ∧ (opbFront st cs).constrs = st.constrs ∧
    (opbFront st cs).obj = st.obj := by
  fun_induction opbFront st cs with
  | case1 | case3 => exact ⟨rfl, rfl, rfl⟩
  | case2 _ _ _ _ ih | case4 _ _ _ _ _ ih | case5 _ _ _ _ ih => exact ih

theorem opbFront_spec (a : Asg) (cs : List PBC) (st : OpbState) (hn : ∀ c ∈ cs, c.normal = true) :
    (opbFront st cs).frontSem a = (st.frontSem a && cs.all (·.sem a)) := by
  fun_induction opbFront st cs with
  | case1 => simp
  | case2 st c cs hf ih =>
    obtain ⟨hc, hcs⟩ := List.forall_mem_cons.1 hn
    have hs := frontPB_sound a c hc
    rw [hf] at hs
    rw [ih hcs, List.all_cons, hs, Bool.true_and]
  | case3 st c cs hf =>
    have hs := frontPB_sound a c (hn c List.mem_cons_self)
    rw [hf] at hs
    simp [OpbState.frontSem, hs]
  | case4 st c cs ls hf ih =>
    obtain ⟨hc, hcs⟩ := List.forall_mem_cons.1 hn
    have hs := frontPB_sound a c hc
    simp only [hf] at hs
    have : ls.all (litTrue a) = c.sem a := by
      rw [Bool.eq_iff_iff, hs, List.all_eq_true]
    rw [ih hcs]
    simp only [OpbState.frontSem, List.all_append, List.all_cons, this]
    ac_rfl
  | case5 st c cs hf ih =>
    rw [ih (List.forall_mem_cons.1 hn).2]
    simp only [OpbState.frontSem, List.all_append, List.all_cons, List.all_nil, Bool.and_true]
    ac_rfl

theorem frontSem_true_iff (a : Asg) (st : OpbState) :
    st.frontSem a = true ↔
      st.unsat = false ∧ (∀ u ∈ st.units, litTrue a u = true) ∧ ∀ k ∈ st.kept, k.sem a = true := by
  simp [OpbState.frontSem, and_assoc]

theorem opbFront_inv (P : Int → Prop) (Q : PBC → Prop) (cs : List PBC) (st : OpbState)
    (hu : ∀ u ∈ st.units, P u) (hk : ∀ k ∈ st.kept, Q k)
    (hc : ∀ c ∈ cs, (∀ l ∈ c.lits, P l) ∧ (1 ≤ c.atLeast → Q c)) :
    (∀ u ∈ (opbFront st cs).units, P u) ∧ ∀ k ∈ (opbFront st cs).kept, Q k := by
  fun_induction opbFront st cs with
  | case1 | case3 => exact ⟨hu, hk⟩
  | case2 st c cs _ ih => exact ih hu hk (List.forall_mem_cons.1 hc).2
  | case4 st c cs ls hf ih =>
    obtain ⟨hc1, hcs⟩ := List.forall_mem_cons.1 hc
    exact ih (List.forall_mem_append.2 ⟨hu, frontPB_units hf ▸ hc1.1⟩) hk hcs
  | case5 st c cs hf ih =>
    obtain ⟨hc1, hcs⟩ := List.forall_mem_cons.1 hc
    exact ih hu (List.forall_mem_append.2 ⟨hk, List.forall_mem_singleton.2 (hc1.2 (frontPB_kept hf))⟩) hcs

/-- The `PBConstr` values `parsePBConstrLine` obtains from `GtEq` / `Eq` for a constraint. -/
def pbcsOf (c : OpbConstr) : List PBC :=
  match c.rel with
  | .ge => ((gtEq (c.terms.map (·.2)) (some (c.terms.map (·.1))) c.rhs).map (fun p => [p])).getD []
  | .eq => (eq (c.terms.map (·.2)) (some (c.terms.map (·.1))) c.rhs).getD []

theorem OpbConstr.wf_iff (c : OpbConstr) : c.wf = true ↔ (∀ t ∈ c.terms, t.2 ≠ 0) ∧ c.terms ≠ [] := by
  simp only [OpbConstr.wf, Bool.and_eq_true, List.all_eq_true, bne_iff_ne, ne_eq, Bool.not_eq_true',
    List.isEmpty_eq_false_iff]

theorem lhs_eq_wsum (a : Asg) (ts : List (Int × Int)) :
    wsum a (ts.map (·.2)) (ts.map (·.1)) = lhs a ts := by
  unfold wsum; rw [zip_map_fst_snd]

/-- `GtEq` / `Eq` as `parsePBConstrLine` calls them. -/
def made (rel : Rel) (lits ws : List Int) (n : Int) : Option (List PBC) :=
  match rel with
  | .ge => (gtEq lits (some ws) n).map (fun c => [c])
  | .eq => eq lits (some ws) n

/-- `GtEq` / `Eq` do not panic on a parsed line; what they return has weights in the form `WOk` and
    literals of the line up to sign; without a null literal it is in normal form and means the constraint. -/
theorem pbcsOf_spec (c : OpbConstr) :
    made c.rel (c.terms.map (·.2)) (c.terms.map (·.1)) c.rhs = some (pbcsOf c) ∧
    (∀ p ∈ pbcsOf c, WOk p ∧ ∀ l ∈ p.lits, ∃ l' ∈ c.terms.map (·.2), l.natAbs = l'.natAbs) ∧
    ((∀ t ∈ c.terms, t.2 ≠ 0) → (∀ a, (pbcsOf c).all (·.sem a) = c.sem a) ∧ ∀ p ∈ pbcsOf c, p.normal = true) := by
  have hlen : (c.terms.map (·.2)).length = (c.terms.map (·.1)).length := by simp
  have hz' : (∀ t ∈ c.terms, t.2 ≠ 0) → ∀ l ∈ c.terms.map (·.2), l ≠ 0 := fun hz l hl => by
    obtain ⟨t, ht, rfl⟩ := List.mem_map.1 hl
    exact hz t ht
  unfold pbcsOf made OpbConstr.sem
  cases hrel : c.rel with
  | ge =>
    have hp := gtEq_some _ _ c.rhs hlen
    have S := fun hz a => gtEq_sem a _ _ c.rhs _ hlen (hz' hz) hp
    simp only [hp, Option.map_some, Option.getD_some, List.all_cons, List.all_nil, Bool.and_true,
      List.mem_singleton, forall_eq, lhs_eq_wsum] at S ⊢
    exact ⟨trivial, gtEq_out _ _ c.rhs _ hlen hp, fun hz =>
      ⟨fun a => by rw [Bool.eq_iff_iff, (S hz a).1]; simp, (S hz (fun _ => false)).2⟩⟩
  | eq =>
    cases he : eq (c.terms.map (·.2)) (some (c.terms.map (·.1))) c.rhs with
    | none => rw [eq_eq_none] at he; simp [slen] at he
    | some ps =>
      have S := fun hz a => eq_sem a _ _ c.rhs ps hlen (hz' hz) he
      simp only [Option.getD_some, lhs_eq_wsum] at S ⊢
      exact ⟨trivial, eq_out _ _ c.rhs ps hlen he, fun hz =>
        ⟨fun a => by rw [Bool.eq_iff_iff, (S hz a).1]; simp, fun q hq => ((S hz (fun _ => false)).2 q hq).1⟩⟩

theorem opbLine_fields (st : OpbState) (f0 : Tok) (rest : List Tok)
    (hstar : isStarLine (f0 :: (rest ++ [Tok.word ";"])) = false) :
    opbLine st (f0 :: (rest ++ [Tok.word ";"])) =
      if f0 = Tok.word "min:" then
        match opbTerms rest.length 0 st.nbVars rest with
        | .error e => .error e
        | .ok (ws, ls, nb) => .ok { st with nbVars := nb, obj := some (ws.zip ls) }
      else opbConstrLine st (f0 :: rest) := by
  have hr : (f0 :: (rest ++ [Tok.word ";"])).reverse = Tok.word ";" :: (rest.reverse ++ [f0]) := by simp
  unfold opbLine
  rw [hr]
  simp only [hstar, Bool.false_eq_true, if_false, ne_eq, not_true_eq_false, List.reverse_append,
    List.reverse_cons, List.reverse_nil, List.nil_append, List.reverse_reverse, List.cons_append]
  split <;> rfl

theorem opbConstrLine_ok (st : OpbState) (terms : List Tok) (rel : Rel) (rhs : Int) (ws ls : List Int)
    (nb : Int) (cs : List PBC) (hne : terms ≠ [])
    (ht : opbTerms terms.length 0 st.nbVars terms = .ok (ws, ls, nb)) (hm : made rel ls ws rhs = some cs) :
    opbConstrLine st (terms ++ [relTok rel, Tok.int rhs]) =
      .ok (opbFront { st with nbVars := nb, constrs := st.constrs ++ cs } cs) := by
  obtain ⟨x, xs, hx⟩ : ∃ x xs, terms.reverse = x :: xs := by
    cases h : terms.reverse with
    | nil => exact absurd (List.reverse_eq_nil_iff.1 h) hne
    | cons x xs => exact ⟨x, xs, rfl⟩
  have hback : (x :: xs).reverse = terms := by rw [← hx, List.reverse_reverse]
  unfold opbConstrLine
  rw [show (terms ++ [relTok rel, Tok.int rhs]).reverse = Tok.int rhs :: relTok rel :: terms.reverse by simp, hx]
  cases rel with
  | ge => simp [relTok, hback, ht, show (gtEq ls (some ws) rhs).map (fun c => [c]) = some cs from hm]
  | eq => simp [relTok, hback, ht, show eq ls (some ws) rhs = some cs from hm]

/-- The state of the scanner loop after a constraint line for `c`: the `PBConstr`s of `c` go
    through the case analysis, and `pb.NbVars` has seen the variables of the line. -/
def constrStep (st : OpbState) (c : OpbConstr) : OpbState :=
  opbFront { st with nbVars := nbAfter st.nbVars c.terms, constrs := st.constrs ++ pbcsOf c } (pbcsOf c)

theorem opbLine_constr (st : OpbState) (c : OpbConstr) (os : List Bool) (hne : c.terms ≠ []) :
    opbLine st (c.renderLine os) = .ok (constrStep st c) := by
  obtain ⟨t, ts, hc⟩ := List.exists_cons_of_ne_nil hne
  obtain ⟨f0, rest, hshape, hmin, hstar⟩ := renderTerms_head t ts os
  rw [← hc] at hshape
  have hline : c.renderLine os = f0 :: ((rest ++ [relTok c.rel, Tok.int c.rhs]) ++ [Tok.word ";"]) := by
    simp [OpbConstr.renderLine, hshape]
  rw [hline, opbLine_fields st f0 _ (hstar _), if_neg hmin, ← List.cons_append, ← hshape]
  exact opbConstrLine_ok st _ c.rel c.rhs _ _ _ _ (by rw [hshape]; exact List.cons_ne_nil _ _)
    (opbTerms_render _ c.terms os 0 st.nbVars) (pbcsOf_spec c).1

theorem opbLine_skip (st : OpbState) (s : Option (List Tok)) : opbLine st (skipLine s) = .ok st := by
  cases s with
  | none => rfl
  | some ts =>
    have hs : isStarLine (skipLine (some ts)) = true := by simp [skipLine, isStarLine]; decide
    unfold opbLine
    cases h : (skipLine (some ts)).reverse with
    | nil => rfl
    | cons x xs => simp only [hs, if_true]

theorem opbLine_objective (st : OpbState) (ts : List (Int × Int)) (os : List Bool) :
    opbLine st (renderObjective ts os) = .ok { st with nbVars := nbAfter st.nbVars ts, obj := some ts } := by
  unfold renderObjective
  rw [opbLine_fields st _ _ rfl, if_pos rfl]
  simp only [opbTerms_render, zip_map_fst_snd]

theorem opbLines_skip (ss : List (Option (List Tok))) (rest : List Line) (st : OpbState) :
    linesG opbLine st (ss.map skipLine ++ rest) = linesG opbLine st rest :=
  linesG_skip opbLine (fun _ => True) skipLine (fun st s _ => opbLine_skip st s) ss rest st trivial

theorem opbLines_constrs : ∀ (cs : List OpbConstr) (ls : List OpbLineLayout) (tail : List Line) (st : OpbState),
    (∀ c ∈ cs, c.terms ≠ []) →
    linesG opbLine st (renderConstrs cs ls ++ tail) = linesG opbLine (cs.foldl constrStep st) tail := by
  intro cs
  induction cs with
  | nil => intro ls tail st _; rfl
  | cons c cs ih =>
    intro ls tail st hne
    rw [List.forall_mem_cons] at hne
    simp only [renderConstrs, List.append_assoc, List.cons_append, opbLines_skip, linesG,
      opbLine_constr st c _ hne.1, andThen_ok, List.foldl_cons]
    exact ih ls.tail tail _ hne.2

theorem constrStep_spec (st : OpbState) (c : OpbConstr) (hwf : c.wf = true) :
    (constrStep st c).constrs = st.constrs ++ pbcsOf c ∧ (constrStep st c).obj = st.obj ∧
    ∀ a, (constrStep st c).frontSem a = (st.frontSem a && c.sem a) := by
  obtain ⟨hsem, hnorm⟩ := (pbcsOf_spec c).2.2 (c.wf_iff.1 hwf).1
  obtain ⟨_, f2, f3⟩ := opbFront_fields (pbcsOf c)
    { st with nbVars := nbAfter st.nbVars c.terms, constrs := st.constrs ++ pbcsOf c }
  exact ⟨f2, f3, fun a => by rw [constrStep, opbFront_spec a _ _ hnorm, hsem a]; rfl⟩

theorem foldl_constrStep_spec : ∀ (cs : List OpbConstr) (st : OpbState), (∀ c ∈ cs, c.wf = true) →
    (cs.foldl constrStep st).constrs = st.constrs ++ cs.flatMap pbcsOf ∧
    (cs.foldl constrStep st).obj = st.obj ∧
    ∀ a, (cs.foldl constrStep st).frontSem a = (st.frontSem a && cs.all (·.sem a)) := by
  intro cs
  induction cs with
  | nil => intro st _; simp
  | cons c cs ih =>
    intro st hwf
    rw [List.forall_mem_cons] at hwf
    obtain ⟨f1, f2, f3⟩ := constrStep_spec st c hwf.1
    obtain ⟨g1, g2, g3⟩ := ih (constrStep st c) hwf.2
    rw [List.foldl_cons]
    exact ⟨by rw [g1, f1]; simp, by rw [g2, f2], fun a => by rw [g3, f3]; simp [Bool.and_assoc]⟩

theorem all_flatMap_pbcsOf (cs : List OpbConstr) (hwf : ∀ c ∈ cs, c.wf = true) :
    (∀ a, (cs.flatMap pbcsOf).all (·.sem a) = cs.all (·.sem a)) ∧ ∀ p ∈ cs.flatMap pbcsOf, p.normal = true := by
  have S := fun c hc => (pbcsOf_spec c).2.2 (c.wf_iff.1 (hwf c hc)).1
  refine ⟨fun a => ?_, fun p hp => ?_⟩
  · rw [List.all_flatMap, List.all_eq, List.all_eq]
    exact decide_eq_decide.2 (forall₂_congr fun c hc => by rw [(S c hc).1 a])
  · obtain ⟨c, hc, hp⟩ := List.mem_flatMap.1 hp
    exact (S c hc).2 p hp

/-- The state of the scanner loop after the objective part of a file. -/
def objState : Option (List (Int × Int)) → OpbState
  | none => {}
  | some ts => { nbVars := nbAfter 0 ts, obj := some ts }

theorem parseOpbLines_render (o : Opb) (lay : OpbLayout) (hne : ∀ c ∈ o.constrs, c.terms ≠ []) :
    parseOpbLines (o.renderLines lay) = .ok (o.constrs.foldl constrStep (objState o.objective)) := by
  have hobj : ∀ tail, linesG opbLine {} (renderObjectiveLines o.objective lay.objective ++ tail) =
      linesG opbLine (objState o.objective) tail := by
    intro tail
    rw [renderObjectiveLines.eq_def, List.append_assoc, opbLines_skip]
    cases o.objective with
    | none => rfl
    | some ts => simp only [List.cons_append, List.nil_append, linesG, opbLine_objective, andThen_ok]; rfl
  rw [parseOpbLines, Opb.renderLines,
    eq_linesG opbLine opbLines (fun _ => rfl) (fun st l ls => by rw [opbLines]; cases opbLine st l <;> rfl), hobj, opbLines_constrs _ _ _ _ hne,
    ← List.append_nil (lay.trailing.map skipLine), opbLines_skip]
  rfl

/-- **C13, OPB.** `solver.ParseOPB` never fails (error or panic) on a rendering of a
    well-formed OPB file, whatever the layout. The objective it stores is the file's; the
    `PBConstr` values it obtains from `GtEq` / `Eq` are in normal form and have, together, exactly
    the models of the file; so has what its per-constraint case analysis keeps (`units`,
    `pb.Clauses`, `Status`); and the stored objective has the file's value under every assignment. -/
theorem parseOpb_render (o : Opb) (lay : OpbLayout) (hwf : o.wf = true) :
    ∃ r, parseOpbLines (o.renderLines lay) = .ok r ∧
      r.obj = o.objective ∧ r.constrs = o.constrs.flatMap pbcsOf ∧
      (∀ c ∈ r.constrs, c.normal = true) ∧
      (∀ a, r.constrs.all (·.sem a) = o.sem a) ∧
      (∀ a, r.frontSem a = o.sem a) ∧
      (∀ a, cost (r.obj.getD []) a = o.cost a) := by
  have hwf' : ∀ c ∈ o.constrs, c.wf = true := List.all_eq_true.1 hwf
  obtain ⟨h2, h3, h4⟩ := foldl_constrStep_spec o.constrs (objState o.objective) hwf'
  have e : (objState o.objective).obj = o.objective ∧ (objState o.objective).constrs = [] ∧
      ∀ a, (objState o.objective).frontSem a = true := by
    cases o.objective <;> exact ⟨rfl, rfl, fun _ => rfl⟩
  rw [e.1] at h3
  rw [e.2.1, List.nil_append] at h2
  have hall := all_flatMap_pbcsOf o.constrs hwf'
  refine ⟨_, parseOpbLines_render o lay fun c hc => (c.wf_iff.1 (hwf' c hc)).2, h3, h2, ?_, ?_, ?_, ?_⟩
  · rw [h2]; exact hall.2
  · intro a; rw [h2]; exact hall.1 a
  · intro a; rw [h4, e.2.2, Bool.true_and]; rfl
  · intro a
    rw [h3]
    unfold Opb.cost cost
    cases o.objective <;> simp [lhs]

/-- `min: 3 x1 -2 ~x2 x3 ;` / `x1 1 x2 -3 ~x3 >= 1 ;` / `1 x1 2 x2 = 2 ;` with comment and empty lines. -/
example :
    let o : Opb := ⟨some [(3, 1), (-2, -2), (1, 3)], [⟨[(1, 1), (1, 2), (-3, -3)], .ge, 1⟩, ⟨[(1, 1), (2, 2)], .eq, 2⟩]⟩
    let lay : OpbLayout :=
      { objective := { skips := [none, some [.word "x"]], omits := [false, false, true] },
        constrs := [{ omits := [true, false] }], trailing := [none] }
    o.wf = true ∧
    o.renderLines lay =
      [[], [.word "*", .word "x"],
       [.word "min:", .int 3, .word "x1", .int (-2), .word "~x2", .word "x3", .word ";"],
       [.word "x1", .int 1, .word "x2", .int (-3), .word "~x3", .word ">=", .int 1, .word ";"],
       [.int 1, .word "x1", .int 2, .word "x2", .word "=", .int 2, .word ";"], []] := by
  refine ⟨by decide +kernel, by rfl⟩

/-! ### Why the hypothesis: a constraint without terms is a syntax error for `ParseOPB`
(the OPB grammar requires at least one term); ill-formed lines can make it panic. -/

example : parseOpbLines [[.word ">=", .int 0, .word ";"]] = .error "invalid syntax" := by rfl
example : parseOpbLines [[.int 3, .word ">=", .int 2, .word ";"]] = .error "panic: index out of range" := by rfl
example : parseOpbLines [[.word "min:", .int 3, .word ";"]] = .error "panic: index out of range" := by rfl
example : parseOpbLines [[.int 1, .word "x1", .word "foo", .word ">=", .int 1, .word ";"]] =
    .error "panic: index out of range" := by rfl

theorem wcnfLine_skip (st : WcnfState) (s : Option (List Tok)) : wcnfLine st (wcnfSkipLine s) = .ok st := by
  cases s with
  | none => rfl
  | some ts =>
    have h2 : firstChar "c" = some 'c' := by decide
    simp [wcnfSkipLine, commentLine, wcnfLine, h2]

theorem allInts_intLine : ∀ is : List Int, allInts (intLine is) = some is := by
  intro is
  induction is with
  | nil => rfl
  | cons i is ih =>
    show allInts (Tok.int i :: intLine is) = some (i :: is)
    simp [allInts, ih]

theorem wcnfLine_clause (st : WcnfState) (w : Int) (c : List Int) :
    wcnfLine st (wcnfClauseLine (w, c)) =
      if st.top = 0 ∨ w < st.top then
        .ok { st with clauses := st.clauses ++ [c ++ [st.relaxLit]], weights := st.weights ++ [w],
                      relaxLit := st.relaxLit + 1 }
      else .ok { st with clauses := st.clauses ++ [c] } := by
  rw [show wcnfClauseLine (w, c) = Tok.int w :: intLine (c ++ [0]) from rfl]
  simp [wcnfLine, allInts_intLine]

theorem wcnfLines_clauses (top : Int) : ∀ (cls : List (Int × List Int)) (skips : List (List (Option (List Tok))))
    (k : Nat) (st : WcnfState), st.top = top → st.relaxLit = (k : Int) →
    linesG wcnfLine st (wcnfRenderClauses cls skips) =
      .ok { st with clauses := st.clauses ++ (GS.MaxSatEnc.wcnfGo top k cls).1,
                    weights := st.weights ++ (GS.MaxSatEnc.wcnfGo top k cls).2.1,
                    relaxLit := ((GS.MaxSatEnc.wcnfGo top k cls).2.2 : Nat) } := by
  intro cls
  induction cls with
  | nil =>
    intro skips k st _ hk
    simp only [wcnfRenderClauses, linesG, GS.MaxSatEnc.wcnfGo, List.append_nil]
    rw [← hk]
  | cons wc cls ih =>
    intro skips k st ht hk
    obtain ⟨w, c⟩ := wc
    simp only [wcnfRenderClauses]
    rw [linesG_skip wcnfLine (fun _ => True) wcnfSkipLine (fun st s _ => wcnfLine_skip st s) _ _ _ trivial]
    simp only [linesG, wcnfLine_clause, ht]
    by_cases hsoft : top = 0 ∨ w < top
    · simp only [hsoft, if_true, andThen_ok, GS.MaxSatEnc.wcnfGo]
      rw [ih skips.tail (k + 1) _ (by rfl) (by simp only [hk]; omega)]
      simp [hk]
    · simp only [hsoft, if_false, andThen_ok, GS.MaxSatEnc.wcnfGo]
      rw [ih skips.tail k _ (by rfl) (by simp only [hk])]
      simp

theorem wcnfLine_header (w : Wcnf) :
    wcnfLine {} (wcnfHeaderLine w) =
      .ok { nbVars := w.nbVars, top := w.topVal, clauses := [], weights := [], relaxLit := (w.nbVars : Int) + 1 } := by
  have h1 : firstChar "p" = some 'p' := by decide
  have h2 : ¬ ((w.clauses.length : Int) < 0) := by omega
  cases ht : w.top with
  | none => simp [wcnfHeaderLine, wcnfLine, h1, h2, ht, Wcnf.topVal]
  | some t => simp [wcnfHeaderLine, wcnfLine, h1, h2, ht, Wcnf.topVal]

/-- **C13, WCNF.** `maxsat.ParseWCNF` never fails on a rendered WCNF file (header, one clause per
    line: weight, literals, 0; comment and empty lines before the header and before each clause
    line, none after the last) and hands to the optimiser
    exactly `wcnfEncode` of the `(weight, clause)` list: the clauses with their relax literals,
    the cost terms, `relaxLit - 1` variables and `firstRelax = nbVars`. -/
theorem parseWcnf_render (w : Wcnf) (before : List (Option (List Tok))) (skips : List (List (Option (List Tok)))) :
    parseWcnfLines (wcnfRenderLines w before skips) =
      .ok (GS.MaxSatEnc.wcnfEncode w.nbVars w.topVal w.clauses) := by
  unfold parseWcnfLines wcnfRenderLines
  rw [eq_linesG wcnfLine wcnfLines (fun _ => rfl) (fun st l ls => by rw [wcnfLines]; cases wcnfLine st l <;> rfl)]
  rw [linesG_skip wcnfLine (fun _ => True) wcnfSkipLine (fun st s _ => wcnfLine_skip st s) _ _ _ trivial]
  simp only [linesG, wcnfLine_header, andThen_ok]
  rw [wcnfLines_clauses w.topVal w.clauses skips (w.nbVars + 1) _ rfl (by simp)]
  -- `relaxLit` has advanced by one per soft clause: the length test of `ParseWCNF` passes
  obtain ⟨_, hw1, hw2⟩ := GS.MaxSatEnc.wcnfGo_spec w.topVal w.clauses (w.nbVars + 1)
  rw [← List.length_map (f := (·.weight)), ← hw1] at hw2
  simp only [List.nil_append, GS.MaxSatEnc.wcnfEncode]
  generalize GS.MaxSatEnc.wcnfGo w.topVal (w.nbVars + 1) w.clauses = g at hw2 ⊢
  obtain ⟨cs, ws, k⟩ := g
  simp only at hw2 ⊢
  subst hw2
  rw [if_neg (by omega)]
  simp only [Int.toNat_natCast]
  congr 2
  omega

/-- `wcnf_answer` (C04) for rendered files: an optimum of what `ParseWCNF` built from the text,
    cut at `firstRelax`, is a MaxSAT optimum of the instance the text denotes. -/
theorem wcnf_answer_rendered (w : Wcnf) (before : List (Option (List Tok)))
    (skips : List (List (Option (List Tok)))) (m : List Bool)
    (hwf : GS.MaxSatEnc.wcnfWf w.nbVars w.clauses = true)
    (hwt : GS.MaxSatEnc.weightsNonneg (GS.MaxSatEnc.wcnfSoft w.topVal w.clauses) = true)
    (hlen : w.nbVars ≤ m.length) :
    ∃ out, parseWcnfLines (wcnfRenderLines w before skips) = .ok out ∧
      (IsOptimum (Problem.ofCnf out.clauses) out.costFn (asgOf m) →
        (m.take out.firstRelax).length = w.nbVars ∧
        IsMaxSatOpt (Problem.ofCnf (GS.MaxSatEnc.wcnfHard w.topVal w.clauses))
          (GS.MaxSatEnc.wcnfSoft w.topVal w.clauses) (asgOf (m.take out.firstRelax)) ∧
        cost out.costFn (asgOf m) =
          violated (asgOf (m.take out.firstRelax)) (GS.MaxSatEnc.wcnfSoft w.topVal w.clauses)) :=
  ⟨_, parseWcnf_render w before skips, fun hopt =>
    GS.MaxSatEnc.wcnf_answer w.nbVars w.topVal w.clauses m hwf hwt hlen hopt⟩

/-- `c` / `p wcnf 3 4 10` / `` / `10 1 2 0` / `3 -1 0` / `10 -2 3 0` / `2 -3 0`. -/
example :
    let w : Wcnf := ⟨3, some 10, [(10, [1, 2]), (3, [-1]), (10, [-2, 3]), (2, [-3])]⟩
    wcnfRenderLines w [some []] [[none]] =
      [[.word "c"], [.word "p", .word "wcnf", .int 3, .int 4, .int 10], [],
       [.int 10, .int 1, .int 2, .int 0], [.int 3, .int (-1), .int 0], [.int 10, .int (-2), .int 3, .int 0],
       [.int 2, .int (-3), .int 0]] ∧
    GS.MaxSatEnc.wcnfWf w.nbVars w.clauses = true ∧
    GS.MaxSatEnc.weightsNonneg (GS.MaxSatEnc.wcnfSoft w.topVal w.clauses) = true := by
  refine ⟨by rfl, by decide +kernel, by decide +kernel⟩

/-- A clause line without any literal field makes `parseWCNFClause` panic. -/
example : parseWcnfLines [[.word "p", .word "wcnf", .int 2, .int 1, .int 10], [.int 3]] =
    .error "panic: index out of range [-1]" := by rfl

theorem renderClauses_default : ∀ cs : List (List Int), renderClauses cs [] [] = cs.map clauseLine := by
  intro cs
  induction cs with
  | nil => rfl
  | cons c cs ih => simp [renderClauses, cutFrom, clauseLine, ih]

theorem printCnf_eq_render (n : Nat) (us : List Int) (cs : List (List Int)) :
    printCnf n us cs = (Dimacs.mk n (us.map (fun u => [u]) ++ cs)).renderLines {} := by
  simp only [printCnf, Dimacs.renderLines, List.map_nil, List.nil_append, renderClauses_default,
    List.map_append, List.map_map, List.length_append, List.length_map]
  rw [Nat.add_comm]
  rfl

/-- **C18, DIMACS.** What `Problem.CNF()` prints is read back by `solver.ParseCNF` as the same
    number of variables and the same clause list (units as unit clauses, then the clauses). -/
theorem cnf_print_parse (n : Nat) (us : List Int) (cs : List (List Int))
    (hu : ∀ u ∈ us, litOk n u = true) (hc : cnfWf n cs = true) :
    parseCnfTokens (printCnf n us cs) = .ok (n, us.map (fun u => [u]) ++ cs) := by
  rw [printCnf_eq_render]
  apply parseCnf_render
  simp only [Dimacs.wf, cnfWf, List.all_append, Bool.and_eq_true, List.all_map]
  refine ⟨?_, hc⟩
  rw [List.all_eq_true]
  intro u hu'
  simp [clauseWf, hu u hu']

example : printCnf 3 [1, -2] [[1, 2, 3]] =
    [[.word "p", .word "cnf", .int 3, .int 3], [.int 1, .int 0], [.int (-2), .int 0],
     [.int 1, .int 2, .int 3, .int 0]] ∧
    (∀ u ∈ [(1 : Int), -2], litOk 3 u = true) ∧ cnfWf 3 [[1, 2, 3]] = true := by
  refine ⟨by rfl, by decide +kernel, by decide +kernel⟩

/-- A printed unit, as an OPB constraint. -/
def unitC (u : Int) : OpbConstr := ⟨[(1, u)], .eq, 1⟩

/-- A printed clause, as an OPB constraint. -/
def clauseC (c : PBC) : OpbConstr := ⟨c.terms, .ge, c.atLeast⟩

theorem renderTerms_default : ∀ ts : List (Int × Int),
    renderTerms ts [] = ts.flatMap (fun t => [Tok.int t.1, varTok t.2]) := by
  intro ts
  induction ts with
  | nil => rfl
  | cons t ts ih => simp [renderTerms, renderTerm, ih]

theorem pbTermsRest_eq : ∀ ts : List (Int × Int), (∀ t ∈ ts, 0 ≤ t.1) →
    pbTermsRest ts = renderTerms ts [] := by
  intro ts
  induction ts with
  | nil => intro _; rfl
  | cons t ts ih =>
    intro h
    have h0 : 0 ≤ t.1 := h t (by simp)
    simp [pbTermsRest, plusTok, h0, renderTerms, renderTerm, ih (fun t' h' => h t' (by simp [h']))]

theorem pbTermsToks_eq (ts : List (Int × Int)) (h : ∀ t ∈ ts.tail, 0 ≤ t.1) :
    pbTermsToks ts = renderTerms ts [] := by
  cases ts with
  | nil => rfl
  | cons t ts => simp [pbTermsToks, renderTerms, renderTerm, pbTermsRest_eq ts h]

theorem renderConstrs_default : ∀ cs : List OpbConstr, renderConstrs cs [] = cs.map (fun c => c.renderLine []) := by
  intro cs
  induction cs with
  | nil => rfl
  | cons c cs ih => simp [renderConstrs, ih]

theorem pbClauseLine_eq (c : PBC) (h : ∀ t ∈ c.terms.tail, 0 ≤ t.1) :
    pbClauseLine c = (clauseC c).renderLine [] := by
  simp [pbClauseLine, clauseC, OpbConstr.renderLine, relTok, pbTermsToks_eq c.terms h]

theorem printPB_eq_render (obj : Option (List (Int × Int))) (units : List Int) (clauses : List PBC)
    (hc : ∀ c ∈ clauses, ∀ t ∈ c.terms.tail, 0 ≤ t.1) :
    printPB obj units clauses = (Opb.mk obj (units.map unitC ++ clauses.map clauseC)).renderLines {} := by
  have h1 : clauses.map pbClauseLine = clauses.map (fun c => (clauseC c).renderLine []) :=
    List.map_congr_left fun c hcm => pbClauseLine_eq c (hc c hcm)
  have h2 : units.map pbUnitLine = units.map (fun u => (unitC u).renderLine []) := by
    apply List.map_congr_left
    intro u _
    simp [pbUnitLine, unitC, OpbConstr.renderLine, relTok, renderTerms, renderTerm]
  simp only [printPB, Opb.renderLines, renderObjectiveLines, renderConstrs_default, List.map_nil,
    List.nil_append, List.append_nil, List.map_append, List.map_map, h1, h2]
  cases obj with
  | none => rfl
  | some ts => simp [costLine, renderObjective, renderTerms_default]; rfl

theorem unitC_sem (a : Asg) (u : Int) : (unitC u).sem a = litTrue a u := by
  simp only [unitC, OpbConstr.sem, lhs, termVal]
  cases litTrue a u <;> simp

/-- **C18, OPB.** What `Problem.PBString()` prints (cost function line, one line per unit, one
    line per clause) is read back by `solver.ParseOPB` without error as: the same cost terms,
    constraints with exactly the models "every unit true and every clause satisfied" (also after
    the per-constraint case analysis), hence the same cost under every assignment. -/
theorem pb_print_parse (obj : Option (List (Int × Int))) (units : List Int) (clauses : List PBC)
    (hu : ∀ u ∈ units, u ≠ 0)
    (hc : ∀ c ∈ clauses, c.terms ≠ [] ∧ (∀ t ∈ c.terms, t.2 ≠ 0) ∧ (∀ t ∈ c.terms.tail, 0 ≤ t.1)) :
    ∃ r, parseOpbLines (printPB obj units clauses) = .ok r ∧ r.obj = obj ∧
      (∀ p ∈ r.constrs, p.normal = true) ∧
      (∀ a, r.constrs.all (·.sem a) = (units.all (litTrue a) && clauses.all (·.sem a))) ∧
      (∀ a, r.frontSem a = (units.all (litTrue a) && clauses.all (·.sem a))) ∧
      (∀ a, cost (r.obj.getD []) a = cost (obj.getD []) a) := by
  rw [printPB_eq_render obj units clauses (fun c h => (hc c h).2.2)]
  have hwf : (Opb.mk obj (units.map unitC ++ clauses.map clauseC)).wf = true := by
    simp only [Opb.wf, List.all_append, List.all_map, Bool.and_eq_true, List.all_eq_true]
    refine ⟨fun u hu' => ?_, fun c hc' => ?_⟩
    · simp [OpbConstr.wf, unitC, hu u hu']
    · obtain ⟨h1, h2, _⟩ := hc c hc'
      exact (clauseC c).wf_iff.2 ⟨h2, h1⟩
  obtain ⟨r, h1, h2, _, h4, h5, h6, _⟩ := parseOpb_render _ {} hwf
  have hsem : ∀ a, (Opb.mk obj (units.map unitC ++ clauses.map clauseC)).sem a =
      (units.all (litTrue a) && clauses.all (·.sem a)) := by
    intro a
    simp only [Opb.sem, List.all_append, List.all_map, Function.comp_def, unitC_sem]
    rfl
  refine ⟨r, h1, h2, h4, fun a => by rw [h5, hsem], fun a => by rw [h6, hsem], fun a => by rw [h2]⟩

/-- `min: 3 x1 -2 ~x2 +0 x3 ;` / `1 x1 = 1 ;` / `1 ~x2 = 1 ;` / `4 x3 +3 x2 +2 x1 >= 5 ;` / `1 x1 +1 ~x2 >= 1 ;` -/
example :
    let obj := some (costTerms [1, -2, 3] (some [3, -2, 0]))
    let clauses : List PBC := [⟨[3, 2, 1], some [4, 3, 2], 5⟩, ⟨[1, -2], none, 1⟩]
    printPB obj [1, -2] clauses =
      [[.word "min:", .int 3, .word "x1", .int (-2), .word "~x2", .int 0, .word "x3", .word ";"],
       [.int 1, .word "x1", .word "=", .int 1, .word ";"], [.int 1, .word "~x2", .word "=", .int 1, .word ";"],
       [.int 4, .word "x3", .int 3, .word "x2", .int 2, .word "x1", .word ">=", .int 5, .word ";"],
       [.int 1, .word "x1", .int 1, .word "~x2", .word ">=", .int 1, .word ";"]] ∧
    (∀ c ∈ clauses, c.terms ≠ [] ∧ (∀ t ∈ c.terms, t.2 ≠ 0) ∧ (∀ t ∈ c.terms.tail, 0 ≤ t.1)) := by
  refine ⟨by rfl, by decide +kernel⟩

/-! ### Why the hypotheses: the empty clause is printed as ` >= 1 ;`, which `ParseOPB` rejects;
a negative weight after the first term is printed as `+-2`, on which `parseTerms` panics. -/

example : parseOpbLines (printPB none [] [⟨[], none, 1⟩]) = .error "invalid syntax" := by rfl
example : parseOpbLines (printPB none [] [⟨[1, 2], some [1, -2], 1⟩]) = .error "panic: index out of range" := by rfl

end GS.Formats

#print axioms GS.Formats.parseCnf_render
#print axioms GS.Formats.parseCnf_render_sem
#print axioms GS.Formats.explainParse_render
#print axioms GS.Formats.parseOpb_render
#print axioms GS.Formats.parseWcnf_render
#print axioms GS.Formats.wcnf_answer_rendered
#print axioms GS.Formats.cnf_print_parse
#print axioms GS.Formats.pb_print_parse
