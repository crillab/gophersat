import GS.Model.Search
import GS.Props.C01_WatchPropagate
/-!
# C01 (support) — the replayed CDCL loop `GS.Search`: what is proved about accepted logs

`GS.Search.run` replays `Solve` → `search` → `propagateAndSearch` from a log of the heuristic choices and is
compared with the Go code, final state against final state, by the harness (`x_search.go`, op `searchrun`).

Proved here, for EVERY log (every resolution of the heuristic choices): an accepted log with verdict `sat`
ends with every variable bound (`run_sat_allBound`), and if the final state satisfies `watchInv` with
everything processed the bindings satisfy every clause held (`search_sat_sound_partial`); a DECISION,
`doUnify` of an unbound literal at a level `> 0` (what the event `unify` runs in phase `choose` and, one level
up, in phase `afterUnify`), cannot panic in `unifyLiteral` and, without conflict, keeps `watchInv`
(`decision_step`, `doUnify_no_unify_panic`); as a step of the replay this is stated for phase `choose` only
(`step_decision_inv`).

NOT proved: the full statements at the end of the file (`…_statement`); what is missing is the preservation
of the invariant by the other event kinds.  The obstacle is not the replay but the invariant:
`GS.Watch.WatchInv` has no decision levels, and "after `cleanupBindings(lvl)` every remaining trail literal is
still processed" (`semLong` for the shortened trail) needs the level-aware strengthening "the true literal
that excuses a false watched literal was bound at a level ≤ the level of the false one" (`WatchInvL` in
`C01_WatchLevels`: kept by `cleanupBindings` from a state with everything processed, which a state with a
conflict is not; that `propagate` keeps it is open, `propagate_specL_statement`).  Events covered by an invariant proof:
`unify` as a decision without conflict, `fin`.  Not covered: `unify` with conflict (analysis → `learn`),
`learn` (`addLearned` + backjump), `unify` of the asserting literal (needs the backjump result), `restart`
(`cleanupBindings(1)`), `reduce` / `reduced` (a removed clause keeps its slot in `ws.clauses`, so `count`
of `WatchInv` would have to be restricted to the held clauses).
-/
namespace GS.Search
open GS.Watch

/-! Which phase an accepted call ends in: one case per branch of the function (`fun_cases`); a
    branch that returns an error is not `.ok`. -/

theorem onConflict_phase {st st' : St} {ws : State} {cid : Nat} : onConflict st ws cid = .ok st' →
    st'.phase = .done .unsat ∨ st'.phase = .choose ∨ ∃ a rest, st'.phase = .learn a rest := by
  fun_cases onConflict st ws cid <;> intro h
  any_goals cases h
  · exact Or.inl rfl
  · exact Or.inl rfl
  · exact Or.inl rfl
  · exact Or.inr (Or.inl rfl)
  · exact Or.inr (Or.inr ⟨_, _, rfl⟩)

theorem doUnify_phase {st st' : St} {lit : Int} : doUnify st lit = .ok st' →
    st'.phase = .afterUnify ∨ st'.phase = .done .unsat ∨ st'.phase = .choose ∨
      ∃ a rest, st'.phase = .learn a rest := by
  fun_cases doUnify st lit <;> intro h
  any_goals cases h
  · exact Or.inl rfl
  · exact Or.inr (onConflict_phase h)

theorem doLearn_phase {st st' : St} {lits : List Int} : doLearn st lits = .ok st' →
    ∃ a, st'.phase = .assert a := by
  fun_cases doLearn st lits <;> intro h
  any_goals cases h
  exact ⟨_, rfl⟩

theorem doReduce_phase {st st' : St} {sorted : List Nat} : doReduce st sorted = .ok st' →
    ∃ final, st'.phase = .reduced final := by
  fun_cases doReduce st sorted <;> intro h
  any_goals cases h
  exact ⟨_, rfl⟩

/-- **What an accepted step does, by event kind**: the guards of `step` passed, and what is left of it.
    A `unify` is the assertion of the asserting literal or a decision on an unbound literal. -/
theorem step_ok {st st' : St} {ev : Event} : step st ev = .ok st' →
    match ev with
    | .unify lit _ => ∃ l, doUnify { st with lvl := l } lit = .ok st' ∧
        (l = st.lvl ∨ st.phase = .afterUnify) ∧
        ((∃ a, st.phase = .assert a) ∨ litStatus st.ws.model lit = some .indet)
    | .learn lits => doLearn st lits = .ok st'
    | .restart => st' = { st with ws := cleanup 1 st.ws, lvl := 2, phase := .choose }
    | .reduce sorted => doReduce st sorted = .ok st'
    | .reduced _ => st' = { st with lvl := st.lvl + 1, phase := .choose }
    | .fin b => st' = { st with phase := .ended (if b then .sat else .unsat) } ∧
        (b = true → allBound st.ws = true ∧ (st.phase = .afterUnify ∨ st.phase = .choose)) := by
  fun_cases step st ev <;> intro h
  -- a rejection is not `.ok`; eleven rows accept
  any_goals cases h
  · rename_i hp _ _; exact ⟨st.lvl, h, Or.inl rfl, Or.inl ⟨_, hp⟩⟩
  · rename_i hp _ _ hu; exact ⟨_, h, Or.inr hp, Or.inr (Classical.not_not.mp hu)⟩
  · rename_i hu; exact ⟨st.lvl, h, Or.inl rfl, Or.inr (Classical.not_not.mp hu)⟩
  · rw [if_pos ‹_›] at h; cases h
  · rw [if_neg ‹_›] at h; exact h
  · rfl
  · exact h
  · rfl
  · rename_i hp _ hb; exact ⟨rfl, fun _ => ⟨by simpa using hb, Or.inl hp⟩⟩
  · rename_i hp hb; exact ⟨rfl, fun _ => ⟨by simpa using hb, Or.inr hp⟩⟩
  · exact ⟨rfl, fun hb => nomatch hb⟩

/-- Nothing is accepted once `search` has returned. -/
theorem step_ended_stuck {st : St} {v : Verdict} (hp : st.phase = .ended v) (ev : Event) :
    ∃ m, step st ev = .error (.reject m) := by
  unfold step
  rw [hp]
  cases ev <;> simp

theorem step_fin_sat {st st' : St} (h : step st (.fin true) = .ok st') :
    st'.ws = st.ws ∧ st'.phase = .ended .sat ∧ allBound st.ws = true ∧
      (st.phase = .afterUnify ∨ st.phase = .choose) := by
  obtain ⟨rfl, hb⟩ := step_ok h
  exact ⟨rfl, rfl, hb rfl⟩

theorem step_ended {st st' : St} {ev : Event} {v : Verdict} (h : step st ev = .ok st')
    (hp : st'.phase = .ended v) : st'.ws = st.ws ∧ (v = .sat → allBound st.ws = true) := by
  have hs := step_ok h
  cases ev with
  | fin b =>
    obtain ⟨rfl, hb⟩ := hs
    refine ⟨rfl, fun hv => (hb ?_).1⟩
    cases b
    · subst hv; cases hp
    · rfl
  | unify lit lvl =>
    obtain ⟨l, hs, _⟩ := hs
    rcases doUnify_phase hs with h1 | h1 | h1 | ⟨_, _, h1⟩ <;> rw [h1] at hp <;> cases hp
  | learn lits => obtain ⟨_, h1⟩ := doLearn_phase hs; rw [h1] at hp; cases hp
  | restart => rw [hs] at hp; cases hp
  | reduce sorted => obtain ⟨_, h1⟩ := doReduce_phase hs; rw [h1] at hp; cases hp
  | reduced after => rw [hs] at hp; cases hp

theorem runFrom_inv (P : St → Prop) (hstep : ∀ st ev st', P st → step st ev = .ok st' → P st')
    (evs : List Event) (i : Nat) (st st' : St) : P st → runFrom i st evs = .ok st' → P st' := by
  fun_induction runFrom i st evs <;> intro hP h
  · cases h; exact hP
  · cases h
  · rename_i hs ih; exact ih (hstep _ _ _ hP hs) h

theorem run_ok {st0 st : St} {evs : List Event} {v : Verdict} (h : run st0 evs = .ok (st, v)) :
    runFrom 0 st0 evs = .ok st ∧ st.phase = .ended v := by
  revert h
  fun_cases run st0 evs <;> intro h
  any_goals cases h
  exact ⟨‹_›, ‹_›⟩

/-- **An accepted log with verdict `sat` ends with every variable bound** (for every log). -/
theorem run_sat_allBound {st0 st : St} {evs : List Event} (h0 : ∀ v, st0.phase ≠ .ended v)
    (h : run st0 evs = .ok (st, .sat)) : allBound st.ws = true := by
  obtain ⟨hr, hp⟩ := run_ok h
  have := runFrom_inv (fun s => s.phase = .ended .sat → allBound s.ws = true)
    (fun s ev s' _ hs hp' => by
      obtain ⟨hw, hb⟩ := step_ended hs hp'
      rw [hw]; exact hb rfl) evs 0 st0 st (fun hp0 => absurd hp0 (h0 _)) hr
  exact this hp

theorem allBound_iff (ws : State) : allBound ws = true ↔ ∀ a ∈ ws.model, a ≠ 0 := by
  simp [allBound, List.all_eq_true]

/-- **Partial `search_sat_sound_statement`.**  For every accepted log with verdict `sat`: every variable is bound, and
    if the final state satisfies `watchInv` (everything processed) the assignment read off the bindings
    satisfies every clause the solver holds (original clauses, up to the order of their literals, and
    learned ones). -/
theorem search_sat_sound_partial {st0 st : St} {evs : List Event} (h0 : ∀ v, st0.phase ≠ .ended v)
    (h : run st0 evs = .ok (st, .sat)) :
    (∀ a ∈ st.ws.model, a ≠ 0) ∧
    (watchInv st.ws st.ws.trail.length = true →
      GS.cnfTrue (modelAsg st.ws.model) st.ws.clauses = true) := by
  have hb := (allBound_iff _).mp (run_sat_allBound h0 h)
  exact ⟨hb, fun hinv => watch_total_model hinv hb⟩

theorem init_phase {n nbMax : Nat} {cls : List (List Int)} {units : List Int} {st0 : St}
    (h : init n nbMax cls units = some st0) : ∀ v, st0.phase ≠ .ended v := by
  revert h
  fun_cases init n nbMax cls units <;> intro h
  any_goals cases h
  exact fun _ => Phase.noConfusion

/-- **Decision step.**  From a state satisfying `watchInv` (everything processed), `unifyLiteral` of an
    unbound literal at a positive level does not panic; without conflict the mirror goes to phase
    `afterUnify` in a state satisfying `watchInv` again; with a conflict it enters the analysis with a
    clause of the state all of whose literals are false. -/
theorem decision_step {st : St} {lit : Int} (h : watchInv st.ws st.ws.trail.length = true)
    (hu : litUnboundB st.ws.model lit = true) (hlvl : 0 < st.lvl) :
    ∃ confl ws', unifyLiteral lit st.lvl st.ws = .ok (confl, ws') ∧
      (confl = none → doUnify st lit = .ok { st with ws := ws', phase := .afterUnify } ∧
        watchInv ws' ws'.trail.length = true) ∧
      (∀ cid, confl = some cid → doUnify st lit = onConflict st ws' cid ∧
        ∃ c, ws'.clauses[cid]? = some c ∧ ∀ l ∈ c, litFalseB ws'.model l = true) := by
  obtain ⟨confl, ws', hres, _, _, hnone, hconfl⟩ := unifyLiteral_spec h hu hlvl
  refine ⟨confl, ws', hres, ?_, ?_⟩
  · intro hc
    subst hc
    exact ⟨by simp [doUnify, hres], hnone rfl⟩
  · intro cid hc
    subst hc
    exact ⟨by simp [doUnify, hres], (hconfl cid rfl).2⟩

/-- a decision never makes the mirror panic inside `unifyLiteral` -/
theorem doUnify_no_unify_panic {st : St} {lit : Int} (h : watchInv st.ws st.ws.trail.length = true)
    (hu : litUnboundB st.ws.model lit = true) (hlvl : 0 < st.lvl) :
    doUnify st lit ≠ .error (.panic "unifyLiteral") := by
  obtain ⟨confl, ws', hres, hn, hc⟩ := decision_step h hu hlvl
  cases confl with
  | none => rw [(hn rfl).1]; simp
  | some cid =>
    -- every error `onConflict` can return carries another message
    rw [(hc cid rfl).1]
    fun_cases onConflict st ws' cid <;> simp

/-- **The decision event keeps the invariant** (phase `choose`): if the step is accepted and no conflict
    arose, the new state satisfies `watchInv` with everything processed. -/
theorem step_decision_inv {st st' : St} {lit lvl : Int} (hp : st.phase = .choose)
    (h : watchInv st.ws st.ws.trail.length = true) (hlvl : 0 < st.lvl)
    (hs : step st (.unify lit lvl) = .ok st') (hp' : st'.phase = .afterUnify) :
    watchInv st'.ws st'.ws.trail.length = true := by
  obtain ⟨l, hs, hl, hd⟩ := step_ok hs
  rw [hp] at hl hd
  obtain rfl : l = st.lvl := hl.resolve_right Phase.noConfusion
  have hu := hd.resolve_left fun ⟨_, e⟩ => Phase.noConfusion e
  obtain ⟨confl, ws', hres, hn, hc⟩ := decision_step h (litUnboundB_of_indet hu) hlvl
  cases confl with
  | none =>
    rw [(hn rfl).1] at hs
    cases hs
    exact (hn rfl).2
  | some cid =>
    rw [(hc cid rfl).1] at hs
    rcases onConflict_phase hs with h1 | h1 | ⟨_, _, h1⟩ <;> rw [h1] at hp' <;> cases hp'

/-! ## full statements (not proved) -/

def origCnf (cls : List (List Int)) (units : List Int) : List (List Int) := cls ++ units.map (fun u => [u])

/-- An accepted log with verdict `sat` ends with a total assignment satisfying the problem. -/
def search_sat_sound_statement : Prop :=
  ∀ (n nbMax : Nat) (cls : List (List Int)) (units : List Int) (evs : List Event) (st0 st : St),
    cls.all (clauseOk n) = true → init n nbMax cls units = some st0 →
    run st0 evs = .ok (st, .sat) →
    (∀ a ∈ st.ws.model, a ≠ 0) ∧ GS.cnfTrue (modelAsg st.ws.model) (origCnf cls units) = true

/-- An accepted log with verdict `unsat` means the problem has no model. -/
def search_unsat_sound_statement : Prop :=
  ∀ (n nbMax : Nat) (cls : List (List Int)) (units : List Int) (evs : List Event) (st0 st : St),
    cls.all (clauseOk n) = true → init n nbMax cls units = some st0 →
    run st0 evs = .ok (st, .unsat) →
    ∀ a : GS.Asg, GS.cnfTrue a (origCnf cls units) = false

/-- Every clause learned along an accepted prefix follows from the problem. -/
def search_learned_entailed_statement : Prop :=
  ∀ (n nbMax : Nat) (cls : List (List Int)) (units : List Int) (evs : List Event) (st0 st : St),
    cls.all (clauseOk n) = true → init n nbMax cls units = some st0 →
    runFrom 0 st0 evs = .ok st →
    ∀ cid c, cls.length ≤ cid → st.ws.clauses[cid]? = some c → GS.CnfEntails (origCnf cls units) c

/-- A log is either followed or rejected; the mirror never reaches a Go panic.  (`2000` is
    `initNbMaxClauses`; `nbMax = 0` divides by zero in `NbConflicts/nbMax`.  The panic of `reduceLearned` on
    an empty `wl.learned`, `s.wl.learned[length]`, is repaired in the Go code: commit b1c905d.) -/
def search_no_panic_statement : Prop :=
  ∀ (n nbMax : Nat) (cls : List (List Int)) (units : List Int) (evs : List Event) (st0 : St),
    cls.all (clauseOk n) = true → 2000 ≤ nbMax → init n nbMax cls units = some st0 →
    ∀ i m, runFrom 0 st0 evs ≠ .error (i, .panic m)

/-- `(1 ∨ 2) ∧ (¬1 ∨ 2) ∧ (1 ∨ ¬2 ∨ 3)`: the decision `¬2` propagates `1` and falsifies `¬1 ∨ 2`; the unit
    `2` is learned and bound at level 1; the decision `¬1` then propagates `3`. -/
def exLog : List Event := [.unify (-2) 2, .unify (-1) 2, .fin true]

example : (init 3 2000 [[1, 2], [-1, 2], [1, -2, 3]] []).isSome = true := by decide +kernel

/-- the log is accepted with verdict `sat`, the final state satisfies `watchInv` (the hypothesis of
    `search_sat_sound_partial`) after one conflict. -/
example : (match init 3 2000 [[1, 2], [-1, 2], [1, -2, 3]] [] with
    | some st0 =>
      match run st0 exLog with
      | .ok (st, .sat) => watchInv st.ws st.ws.trail.length && st.ws.model == [-2, 1, 2] && st.nbConfl == 1
      | _ => false
    | none => false) = true := by decide +kernel

end GS.Search

#print axioms GS.Search.run_sat_allBound
#print axioms GS.Search.search_sat_sound_partial
#print axioms GS.Search.decision_step
#print axioms GS.Search.doUnify_no_unify_panic
#print axioms GS.Search.step_decision_inv
#print axioms GS.Search.step_fin_sat
#print axioms GS.Search.step_ended_stuck
