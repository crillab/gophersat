import GS.Model.PbSet
/-!
# C14 — soundness of the `pbSet` arithmetic of `solver/learn_pb.go`

The operations the cutting-planes conflict analysis applies to a constraint map constraints that hold
under an assignment to a constraint that holds under it: `clash` and the weakening loop of `roundToOne`
always, `divideBy` and `roundToOne` under a side condition on the degree (`divSafe`, `roundSafe`; without
it they are unsound, `divide_unsound`). The side condition holds when the constraint is conflicting or
propagating under the partial model, and `roundToOne` keeps it so (`freeSum`, the weight the model does
not falsify). `Derivable` closes the problem constraints under the operations with their side conditions
(`derivation_sound`); `PbSet.toLin` is `(*pbSet).clause()`, which carries the result into the vocabulary
of `GS.Spec.Basic` (`derivation_entails`). All arithmetic is over unbounded `Int` (Go's `int` overflow is
outside this model).
-/
namespace GS

/-! Sums of a function of position and weight over a weight list: what the rules need from such sums
is proved once, and each rule then rests on a fact about one position. -/

/-- `Σᵢ f (k+i) wsᵢ` -/
def sumPos (f : Nat → Int → Int) : Nat → List Int → Int
  | _, [] => 0
  | k, w :: ws => f k w + sumPos f (k+1) ws

/-- `[g k ws₀, g (k+1) ws₁, …]` -/
def mapPos (g : Nat → Int → Int) : Nat → List Int → List Int
  | _, [] => []
  | k, w :: ws => g k w :: mapPos g (k+1) ws

theorem forall_getD_cons {P : Nat → Int → Prop} {k : Nat} {w : Int} {ws : List Int}
    (h : ∀ i, P (k+i) ((w :: ws).getD i 0)) : P k w ∧ ∀ i, P (k+1+i) (ws.getD i 0) :=
  ⟨h 0, fun i => by
    have := h (i+1)
    rwa [List.getD_cons_succ, show k + (i+1) = k + 1 + i by omega] at this⟩

theorem getD_set_ne (l : List Int) (v j : Nat) (x : Int) (h : j ≠ v) :
    (l.set v x).getD j 0 = l.getD j 0 := by
  simp only [List.getD_eq_getElem?_getD, List.getElem?_set]
  rw [if_neg (fun h' => h h'.symm)]

theorem getD_set_self (l : List Int) (v : Nat) (x : Int) (h : v < l.length) :
    (l.set v x).getD v 0 = x := by
  simp [List.getD_eq_getElem?_getD, h]

theorem sumPos_le {f g : Nat → Int → Int} : ∀ (ws : List Int) (k : Nat),
    (∀ i, f (k+i) (ws.getD i 0) ≤ g (k+i) (ws.getD i 0)) → sumPos f k ws ≤ sumPos g k ws
  | [], _, _ => Int.le_refl 0
  | _ :: ws, k, h =>
    have ⟨h0, ht⟩ := forall_getD_cons (P := fun j x => f j x ≤ g j x) h
    Int.add_le_add h0 (sumPos_le ws (k+1) ht)

theorem sumPos_congr {f g : Nat → Int → Int} (ws : List Int) (k : Nat)
    (h : ∀ i, f (k+i) (ws.getD i 0) = g (k+i) (ws.getD i 0)) : sumPos f k ws = sumPos g k ws :=
  Int.le_antisymm (sumPos_le ws k fun i => Int.le_of_eq (h i))
    (sumPos_le ws k fun i => Int.le_of_eq (h i).symm)

theorem sumPos_zero : ∀ (ws : List Int) (k : Nat), sumPos (fun _ _ => 0) k ws = 0
  | [], _ => rfl
  | _ :: ws, k => by rw [sumPos, sumPos_zero ws]; rfl

theorem sumPos_nonneg {f : Nat → Int → Int} (h : ∀ j w, 0 ≤ f j w) (ws : List Int) (k : Nat) :
    0 ≤ sumPos f k ws := by
  rw [← sumPos_zero ws k]; exact sumPos_le ws k fun _ => h _ _

theorem sumPos_add (f g : Nat → Int → Int) : ∀ (ws : List Int) (k : Nat),
    sumPos (fun j w => f j w + g j w) k ws = sumPos f k ws + sumPos g k ws
  | [], _ => rfl
  | _ :: ws, k => by simp only [sumPos, sumPos_add f g ws]; omega

theorem sumPos_mul (c : Int) (f : Nat → Int → Int) : ∀ (ws : List Int) (k : Nat),
    sumPos (fun j w => c * f j w) k ws = c * sumPos f k ws
  | [], _ => (Int.mul_zero c).symm
  | _ :: ws, k => by simp only [sumPos, sumPos_mul c f ws, Int.mul_add]

theorem sumPos_mapPos (f g : Nat → Int → Int) : ∀ (ws : List Int) (k : Nat),
    sumPos f k (mapPos g k ws) = sumPos (fun j w => f j (g j w)) k ws
  | [], _ => rfl
  | _ :: ws, k => by simp only [mapPos, sumPos, sumPos_mapPos f g ws]

theorem map_eq_mapPos (g : Int → Int) : ∀ (ws : List Int) (k : Nat), ws.map g = mapPos (fun _ => g) k ws
  | [], _ => rfl
  | _ :: ws, k => by simp only [List.map_cons, mapPos, map_eq_mapPos g ws (k+1)]

theorem length_mapPos (g : Nat → Int → Int) : ∀ (ws : List Int) (k : Nat),
    (mapPos g k ws).length = ws.length
  | [], _ => rfl
  | _ :: ws, k => by simp only [mapPos, List.length_cons, length_mapPos g ws]

theorem getD_mapPos {g : Nat → Int → Int} (hg : ∀ j, g j 0 = 0) : ∀ (ws : List Int) (k i : Nat),
    (mapPos g k ws).getD i 0 = g (k+i) (ws.getD i 0)
  | [], k, i => by simp [mapPos, hg]
  | _ :: ws, k, 0 => rfl
  | _ :: ws, k, i+1 => by
    simp only [mapPos, List.getD_cons_succ, getD_mapPos hg ws]
    rw [show k + 1 + i = k + (i+1) by omega]

theorem sumPos_le_add_at {f g : Nat → Int → Int} (v : Nat) (hg : ∀ w, 0 ≤ g v w) (hf : f v 0 = 0)
    (ws : List Int) (h : ∀ i, i ≠ v → f i (ws.getD i 0) ≤ g i (ws.getD i 0)) :
    sumPos f 0 ws ≤ sumPos g 0 ws + f v (ws.getD v 0) := by
  have key : ∀ (ws : List Int) (k : Nat),
      (∀ i, k + i ≠ v → f (k+i) (ws.getD i 0) ≤ g (k+i) (ws.getD i 0)) →
      sumPos f k ws ≤ sumPos g k ws + if k ≤ v then f v (ws.getD (v - k) 0) else 0 := by
    intro ws
    induction ws with
    | nil => intro k _; simp only [sumPos, List.getD_nil, hf]; split <;> omega
    | cons w ws ih =>
      intro k h
      obtain ⟨h0, ht⟩ := forall_getD_cons
        (P := fun j x => j ≠ v → f j x ≤ g j x) h
      have ih := ih (k+1) ht
      simp only [sumPos]
      by_cases hk : k = v
      · subst hk
        have := hg w
        rw [if_neg (by omega)] at ih
        rw [if_pos (Nat.le_refl k), Nat.sub_self, List.getD_cons_zero]; omega
      · have := h0 hk
        by_cases hlt : k < v
        · rw [if_pos (by omega)] at ih
          rw [if_pos (by omega), show v - k = (v - (k+1)) + 1 by omega, List.getD_cons_succ]; omega
        · rw [if_neg (by omega)] at ih
          rw [if_neg (by omega)]; omega
  have := key ws 0 fun i hi => by rw [Nat.zero_add] at hi ⊢; exact h i hi
  rwa [if_pos (Nat.zero_le v), Nat.sub_zero] at this

theorem sumPos_set {f : Nat → Int → Int} (hf : ∀ j, f j 0 = 0) : ∀ (ws : List Int) (k i : Nat) (x : Int),
    i < ws.length → ws.getD i 0 = 0 → sumPos f k (ws.set i x) = sumPos f k ws + f (k+i) x
  | [], _, _, _, hi, _ => absurd hi (Nat.not_lt_zero _)
  | w :: ws, k, 0, x, _, h0 => by
    rw [List.getD_cons_zero] at h0
    subst h0
    simp only [List.set_cons_zero, sumPos, Nat.add_zero, hf]; omega
  | w :: ws, k, i+1, x, hi, h0 => by
    simp only [List.set_cons_succ, sumPos]
    rw [sumPos_set hf ws (k+1) i x (Nat.lt_of_succ_lt_succ hi) h0, show k + 1 + i = k + (i + 1) by omega]
    omega

theorem iabs_nonneg (x : Int) : 0 ≤ iabs x := by unfold iabs; split <;> omega

theorem iabs_of_nonneg {x : Int} (h : 0 ≤ x) : iabs x = x := if_neg (Int.not_lt.mpr h)

theorem iabs_of_neg {x : Int} (h : x < 0) : iabs x = -x := if_pos h

theorem iabs_of_nonpos {x : Int} (h : x ≤ 0) : iabs x = -x := by unfold iabs; split <;> omega

theorem iabs_zero : iabs 0 = 0 := rfl

theorem iabs_eq_zero {x : Int} (h : iabs x = 0) : x = 0 := by
  unfold iabs at h; split at h <;> omega

theorem iabs_pos {x : Int} (h : x ≠ 0) : 0 < iabs x := by
  unfold iabs; split <;> omega

theorem mul_neg_iff_signs (x y : Int) : x * y < 0 ↔ (x < 0 ∧ 0 < y) ∨ (0 < x ∧ y < 0) := by
  constructor
  · intro h
    rcases Int.lt_trichotomy x 0 with hx | hx | hx
    · rcases Int.lt_trichotomy y 0 with hy | hy | hy
      · have := Int.mul_pos_of_neg_of_neg hx hy; omega
      · subst hy; simp at h
      · exact Or.inl ⟨hx, hy⟩
    · subst hx; simp at h
    · rcases Int.lt_trichotomy y 0 with hy | hy | hy
      · exact Or.inr ⟨hx, hy⟩
      · subst hy; simp at h
      · have := Int.mul_pos hx hy; omega
  · rintro (⟨hx, hy⟩ | ⟨hx, hy⟩)
    · exact Int.mul_neg_of_neg_of_pos hx hy
    · exact Int.mul_neg_of_pos_of_neg hx hy

/-- the degree correction of `clash` at one position -/
def corr1 (x y : Int) : Int := if x * y < 0 then imin (iabs x) (iabs y) else 0

theorem clashCorr_cons (x y : Int) (r1 r2 : List Int) :
    clashCorr (x :: r1) (y :: r2) = corr1 x y + clashCorr r1 r2 := rfl

theorem corr1_nonneg (x y : Int) : 0 ≤ corr1 x y := by
  have := iabs_nonneg x
  have := iabs_nonneg y
  unfold corr1 imin
  split
  · split <;> omega
  · exact Int.le_refl 0

theorem iabs_add_clash (x y : Int) : iabs (x + y) + 2 * corr1 x y = iabs x + iabs y := by
  unfold corr1
  by_cases h : x * y < 0
  · rw [if_pos h]
    rcases (mul_neg_iff_signs x y).mp h with ⟨hx, hy⟩ | ⟨hx, hy⟩
    · rw [iabs_of_neg hx, iabs_of_nonneg (Int.le_of_lt hy)]
      unfold imin iabs; omega
    · rw [iabs_of_neg hy, iabs_of_nonneg (Int.le_of_lt hx)]
      unfold imin iabs; omega
  · rw [if_neg h]
    rw [mul_neg_iff_signs] at h
    unfold iabs; omega

/-! A constraint is evaluated by adding up the weights of the literals that belong to some set: the
literals true under an assignment (`lhsFrom`, which is `selW (asgSel a)` summed), or, further down, the
literals a partial model does not falsify, some variables left out (`freeSum`, `selW (modSel m excl)`).
`c j p` says that the literal of variable `j+1` with polarity `p` belongs to the set. What a rule does to
such a sum is proved once, for every set; comparing two of the sums is comparing the sets. -/

section
variable (c : Nat → Bool → Prop) [∀ j p, Decidable (c j p)]

/-- the weight stored at position `j`, if `c` selects its literal -/
def selW (j : Nat) (w : Int) : Int := if c j (decide (w > 0)) then iabs w else 0

theorem selW_zero (j : Nat) : selW c j 0 = 0 := by unfold selW; split <;> rfl

theorem selW_nonneg (j : Nat) (w : Int) : 0 ≤ selW c j w := by
  unfold selW; have := iabs_nonneg w; split <;> omega

theorem selW_le_iabs (j : Nat) (w : Int) : selW c j w ≤ iabs w := by
  unfold selW; have := iabs_nonneg w; split <;> omega

variable {c} in
theorem selW_mono {c' : Nat → Bool → Prop} [∀ j p, Decidable (c' j p)] {j : Nat} {w : Int}
    (h : c j (decide (w > 0)) → c' j (decide (w > 0))) : selW c j w ≤ selW c' j w := by
  unfold selW
  by_cases hc : c j (decide (w > 0))
  · rw [if_pos hc, if_pos (h hc)]; exact Int.le_refl _
  · rw [if_neg hc]; exact selW_nonneg c' j w

variable {c} in
theorem selW_congr {c' : Nat → Bool → Prop} [∀ j p, Decidable (c' j p)] {j : Nat} {w : Int}
    (h : c j (decide (w > 0)) ↔ c' j (decide (w > 0))) : selW c j w = selW c' j w :=
  Int.le_antisymm (selW_mono h.mp) (selW_mono h.mpr)

/-- A selected literal of signed weight `w` is worth `(|w| + w) / 2` if it is the positive one and
    `(|w| - w) / 2` if it is the negative one: linear in `w` and `|w|`, so that a relation between
    selected weights follows from the same relation between absolute values. -/
theorem two_selW (j : Nat) (w : Int) :
    2 * selW c j w = (if c j true then iabs w + w else 0) + (if c j false then iabs w - w else 0) := by
  unfold selW
  by_cases hw : w > 0
  · rw [decide_eq_true hw, iabs_of_nonneg (Int.le_of_lt hw)]
    split <;> split <;> omega
  · rw [decide_eq_false hw, iabs_of_nonpos (Int.not_lt.mp hw)]
    split <;> split <;> omega

/-- cancelling addition loses nothing where exactly one of the two literals of the variable is
    selected, and can only lose where both are -/
theorem selW_clash (j : Nat) (w1 w2 : Int) (h : c j true ∨ c j false) :
    selW c j (w1 + w2) + corr1 w1 w2 ≤ selW c j w1 + selW c j w2 ∧
    (¬ (c j true ∧ c j false) →
      selW c j (w1 + w2) + corr1 w1 w2 = selW c j w1 + selW c j w2) := by
  have := iabs_add_clash w1 w2
  have := corr1_nonneg w1 w2
  have t1 := two_selW c j w1
  have t2 := two_selW c j w2
  have t := two_selW c j (w1 + w2)
  by_cases ht : c j true <;> by_cases hf : c j false
  · rw [if_pos ht, if_pos hf] at t1 t2 t
    exact ⟨by omega, fun h' => absurd ⟨ht, hf⟩ h'⟩
  · rw [if_pos ht, if_neg hf] at t1 t2 t
    have : selW c j (w1 + w2) + corr1 w1 w2 = selW c j w1 + selW c j w2 := by omega
    exact ⟨Int.le_of_eq this, fun _ => this⟩
  · rw [if_neg ht, if_pos hf] at t1 t2 t
    have : selW c j (w1 + w2) + corr1 w1 w2 = selW c j w1 + selW c j w2 := by omega
    exact ⟨Int.le_of_eq this, fun _ => this⟩
  · exact absurd h (not_or.mpr ⟨ht, hf⟩)

variable {c} in
theorem sumPos_clash (hc : ∀ j, c j true ∨ c j false) : ∀ (l1 l2 : List Int) (k : Nat),
    l1.length = l2.length →
    sumPos (selW c) k (List.zipWith (· + ·) l1 l2) + clashCorr l1 l2
        ≤ sumPos (selW c) k l1 + sumPos (selW c) k l2 ∧
      ((∀ j, ¬ (c j true ∧ c j false)) →
        sumPos (selW c) k (List.zipWith (· + ·) l1 l2) + clashCorr l1 l2
          = sumPos (selW c) k l1 + sumPos (selW c) k l2)
  | [], [], _, _ => ⟨Int.le_refl 0, fun _ => rfl⟩
  | w1 :: r1, w2 :: r2, k, h => by
    have ⟨ih1, ih2⟩ := sumPos_clash hc r1 r2 (k+1) (Nat.succ.inj h)
    have ⟨h1, h2⟩ := selW_clash c k w1 w2 (hc k)
    simp only [List.zipWith_cons_cons, sumPos, clashCorr_cons]
    exact ⟨by omega, fun hx => by have := ih2 hx; have := h2 (hx k); omega⟩

end

/-- the literals true under `a` -/
def asgSel (a : Asg) (j : Nat) (p : Bool) : Prop := a (j+1) = p

instance (a : Asg) (j : Nat) (p : Bool) : Decidable (asgSel a j p) :=
  inferInstanceAs (Decidable (a (j+1) = p))

theorem asgSel_one (a : Asg) (j : Nat) :
    (asgSel a j true ∨ asgSel a j false) ∧ ¬ (asgSel a j true ∧ asgSel a j false) := by
  unfold asgSel; cases a (j+1) <;> simp

theorem lhsFrom_nil (a : Asg) (k : Nat) : PbSet.lhsFrom a k [] = 0 := rfl

theorem lhsFrom_cons (a : Asg) (k : Nat) (w : Int) (ws : List Int) :
    PbSet.lhsFrom a k (w :: ws) = selW (asgSel a) k w + PbSet.lhsFrom a (k+1) ws := by
  rw [PbSet.lhsFrom]
  congr 1
  unfold selW asgSel iabs
  rcases Int.lt_trichotomy w 0 with h | h | h
  · simp only [h, show ¬ w > 0 by omega, if_true, if_false, decide_false]
    cases a (k+1) <;> rfl
  · subst h; simp
  · simp only [show w > 0 from h, show ¬ w < 0 by omega, if_true, if_false, decide_true]

theorem lhsFrom_eq (a : Asg) : ∀ (ws : List Int) (k : Nat),
    PbSet.lhsFrom a k ws = sumPos (selW (asgSel a)) k ws
  | [], _ => rfl
  | _ :: ws, k => by rw [lhsFrom_cons, lhsFrom_eq a ws]; rfl

theorem lhsFrom_nonneg (a : Asg) (k : Nat) (ws : List Int) : 0 ≤ PbSet.lhsFrom a k ws := by
  rw [lhsFrom_eq]; exact sumPos_nonneg (selW_nonneg _) ws k

theorem holds_iff (a : Asg) (p : PbSet) :
    p.holds a = true ↔ p.card ≤ PbSet.lhsFrom a 0 p.weights := by
  simp [PbSet.holds]

theorem lhsFrom_clash (a : Asg) (k : Nat) (l1 l2 : List Int) (hlen : l1.length = l2.length) :
    PbSet.lhsFrom a k (List.zipWith (· + ·) l1 l2) + clashCorr l1 l2
      = PbSet.lhsFrom a k l1 + PbSet.lhsFrom a k l2 := by
  rw [lhsFrom_eq, lhsFrom_eq, lhsFrom_eq]
  exact (sumPos_clash (fun j => (asgSel_one a j).1) l1 l2 k hlen).2 fun j => (asgSel_one a j).2

/-- **C14.1** cancelling addition is sound. -/
theorem clash_sound (a : Asg) (p1 p2 : PbSet) (hlen : p1.weights.length = p2.weights.length)
    (h1 : p1.holds a = true) (h2 : p2.holds a = true) : (PbSet.clash p1 p2).holds a = true := by
  rw [holds_iff] at *
  have := lhsFrom_clash a 0 p1.weights p2.weights hlen
  simp only [PbSet.clash]
  omega

/-- `2 x1 + 3 ¬x2 + x3 ≥ 3` clashed with `x1 + 2 x2 + 2 ¬x3 ≥ 2` gives `3 x1 + ¬x2 + ¬x3 ≥ 2` (correction `min 3 2 + min 1 2 = 3`). -/
example : PbSet.clash ⟨[2, -3, 1], 3⟩ ⟨[1, 2, -2], 2⟩ = ⟨[3, -1, -1], 2⟩ := by decide
example : (⟨[2, -3, 1], 3⟩ : PbSet).weights.length = (⟨[1, 2, -2], 2⟩ : PbSet).weights.length ∧
    (⟨[2, -3, 1], 3⟩ : PbSet).holds (fun v => v == 1) = true ∧
    (⟨[1, 2, -2], 2⟩ : PbSet).holds (fun v => v == 1) = true := by decide

/-- the equal-length hypothesis is needed by the model (`zipWith` truncates; Go panics with an
    index out of range when `pb2` is shorter and ignores the tail of `pb2` when it is longer). -/
example : (⟨[0, 1], 1⟩ : PbSet).holds (fun v => v == 2) = true ∧
    (⟨[1], 0⟩ : PbSet).holds (fun v => v == 2) = true ∧
    (PbSet.clash ⟨[0, 1], 1⟩ ⟨[1], 0⟩).holds (fun v => v == 2) = false := by decide

/-- when `divideBy` is sound on the degree `k`: everywhere except `-c < k < 0`, where Go's
    truncating division followed by `+ 1` produces degree `1` from a trivially true constraint. -/
def divSafe (c k : Int) : Prop := 0 ≤ k ∨ k ≤ -c

instance (c k : Int) : Decidable (divSafe c k) := by unfold divSafe; infer_instance

theorem divW_zero (c : Int) : divW c 0 = 0 := rfl

theorem divW_neg (c w : Int) : divW c (-w) = -divW c w := by
  unfold divW
  simp only [Int.neg_tmod, Int.neg_tdiv, Int.neg_eq_zero]
  split
  · rfl
  · split
    · rfl
    · split <;> split <;> omega

theorem divW_pos {c w : Int} (hc : 0 < c) (hw : 0 < w) : 0 < divW c w ∧ w ≤ c * divW c w := by
  have hdm := Int.mul_tdiv_add_tmod w c
  have hr0 : 0 ≤ w.tmod c := Int.tmod_nonneg c (Int.le_of_lt hw)
  have hrc : w.tmod c < c := Int.tmod_lt_of_pos w hc
  have hq0 : 0 ≤ w.tdiv c := Int.tdiv_nonneg (Int.le_of_lt hw) (Int.le_of_lt hc)
  unfold divW
  rw [if_neg (by omega)]
  by_cases hm : w.tmod c = 0
  · rw [if_pos hm]
    have : w.tdiv c ≠ 0 := fun h => by rw [h, hm] at hdm; simp at hdm; omega
    constructor <;> omega
  · rw [if_neg hm, if_pos hw, Int.mul_add, Int.mul_one]; constructor <;> omega

theorem divW_sign {c : Int} (hc : 0 < c) (w : Int) :
    (0 < divW c w ↔ 0 < w) ∧ (divW c w < 0 ↔ w < 0) := by
  rcases Int.lt_trichotomy w 0 with hw | hw | hw
  · have := (divW_pos hc (show 0 < -w by omega)).1
    rw [divW_neg] at this; omega
  · rw [hw, divW_zero]; omega
  · have := (divW_pos hc hw).1; omega

theorem iabs_le_divW {c : Int} (hc : 0 < c) (w : Int) : iabs w ≤ c * iabs (divW c w) := by
  rcases Int.lt_trichotomy w 0 with hw | hw | hw
  · have := divW_pos hc (show 0 < -w by omega)
    rw [divW_neg] at this
    rw [iabs_of_neg hw, iabs_of_neg (by omega)]; exact this.2
  · rw [hw, divW_zero, iabs_zero, Int.mul_zero]; exact Int.le_refl 0
  · have := divW_pos hc hw
    rw [iabs_of_nonneg (Int.le_of_lt hw), iabs_of_nonneg (Int.le_of_lt this.1)]; exact this.2

theorem selW_div (s : Nat → Bool → Prop) [∀ j p, Decidable (s j p)] (j : Nat) {c : Int} (hc : 0 < c)
    (w : Int) : selW s j w ≤ c * selW s j (divW c w) := by
  unfold selW
  rw [show decide (divW c w > 0) = decide (w > 0) from decide_eq_decide.mpr (divW_sign hc w).1]
  split
  · exact iabs_le_divW hc w
  · rw [Int.mul_zero]; exact Int.le_refl 0

theorem lhsFrom_div (a : Asg) (k : Nat) (c : Int) (ws : List Int) (hc : 0 < c) :
    PbSet.lhsFrom a k ws ≤ c * PbSet.lhsFrom a k (ws.map (divW c)) := by
  rw [lhsFrom_eq, lhsFrom_eq, map_eq_mapPos _ ws k, sumPos_mapPos, ← sumPos_mul]
  exact sumPos_le ws k fun _ => selW_div _ _ hc _

/-- `divCard c k` is the quotient rounded up, as far as a bound `L ≥ 0` can tell: for `k ≤ -c` Go's
    truncation rounds towards zero, and both sides hold. -/
theorem divCard_le_iff {c k L : Int} (hc : 0 < c) (hs : divSafe c k) (hL : 0 ≤ L) :
    divCard c k ≤ L ↔ k ≤ c * L := by
  have hdm := Int.mul_tdiv_add_tmod k c
  have := Int.mul_nonneg (Int.le_of_lt hc) hL
  unfold divCard
  rcases Int.lt_or_le k 0 with hk | hk
  · have hkc : k ≤ -c := by unfold divSafe at hs; omega
    have hrc : -c < k.tmod c := by
      have := Int.tmod_lt_of_pos (-k) hc
      rw [Int.neg_tmod] at this; omega
    have hq : k.tdiv c < 0 := Int.lt_of_mul_lt_mul_left (a := c) (by omega) (by omega)
    exact ⟨fun _ => by omega, fun _ => by split <;> omega⟩
  · have hr0 : 0 ≤ k.tmod c := Int.tmod_nonneg c hk
    have hrc : k.tmod c < c := Int.tmod_lt_of_pos k hc
    by_cases hm : k.tmod c = 0
    · rw [if_pos hm]
      rw [hm, Int.add_zero] at hdm
      constructor
      · intro h
        have := Int.mul_le_mul_of_nonneg_left h (Int.le_of_lt hc); omega
      · intro h
        exact Int.le_of_mul_le_mul_left (a := c) (by omega) hc
    · rw [if_neg hm]
      constructor
      · intro h
        have := Int.mul_le_mul_of_nonneg_left h (Int.le_of_lt hc)
        rw [Int.mul_add, Int.mul_one] at this; omega
      · intro h
        have : k.tdiv c < L := Int.lt_of_mul_lt_mul_left (a := c) (by omega) (Int.le_of_lt hc)
        omega

/-- **C14.2** rounding division is sound when the degree is not in the open interval `(-c, 0)`. -/
theorem divide_sound (a : Asg) (p : PbSet) (c : Int) (hc : 0 < c) (hs : divSafe c p.card)
    (h : p.holds a = true) : (PbSet.divideBy p c).holds a = true := by
  rw [holds_iff] at *
  simp only [PbSet.divideBy]
  exact (divCard_le_iff hc hs (lhsFrom_nonneg ..)).mpr (Int.le_trans h (lhsFrom_div a 0 c p.weights hc))

theorem divide_sound_of_nonneg (a : Asg) (p : PbSet) (c : Int) (hc : 0 < c) (hk : 0 ≤ p.card)
    (h : p.holds a = true) : (PbSet.divideBy p c).holds a = true :=
  divide_sound a p c hc (Or.inl hk) h

/-- `5 x1 + 3 ¬x2 + 2 x3 ≥ 6` divided by `3`: `2 x1 + ¬x2 + x3 ≥ 2`. -/
example : PbSet.divideBy ⟨[5, -3, 2], 6⟩ 3 = ⟨[2, -1, 1], 2⟩ := by decide
example : (0:Int) < 3 ∧ divSafe 3 (⟨[5, -3, 2], 6⟩ : PbSet).card ∧
    (⟨[5, -3, 2], 6⟩ : PbSet).holds (fun v => v == 1 || v == 3) = true := by decide

/-- **Finding.** `divSafe` cannot be dropped: `2 x1 ≥ -1` holds under `x1 = false`, but
    `divideBy 2` returns `x1 ≥ 1` (`-1 % 2 = -1 ≠ 0`, so the degree becomes `-1/2 + 1 = 0 + 1`). -/
example : (⟨[2], -1⟩ : PbSet).holds (fun _ => false) = true ∧
    PbSet.divideBy ⟨[2], -1⟩ 2 = ⟨[1], 1⟩ ∧
    (PbSet.divideBy ⟨[2], -1⟩ 2).holds (fun _ => false) = false := by decide

theorem lhsFrom_eq_zero (a : Asg) (k : Nat) (ws : List Int)
    (h : ∀ i, ws.getD i 0 = 0 ∨ ¬ asgSel a (k+i) (decide (ws.getD i 0 > 0))) :
    PbSet.lhsFrom a k ws = 0 := by
  rw [lhsFrom_eq, ← sumPos_zero ws k]
  refine sumPos_congr ws k fun i => ?_
  rcases h i with h | h
  · rw [h, selW_zero]
  · exact if_neg h

theorem getD_map_divW (c : Int) (ws : List Int) (i : Nat) :
    (ws.map (divW c)).getD i 0 = divW c (ws.getD i 0) := by
  simp only [List.getD_eq_getElem?_getD, List.getElem?_map]
  cases ws[i]? <;> simp [divW_zero]

theorem divCard_of_unsafe (c k : Int) (h1 : -c < k) (h2 : k < 0) : divCard c k = 1 := by
  have hq : k.tdiv c = 0 := by
    have := Int.tdiv_eq_zero_of_lt (a := -k) (b := c) (by omega) (by omega)
    rw [Int.neg_tdiv] at this; omega
  have hdm := Int.mul_tdiv_add_tmod k c
  rw [hq, Int.mul_zero, Int.zero_add] at hdm
  unfold divCard
  rw [if_neg (by omega), hq]; rfl

/-- **Finding (general form).** Whenever the degree lies in `(-c, 0)`, `divideBy` is unsound:
    the assignment falsifying every literal satisfies `p` (degree `< 0`) but not the result
    (degree `1`, left-hand side `0`). So `divSafe` in `divide_sound` is necessary. -/
theorem divide_unsound (p : PbSet) (c : Int) (hc : 0 < c) (h : ¬ divSafe c p.card) :
    ∃ a : Asg, p.holds a = true ∧ (PbSet.divideBy p c).holds a = false := by
  have h1 : -c < p.card := by unfold divSafe at h; omega
  have h2 : p.card < 0 := by unfold divSafe at h; omega
  refine ⟨fun v => decide (p.weights.getD (v-1) 0 < 0), ?_, ?_⟩
  · rw [holds_iff]
    have := lhsFrom_nonneg (fun v => decide (p.weights.getD (v-1) 0 < 0)) 0 p.weights
    omega
  · have hz : PbSet.lhsFrom (fun v => decide (p.weights.getD (v-1) 0 < 0)) 0
        (p.weights.map (divW c)) = 0 := by
      apply lhsFrom_eq_zero
      intro i
      rw [getD_map_divW]
      have := divW_sign hc (p.weights.getD i 0)
      by_cases h0 : divW c (p.weights.getD i 0) = 0
      · exact Or.inl h0
      · right
        simp only [asgSel, Nat.zero_add, Nat.add_sub_cancel, decide_eq_decide]
        omega
    simp only [PbSet.holds, PbSet.divideBy, hz, divCard_of_unsafe c p.card h1 h2]
    decide

/-- the model list `m` does not make the literal of variable `j+1` in a constraint with weight `w`
    there false: the variable is unbound, or bound to the polarity of `w` -/
def nonFalsified (m : List Int) (j : Nat) (w : Int) : Prop :=
  modelAt m j = 0 ∨ (decide (modelAt m j > 0) = decide (w > 0))

instance (m : List Int) (j : Nat) (w : Int) : Decidable (nonFalsified m j w) := by
  unfold nonFalsified; infer_instance

/-- the test of the weakening loop of `roundToOne` -/
def weakenCond (m : List Int) (wi : Int) (j : Nat) (w : Int) : Prop :=
  w ≠ 0 ∧ w.tmod wi ≠ 0 ∧ nonFalsified m j w

instance (m : List Int) (wi : Int) (j : Nat) (w : Int) : Decidable (weakenCond m wi j w) := by
  unfold weakenCond; infer_instance

theorem weakenFrom_nil (m : List Int) (wi : Int) (j : Nat) : weakenFrom m wi j [] = ([], 0) := rfl

theorem weakenFrom_cons (m : List Int) (wi : Int) (j : Nat) (w : Int) (ws : List Int) :
    weakenFrom m wi j (w :: ws) =
      if weakenCond m wi j w then
        (0 :: (weakenFrom m wi (j+1) ws).1, (weakenFrom m wi (j+1) ws).2 + iabs w)
      else (w :: (weakenFrom m wi (j+1) ws).1, (weakenFrom m wi (j+1) ws).2) := by
  rw [weakenFrom]
  rfl

/-- what the weakening loop leaves at a position, and what it takes off the degree for it -/
def weakenW (m : List Int) (wi : Int) (j : Nat) (w : Int) : Int := if weakenCond m wi j w then 0 else w
def weakenD (m : List Int) (wi : Int) (j : Nat) (w : Int) : Int :=
  if weakenCond m wi j w then iabs w else 0

theorem weakenFrom_eq (m : List Int) (wi : Int) : ∀ (ws : List Int) (j : Nat),
    weakenFrom m wi j ws = (mapPos (weakenW m wi) j ws, sumPos (weakenD m wi) j ws) := by
  intro ws
  induction ws with
  | nil => exact fun _ => rfl
  | cons w ws ih =>
    intro j
    rw [weakenFrom_cons, ih (j+1)]
    simp only [mapPos, sumPos, weakenW, weakenD]
    by_cases hc : weakenCond m wi j w
    · rw [if_pos hc, if_pos hc, if_pos hc, Int.add_comm]
    · rw [if_neg hc, if_neg hc, if_neg hc, Int.zero_add]

theorem weakenW_zero (m : List Int) (wi : Int) (j : Nat) : weakenW m wi j 0 = 0 := by
  unfold weakenW; split <;> rfl

theorem selW_weaken (s : Nat → Bool → Prop) [∀ j p, Decidable (s j p)] (m : List Int) (wi : Int)
    (j : Nat) (w : Int) : selW s j w ≤ selW s j (weakenW m wi j w) + weakenD m wi j w := by
  unfold weakenW weakenD
  split
  · rw [selW_zero, Int.zero_add]; exact selW_le_iabs s j w
  · rw [Int.add_zero]; exact Int.le_refl _

theorem lhsFrom_weaken (a : Asg) (m : List Int) (wi : Int) (j : Nat) (ws : List Int) :
    PbSet.lhsFrom a j ws ≤ PbSet.lhsFrom a j (weakenFrom m wi j ws).1 + (weakenFrom m wi j ws).2 := by
  rw [weakenFrom_eq, lhsFrom_eq, lhsFrom_eq, sumPos_mapPos, ← sumPos_add]
  exact sumPos_le ws j fun _ => selW_weaken _ m wi _ _

theorem weakenFrom_length (m : List Int) (wi : Int) (j : Nat) (ws : List Int) :
    (weakenFrom m wi j ws).1.length = ws.length := by
  rw [weakenFrom_eq]; exact length_mapPos _ ws j

/-- **C14.3** the weakening loop of `roundToOne` is sound, for every model list `m` and divisor
    `wi`. -/
theorem weaken_sound (a : Asg) (p : PbSet) (m : List Int) (wi : Int) (h : p.holds a = true) :
    let (ws, d) := weakenFrom m wi 0 p.weights
    PbSet.holds a ⟨ws, p.card - d⟩ = true := by
  have := lhsFrom_weaken a m wi 0 p.weights
  rw [holds_iff] at h
  show PbSet.holds a ⟨(weakenFrom m wi 0 p.weights).1, p.card - (weakenFrom m wi 0 p.weights).2⟩ = true
  rw [holds_iff]
  show p.card - (weakenFrom m wi 0 p.weights).2 ≤ PbSet.lhsFrom a 0 (weakenFrom m wi 0 p.weights).1
  omega

/-- `5 x1 + 3 ¬x2 + 2 x3 ≥ 6`, `x1` false in the model, `x2`, `x3` unassigned, rounding on `x1`
    (`wi = 5`): both other literals are weakened away, leaving `5 x1 ≥ 1`. -/
example : weakenFrom [-1, 0, 0] 5 0 [5, -3, 2] = ([5, 0, 0], 5) := by decide

/-- degree after the weakening loop of `p.roundToOne m locked` -/
def weakenedCard (p : PbSet) (m : List Int) (locked : Nat) : Int :=
  p.card - (weakenFrom m (iabs (p.weights.getD locked 0)) 0 p.weights).2

/-- the side condition under which `roundToOne` is sound: either no division happens, or the
    weakened degree is outside `(-wi, 0)` (see `divSafe`). -/
def roundSafe (p : PbSet) (m : List Int) (locked : Nat) : Prop :=
  iabs (p.weights.getD locked 0) = 1 ∨
    divSafe (iabs (p.weights.getD locked 0)) (weakenedCard p m locked)

instance (p : PbSet) (m : List Int) (locked : Nat) : Decidable (roundSafe p m locked) := by
  unfold roundSafe; infer_instance

theorem roundToOne_eq (p : PbSet) (m : List Int) (locked : Nat) :
    PbSet.roundToOne p m locked =
      if iabs (p.weights.getD locked 0) = 1 then some p
      else if iabs (p.weights.getD locked 0) = 0 then none
      else some (PbSet.divideBy
        ⟨(weakenFrom m (iabs (p.weights.getD locked 0)) 0 p.weights).1, weakenedCard p m locked⟩
        (iabs (p.weights.getD locked 0))) := rfl

theorem roundToOne_some {p q : PbSet} {m : List Int} {locked : Nat}
    (hq : PbSet.roundToOne p m locked = some q) :
    (iabs (p.weights.getD locked 0) = 1 ∧ q = p) ∨
    (iabs (p.weights.getD locked 0) ≠ 1 ∧ 0 < iabs (p.weights.getD locked 0) ∧
      q = PbSet.divideBy
        ⟨(weakenFrom m (iabs (p.weights.getD locked 0)) 0 p.weights).1, weakenedCard p m locked⟩
        (iabs (p.weights.getD locked 0))) := by
  rw [roundToOne_eq] at hq
  by_cases h1 : iabs (p.weights.getD locked 0) = 1
  · rw [if_pos h1] at hq; cases hq; exact Or.inl ⟨h1, rfl⟩
  · rw [if_neg h1] at hq
    by_cases h0 : iabs (p.weights.getD locked 0) = 0
    · rw [if_pos h0] at hq; cases hq
    · rw [if_neg h0] at hq; cases hq
      have := iabs_nonneg (p.weights.getD locked 0)
      exact Or.inr ⟨h1, by omega, rfl⟩

/-- **C14.4** `roundToOne` is sound under `roundSafe`. -/
theorem roundToOne_sound (a : Asg) (p q : PbSet) (m : List Int) (locked : Nat)
    (hs : roundSafe p m locked)
    (hq : PbSet.roundToOne p m locked = some q) (h : p.holds a = true) : q.holds a = true := by
  rcases roundToOne_some hq with ⟨_, rfl⟩ | ⟨h1, hpos, rfl⟩
  · exact h
  · exact divide_sound a _ _ hpos (hs.resolve_left h1) (weaken_sound a p m _ h)

theorem roundToOne_length (p q : PbSet) (m : List Int) (locked : Nat)
    (hq : PbSet.roundToOne p m locked = some q) : q.weights.length = p.weights.length := by
  rcases roundToOne_some hq with ⟨_, rfl⟩ | ⟨_, _, rfl⟩
  · rfl
  · simp [PbSet.divideBy, weakenFrom_length]

/-- RoundingSAT-style example: `5 x1 + 3 ¬x2 + 2 x3 ≥ 6` with `x1` false, others unassigned,
    rounded on variable 1: weaken to `5 x1 ≥ 1`, divide by 5: `x1 ≥ 1`. -/
example : PbSet.roundToOne ⟨[5, -3, 2], 6⟩ [-1, 0, 0] 0 = some ⟨[1, 0, 0], 1⟩ := by decide
example : roundSafe ⟨[5, -3, 2], 6⟩ [-1, 0, 0] 0 ∧
    (⟨[5, -3, 2], 6⟩ : PbSet).holds (fun v => v == 1 || v == 3) = true := by decide

/-- **Finding.** `roundSafe` cannot be dropped: `2 x1 + x2 ≥ 0` (true everywhere), `x2`
    unassigned; `roundToOne` on `x1` weakens `x2` away (degree `-1`) and divides by 2, returning
    `x1 ≥ 1`, which is false under `x1 = false`. -/
example : (⟨[2, 1], 0⟩ : PbSet).holds (fun _ => false) = true ∧
    PbSet.roundToOne ⟨[2, 1], 0⟩ [-1, 0] 0 = some ⟨[1, 0], 1⟩ ∧
    (⟨[1, 0], 1⟩ : PbSet).holds (fun _ => false) = false := by decide

/-! ### When the side condition holds: conflicting and propagating constraints

`freeSum m excl j ws` is the total weight of the literals that are not falsified by the model
list `m` (the ones `roundToOne` may weaken), leaving out the positions selected by `excl`.
With `excl = fun _ => false`, `freeSum … < card` says the constraint is conflicting under `m`
(Go: `slack < 0` with all levels counted); with `excl = (· == locked)` it says the constraint
propagates the literal at `locked`. In both situations the weakened degree stays positive, so
`roundToOne` is sound. -/

def freeSum (m : List Int) (excl : Nat → Bool) : Nat → List Int → Int
  | _, [] => 0
  | j, w :: ws =>
    (if excl j = false ∧ nonFalsified m j w then iabs w else 0) + freeSum m excl (j+1) ws

/-- the literals that the model list `m` does not falsify, those of the variables in `excl` left out -/
def modSel (m : List Int) (excl : Nat → Bool) (j : Nat) (p : Bool) : Prop :=
  excl j = false ∧ (modelAt m j = 0 ∨ decide (modelAt m j > 0) = p)

instance (m : List Int) (excl : Nat → Bool) (j : Nat) (p : Bool) : Decidable (modSel m excl j p) :=
  inferInstanceAs (Decidable (_ ∧ _))

theorem modSel_iff {m : List Int} {excl : Nat → Bool} {j : Nat} {w : Int} :
    modSel m excl j (decide (w > 0)) ↔ excl j = false ∧ nonFalsified m j w := Iff.rfl

theorem modSel_or (m : List Int) (j : Nat) :
    modSel m (fun _ => false) j true ∨ modSel m (fun _ => false) j false := by
  cases h : decide (modelAt m j > 0)
  · exact Or.inr ⟨rfl, Or.inr h⟩
  · exact Or.inl ⟨rfl, Or.inr h⟩

theorem freeSum_cons (m : List Int) (excl : Nat → Bool) (j : Nat) (w : Int) (ws : List Int) :
    freeSum m excl j (w :: ws) = selW (modSel m excl) j w + freeSum m excl (j+1) ws := rfl

theorem freeSum_eq (m : List Int) (excl : Nat → Bool) : ∀ (ws : List Int) (j : Nat),
    freeSum m excl j ws = sumPos (selW (modSel m excl)) j ws
  | [], _ => rfl
  | _ :: ws, j => by rw [freeSum_cons, freeSum_eq m excl ws]; rfl

theorem selW_excl {m : List Int} {excl : Nat → Bool} {j : Nat} (h : excl j = true) (w : Int) :
    selW (modSel m excl) j w = 0 :=
  if_neg fun h' => Bool.noConfusion (h.symm.trans h'.1)

theorem freeSum_nonneg (m : List Int) (excl : Nat → Bool) (j : Nat) (ws : List Int) :
    0 ≤ freeSum m excl j ws := by
  rw [freeSum_eq]; exact sumPos_nonneg (selW_nonneg _) ws j

theorem selW_counted {m : List Int} {j : Nat} {w : Int} (h : w = 0 ∨ nonFalsified m j w) :
    selW (modSel m fun _ => false) j w = iabs w := by
  rcases h with h | h
  · rw [h, selW_zero]; rfl
  · exact if_pos (modSel_iff.mpr ⟨rfl, h⟩)

theorem freeSum_congr (m1 m2 : List Int) (excl : Nat → Bool) (k : Nat) (ws : List Int)
    (h : ∀ i, excl (k+i) = false → ws.getD i 0 ≠ 0 →
      (nonFalsified m1 (k+i) (ws.getD i 0) ↔ nonFalsified m2 (k+i) (ws.getD i 0))) :
    freeSum m1 excl k ws = freeSum m2 excl k ws := by
  rw [freeSum_eq, freeSum_eq]
  refine sumPos_congr ws k fun i => ?_
  by_cases hw : ws.getD i 0 = 0
  · rw [hw, selW_zero, selW_zero]
  · exact selW_congr (modSel_iff.trans ((and_congr_right fun he => h i he hw).trans modSel_iff.symm))

theorem freeSum_excl_zero (m : List Int) (v : Nat) (j : Nat) (ws : List Int)
    (h : ∀ i, j + i ≠ v → ws.getD i 0 = 0) : freeSum m (fun i => i == v) j ws = 0 := by
  rw [freeSum_eq, ← sumPos_zero ws j]
  refine sumPos_congr ws j fun i => ?_
  by_cases hj : j + i = v
  · exact selW_excl (excl := fun i => i == v) (beq_iff_eq.mpr hj) _
  · rw [h i hj, selW_zero]

theorem freeSum_excl_le_none (m : List Int) (excl : Nat → Bool) (k : Nat) (ws : List Int) :
    freeSum m excl k ws ≤ freeSum m (fun _ => false) k ws := by
  rw [freeSum_eq, freeSum_eq]
  exact sumPos_le ws k fun i => selW_mono fun h => ⟨rfl, h.2⟩

theorem freeSum_excl_le (m : List Int) (v : Nat) (ws : List Int) :
    freeSum m (fun _ => false) 0 ws ≤ freeSum m (fun i => i == v) 0 ws + iabs (ws.getD v 0) := by
  have := sumPos_le_add_at (f := selW (modSel m fun _ => false)) (g := selW (modSel m fun i => i == v)) v
    (fun w => selW_nonneg ..) (selW_zero ..) ws
    (fun i hi => selW_mono fun h => ⟨beq_eq_false_iff_ne.mpr hi, h.2⟩)
  have := selW_le_iabs (modSel m fun _ => false) v (ws.getD v 0)
  rw [freeSum_eq, freeSum_eq]; omega

theorem freeSum_clash (m : List Int) (j : Nat) (l1 l2 : List Int) (hlen : l1.length = l2.length) :
    freeSum m (fun _ => false) j (List.zipWith (· + ·) l1 l2) + clashCorr l1 l2
      ≤ freeSum m (fun _ => false) j l1 + freeSum m (fun _ => false) j l2 := by
  rw [freeSum_eq, freeSum_eq, freeSum_eq]
  exact (sumPos_clash (modSel_or m) l1 l2 j hlen).1

/-- **the resolvent stays conflicting**: `p1` conflicting under `m`, `p2` propagating the literal
    at `v` under `m` with weight at most 1 there. -/
theorem clash_conflict (p1 p2 : PbSet) (m : List Int) (v : Nat)
    (hlen : p1.weights.length = p2.weights.length)
    (h1 : freeSum m (fun _ => false) 0 p1.weights < p1.card)
    (h2 : freeSum m (fun i => i == v) 0 p2.weights < p2.card)
    (hv : iabs (p2.weights.getD v 0) ≤ 1) :
    freeSum m (fun _ => false) 0 (PbSet.clash p1 p2).weights < (PbSet.clash p1 p2).card := by
  have hc := freeSum_clash m 0 p1.weights p2.weights hlen
  have he := freeSum_excl_le m v p2.weights
  simp only [PbSet.clash]
  omega

theorem modelAt_set_ne (m : List Int) (v j : Nat) (x : Int) (h : j ≠ v) :
    modelAt (m.set v x) j = modelAt m j :=
  getD_set_ne m v j x h

theorem modelAt_set_self (m : List Int) (v : Nat) (x : Int) (h : v < m.length) :
    modelAt (m.set v x) v = x :=
  getD_set_self m v x h

theorem modelAt_set_zero (m : List Int) (v : Nat) : modelAt (m.set v 0) v = 0 := by
  unfold modelAt
  simp only [List.getD_eq_getElem?_getD, List.getElem?_set]
  by_cases h : v < m.length
  · simp [h]
  · simp [h]

theorem nonFalsified_set_ne (m : List Int) (v j : Nat) (x : Int) (w : Int) (h : j ≠ v) :
    nonFalsified (m.set v x) j w ↔ nonFalsified m j w := by
  unfold nonFalsified; rw [modelAt_set_ne m v j x h]

theorem freeSum_set_zero (m : List Int) (v : Nat) (excl : Nat → Bool) (j : Nat) (ws : List Int)
    (h : ∀ i, j + i = v → ws.getD i 0 = 0 ∨ nonFalsified m v (ws.getD i 0)) :
    freeSum (m.set v 0) excl j ws = freeSum m excl j ws :=
  freeSum_congr _ m excl j ws fun i _ hw => by
    by_cases hj : j + i = v
    · rw [hj]
      exact ⟨fun _ => (h i hj).resolve_left hw, fun _ => Or.inl (modelAt_set_zero m v)⟩
    · exact nonFalsified_set_ne m v _ 0 _ hj

theorem freeSum_set_excl (m : List Int) (v : Nat) (x : Int) (j : Nat) (ws : List Int) :
    freeSum (m.set v x) (fun i => i == v) j ws = freeSum m (fun i => i == v) j ws :=
  freeSum_congr _ m _ j ws fun _ he _ => nonFalsified_set_ne m v _ x _ (beq_eq_false_iff_ne.mp he)

theorem iabs_mul_pos (c r : Int) (hc : 0 < c) : iabs (c * r) = c * iabs r := by
  unfold iabs
  by_cases hr : r < 0
  · have : c * r < 0 := Int.mul_neg_of_pos_of_neg hc hr
    rw [if_pos this, if_pos hr, Int.mul_neg]
  · have : ¬ c * r < 0 := by
      have := Int.mul_nonneg (Int.le_of_lt hc) (Int.not_lt.mp hr)
      omega
    rw [if_neg this, if_neg hr]

/-- per position: weakening then dividing by `wi` divides the free weight exactly -/
theorem selW_round (m : List Int) (wi : Int) (hwi : 0 < wi) (excl : Nat → Bool) (j : Nat) (w : Int)
    (he : excl j = true → w.tmod wi = 0) :
    wi * selW (modSel m excl) j (divW wi (weakenW m wi j w)) + weakenD m wi j w
      = selW (modSel m excl) j w := by
  unfold weakenW weakenD
  by_cases hc : weakenCond m wi j w
  · rw [if_pos hc, if_pos hc]
    have he' : excl j = false := by
      cases h : excl j with
      | false => rfl
      | true => exact absurd (he h) hc.2.1
    rw [divW_zero, selW_zero, selW, if_pos (modSel_iff.mpr ⟨he', hc.2.2⟩)]; omega
  · rw [if_neg hc, if_neg hc, Int.add_zero]
    unfold selW
    rw [show decide (divW wi w > 0) = decide (w > 0) from decide_eq_decide.mpr (divW_sign hwi w).1]
    by_cases hcount : modSel m excl j (decide (w > 0))
    · rw [if_pos hcount, if_pos hcount]
      by_cases hw0 : w = 0
      · rw [hw0, divW_zero, iabs_zero]; exact Int.mul_zero wi
      · -- counted and not weakened: a multiple of `wi`
        have hmod : w.tmod wi = 0 := Classical.byContradiction fun hne => hc ⟨hw0, hne, (modSel_iff.mp hcount).2⟩
        have hdm := Int.mul_tdiv_add_tmod w wi
        rw [hmod, Int.add_zero] at hdm
        rw [divW, if_neg hw0, if_pos hmod, ← iabs_mul_pos wi _ hwi, hdm]
    · rw [if_neg hcount, if_neg hcount]; exact Int.mul_zero wi

theorem freeSum_round_aux (m : List Int) (wi : Int) (hwi : 0 < wi) (excl : Nat → Bool) (j : Nat)
    (ws : List Int) (hex : ∀ i, excl (j+i) = true → (ws.getD i 0).tmod wi = 0) :
    wi * freeSum m excl j ((weakenFrom m wi j ws).1.map (divW wi)) + (weakenFrom m wi j ws).2
      = freeSum m excl j ws := by
  rw [weakenFrom_eq, freeSum_eq, freeSum_eq, map_eq_mapPos _ _ j, sumPos_mapPos, sumPos_mapPos,
    ← sumPos_mul, ← sumPos_add]
  exact sumPos_congr ws j fun i => selW_round m wi hwi _ _ _ (hex i)

theorem lt_divCard (wi f K : Int) (hwi : 0 < wi) (hf : 0 ≤ f) (h : wi * f < K) : f < divCard wi K := by
  have := Int.mul_nonneg (Int.le_of_lt hwi) hf
  exact Int.not_le.mp fun hle => Int.not_le.mpr h ((divCard_le_iff hwi (Or.inl (by omega)) hf).mp hle)

theorem tmod_iabs_self (w : Int) : w.tmod (iabs w) = 0 := by
  unfold iabs
  split
  · rw [Int.tmod_neg, Int.tmod_self]
  · exact Int.tmod_self

/-- **`roundToOne` on a constraint whose free weight is below its degree**: the side condition
    holds, and the free weight of the result is below its degree. With `excl = fun _ => false` the
    constraint is conflicting, with `excl = (· == locked)` it propagates the literal at `locked`. -/
theorem round_of_freeSum (p : PbSet) (m : List Int) (locked : Nat) (excl : Nat → Bool)
    (hex : ∀ i, excl i = true →
      (p.weights.getD i 0).tmod (iabs (p.weights.getD locked 0)) = 0)
    (h : freeSum m excl 0 p.weights < p.card) :
    roundSafe p m locked ∧
      ∀ q, PbSet.roundToOne p m locked = some q → freeSum m excl 0 q.weights < q.card := by
  have haux := fun hpos => freeSum_round_aux m (iabs (p.weights.getD locked 0)) hpos excl 0 p.weights
    (by intro i hi; rw [Nat.zero_add] at hi; exact hex i hi)
  have hnn := freeSum_nonneg m excl 0 ((weakenFrom m (iabs (p.weights.getD locked 0)) 0
    p.weights).1.map (divW (iabs (p.weights.getD locked 0))))
  constructor
  · right
    rcases Int.lt_or_le 0 (iabs (p.weights.getD locked 0)) with hpos | h0
    · left
      have := haux hpos
      have := Int.mul_nonneg (Int.le_of_lt hpos) hnn
      unfold weakenedCard; omega
    · -- no division: `divSafe 0 k` holds for every `k`
      unfold divSafe; omega
  · intro q hq
    rcases roundToOne_some hq with ⟨_, rfl⟩ | ⟨_, hpos, rfl⟩
    · exact h
    · have := haux hpos
      simp only [PbSet.divideBy, weakenedCard]
      apply lt_divCard _ _ _ hpos hnn
      omega

theorem roundSafe_of_conflict (p : PbSet) (m : List Int) (locked : Nat)
    (h : freeSum m (fun _ => false) 0 p.weights < p.card) : roundSafe p m locked :=
  (round_of_freeSum p m locked _ (by intro i hi; cases hi) h).1

theorem round_conflict (p q : PbSet) (m : List Int) (locked : Nat)
    (h : freeSum m (fun _ => false) 0 p.weights < p.card)
    (hq : PbSet.roundToOne p m locked = some q) :
    freeSum m (fun _ => false) 0 q.weights < q.card :=
  (round_of_freeSum p m locked _ (by intro i hi; cases hi) h).2 q hq

theorem beq_tmod_iabs (p : PbSet) (locked i : Nat) (hi : (i == locked) = true) :
    (p.weights.getD i 0).tmod (iabs (p.weights.getD locked 0)) = 0 := by
  rw [beq_iff_eq.mp hi]; exact tmod_iabs_self _

theorem roundSafe_of_propagating (p : PbSet) (m : List Int) (locked : Nat)
    (h : freeSum m (fun i => i == locked) 0 p.weights < p.card) : roundSafe p m locked :=
  (round_of_freeSum p m locked _ (beq_tmod_iabs p locked) h).1

theorem round_propagating (p q : PbSet) (m : List Int) (locked : Nat)
    (h : freeSum m (fun i => i == locked) 0 p.weights < p.card)
    (hq : PbSet.roundToOne p m locked = some q) :
    freeSum m (fun i => i == locked) 0 q.weights < q.card :=
  (round_of_freeSum p m locked _ (beq_tmod_iabs p locked) h).2 q hq

/-- the conflict `5 x1 + 3 ¬x2 + 2 x3 ≥ 6` with `x1` false, `x2` true, `x3` unassigned -/
example : freeSum [-1, 1, 0] (fun _ => false) 0 [5, -3, 2] < 6 := by decide
/-- the reason `3 x1 + 2 x2 + 2 ¬x3 ≥ 4` propagating `x1` when `x2` is false (`x3` unassigned) -/
example : freeSum [1, -1, 0] (fun i => i == 0) 0 [3, 2, -2] < 4 := by decide

/-- Constraints obtainable from the problem constraints `prob` by the operations of the
    cutting-planes analysis, with arbitrary operands, divisors, model lists and rounding
    positions (every coefficient pattern). The side conditions are the hypotheses of the
    soundness theorems above. -/
inductive Derivable (prob : List PbSet) : PbSet → Prop
  | ax {p} : p ∈ prob → Derivable prob p
  | clash {p1 p2} : Derivable prob p1 → Derivable prob p2 →
      p1.weights.length = p2.weights.length → Derivable prob (PbSet.clash p1 p2)
  | divide {p} (c : Int) : Derivable prob p → 0 < c → divSafe c p.card →
      Derivable prob (PbSet.divideBy p c)
  | weaken {p} (m : List Int) (wi : Int) : Derivable prob p →
      Derivable prob ⟨(weakenFrom m wi 0 p.weights).1, p.card - (weakenFrom m wi 0 p.weights).2⟩
  | round {p q} (m : List Int) (locked : Nat) : Derivable prob p → roundSafe p m locked →
      PbSet.roundToOne p m locked = some q → Derivable prob q

/-- **C14.5** every derivable constraint holds in every model of the problem. -/
theorem derivation_sound (a : Asg) (prob : List PbSet) (q : PbSet) (hd : Derivable prob q)
    (hp : ∀ p ∈ prob, p.holds a = true) : q.holds a = true := by
  induction hd with
  | ax hmem => exact hp _ hmem
  | clash _ _ hlen ih1 ih2 => exact clash_sound a _ _ hlen ih1 ih2
  | divide c _ hc hs ih => exact divide_sound a _ c hc hs ih
  | weaken m wi _ ih => exact weaken_sound a _ m wi ih
  | round m locked _ hs hq ih => exact roundToOne_sound a _ _ m locked hs hq ih

theorem derivable_length (prob : List PbSet) (n : Nat) (hn : ∀ p ∈ prob, p.weights.length = n)
    (q : PbSet) (hd : Derivable prob q) : q.weights.length = n := by
  induction hd with
  | ax hmem => exact hn _ hmem
  | clash _ _ hlen ih1 ih2 => simp [PbSet.clash, List.length_zipWith, ih1, ih2]
  | divide c _ _ _ ih => simpa [PbSet.divideBy] using ih
  | weaken m wi _ ih => simpa [weakenFrom_length] using ih
  | round m locked _ _ hq ih => rw [roundToOne_length _ _ m locked hq]; exact ih

/-- A two-step derivation: round `3 x1 + 2 x2 ≥ 3` on `x1` (`x1` false, `x2` true in the model:
    `x2` is weakened, `3 x1 ≥ 1`, divide by 3: `x1 ≥ 1`), then clash with `¬x1 + x2 ≥ 1`:
    `x2 ≥ 1`. -/
example : Derivable [⟨[3, 2], 3⟩, ⟨[-1, 1], 1⟩] ⟨[0, 1], 1⟩ := by
  have h1 : Derivable [⟨[3, 2], 3⟩, ⟨[-1, 1], 1⟩] ⟨[1, 0], 1⟩ :=
    Derivable.round (p := ⟨[3, 2], 3⟩) [-1, 1] 0 (Derivable.ax (by decide)) (by decide) (by decide)
  have h2 : Derivable [⟨[3, 2], 3⟩, ⟨[-1, 1], 1⟩] ⟨[-1, 1], 1⟩ := Derivable.ax (by decide)
  exact Derivable.clash h1 h2 (by decide)

/-- the two constraints have a model, `x1 = x2 = true`: the hypothesis of `derivation_sound` (which then
    gives `x2 ≥ 1` there) can be met. -/
example : ∀ p ∈ [(⟨[3, 2], 3⟩ : PbSet), ⟨[-1, 1], 1⟩], p.holds (fun _ => true) = true := by decide

/-! `termsFrom` is the loop of `(*pbSet).clause()` (before the sort of `NewPBClause`): position `i`
with weight `w ≠ 0` becomes the term `|w| · (±(i+1))`. -/

def PbSet.termsFrom : Nat → List Int → List (Int × Int)
  | _, [] => []
  | k, w :: ws =>
    if w = 0 then PbSet.termsFrom (k+1) ws
    else (iabs w, if w < 0 then -((k:Int)+1) else (k:Int)+1) :: PbSet.termsFrom (k+1) ws

def PbSet.toLin (p : PbSet) : Lin := ⟨PbSet.termsFrom 0 p.weights, p.card⟩

theorem litTrue_pos_idx (a : Asg) (k : Nat) : litTrue a ((k:Int)+1) = a (k+1) :=
  litTrue_natCast a (k + 1) (Nat.succ_pos k)

theorem litTrue_neg_idx (a : Asg) (k : Nat) : litTrue a (-((k:Int)+1)) = !a (k+1) :=
  litTrue_neg_natCast a (k + 1) (Nat.succ_pos k)

theorem lhs_termsFrom (a : Asg) (k : Nat) (ws : List Int) :
    lhs a (PbSet.termsFrom k ws) = PbSet.lhsFrom a k ws := by
  induction ws generalizing k with
  | nil => rfl
  | cons w ws ih =>
    rw [lhsFrom_cons, PbSet.termsFrom]
    by_cases h0 : w = 0
    · rw [if_pos h0, h0, selW_zero, Int.zero_add]; exact ih (k+1)
    · rw [if_neg h0]
      simp only [lhs, ih, termVal]
      congr 1
      unfold selW asgSel
      by_cases hn : w < 0
      · simp only [if_pos hn, decide_eq_false (Int.lt_asymm hn), litTrue_neg_idx]
        cases a (k+1) <;> rfl
      · simp only [if_neg hn, decide_eq_true (show w > 0 by omega), litTrue_pos_idx]

theorem toLin_holds (a : Asg) (p : PbSet) : p.toLin.holds a = p.holds a := by
  simp [PbSet.toLin, Lin.holds, PbSet.holds, lhs_termsFrom]

/-- **C14** in the vocabulary of `GS.Spec.Basic`: a derivable constraint, converted as
    `(*pbSet).clause()` does, is entailed by the converted problem. -/
theorem derivation_entails (prob : List PbSet) (q : PbSet) (hd : Derivable prob q) :
    Entails (prob.map PbSet.toLin) q.toLin := by
  intro a ha
  rw [toLin_holds]
  apply derivation_sound a prob q hd
  intro p hp
  rw [← toLin_holds]
  simp only [Problem.holds, List.all_eq_true, List.mem_map] at ha
  exact ha _ ⟨p, hp, rfl⟩

example : (⟨[5, -3, 0, 2], 6⟩ : PbSet).toLin = ⟨[(5, 1), (3, -2), (2, 4)], 6⟩ := by decide

end GS
