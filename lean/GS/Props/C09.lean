import GS.Check.Brute
/-!
# C09 — Adding constraints to a live solver equals solving from scratch

The oracle that judges the implementation's answers for this property in the harness
(`GS.Check.Brute`) is proved in the imported module to be exactly the specification over *all*
inputs.  The theorems about the abstract machine (`cdcl_append_equals_scratch`,
`cdcl_unsat_monotone`, …) are in `GS/Props/C01_Cdcl.lean`, those about the prologue of
`AppendClause` in `GS/Props/C09_Append.lean`.
-/
namespace GS
end GS
