import GS.Props.C20_ChanBase
/-!
# C20 — the result streams: producer / consumer (`producerSystem`) and forwarder (`forwarderSystem`)

Safety, FIFO, single close, deadlock freedom, termination, on the small-step semantics `GS.Chan.LStep`
of `GS/Model/Chan.lean`, for EVERY capacity, EVERY list of values and EVERY schedule (= every `LReach`
execution); by the method of `C20_ChanBase.lean`, the abstract systems being `PStep` and `FStep`.
C16 counts `producer_no_panic` and `forwarder_no_panic` among its theorems.
-/
namespace GS.Chan

inductive PPc | run | closed | returned
deriving DecidableEq, Repr

/-- Abstract state: `got` received by the consumer, `buf` in the channel, `todo` still to send,
    `pc` = where the producer is (`.closed`: after its `close`, before its `return`), `saw` = the
    consumer has seen the close. -/
structure PA where
  got : List Nat
  buf : List Nat
  todo : List Nat
  pc : PPc
  saw : Bool

def pproc (r : Option Nat) (a : PA) : Proc :=
  { code := match a.pc with
            | .run => a.todo.map (Instr.send 0) ++ [.close 0, .ret r]
            | .closed => [.ret r]
            | .returned => [] }

/-- consumer of channel `c` -/
def cproc (c : Nat) (got : List Nat) (saw : Bool) : Proc :=
  { code := if saw then [] else [.range c], got := got, sawClose := saw }

/-- `r`, the value the producer will return, is a parameter of its own (it is `vals.getLast?` in this
    file): `PPrefix` in `C20_ChanTrace.lean` varies the values still to be sent, hence the last one,
    under a fixed execution. -/
def pstate (cap : Nat) (r : Option Nat) (a : PA) : State :=
  { procs := [ pproc r a, cproc 0 a.got a.saw ],
    chans := [ ⟨cap, a.buf, decide (a.pc ≠ .run)⟩ ] }

inductive PStep (cap : Nat) (r : Option Nat) : PA → List Event → PA → Prop
  | send {got buf v t saw} : buf.length < cap →
      PStep cap r ⟨got, buf, v :: t, .run, saw⟩ [.sent 0 v] ⟨got, buf ++ [v], t, .run, saw⟩
  | close {got buf saw} : PStep cap r ⟨got, buf, [], .run, saw⟩ [.closed 0] ⟨got, buf, [], .closed, saw⟩
  | ret {got buf todo saw} :
      PStep cap r ⟨got, buf, todo, .closed, saw⟩ [.returned r] ⟨got, buf, todo, .returned, saw⟩
  | sync {got v t} : cap = 0 →
      PStep cap r ⟨got, [], v :: t, .run, false⟩ [.sent 0 v, .received 0 v] ⟨got ++ [v], [], t, .run, false⟩
  | recv {got v b todo pc} :
      PStep cap r ⟨got, v :: b, todo, pc, false⟩ [.received 0 v] ⟨got ++ [v], b, todo, pc, false⟩
  | sawClosed {got todo pc} : pc ≠ .run →
      PStep cap r ⟨got, [], todo, pc, false⟩ [.sawClosed 0] ⟨got, [], todo, pc, true⟩

/-- The four cases of `lstep2`: the producer alone, the rendezvous producer → consumer, the consumer
    alone; the consumer never sends. -/
theorem pstate_lstep {cap : Nat} {r : Option Nat} {a : PA} {l : List Event} {s' : State} :
    LStep (pstate cap r a) l s' ↔ ∃ a', PStep cap r a l a' ∧ s' = pstate cap r a' := by
  have hp : (pstate cap r a).procs[0]? = some (pproc r a) := rfl
  have hq : (pstate cap r a).procs[1]? = some (cproc 0 a.got a.saw) := rfl
  have hc : (pstate cap r a).chans[0]? = some ⟨cap, a.buf, decide (a.pc ≠ .run)⟩ := rfl
  rcases a with ⟨got, buf, todo, pc, saw⟩
  constructor
  · intro h
    rcases (lstep2 rfl rfl).mp h with h | h | h | h
    · cases pc
      · cases todo with
        | nil => rw [localStep_close hp rfl hc rfl] at h; cases h; exact ⟨_, .close, rfl⟩
        | cons v t =>
          obtain ⟨hlt, ⟨⟩⟩ := (localStep_send hp rfl hc rfl).mp h
          exact ⟨_, .send hlt, rfl⟩
      · rw [localStep_tau hp rfl] at h; cases h; exact ⟨_, .ret, rfl⟩
      · rw [localStep_idle hp rfl] at h; cases h
    · obtain ⟨c, v, p', f, qc, ch, -, ha, hb, hch, -, h0, hbuf, rfl, rfl⟩ := syncStep_inv hp hq h
      cases pc <;> cases todo <;> cases ha
      cases saw <;> cases hb
      cases hch
      cases hbuf
      exact ⟨_, .sync h0, rfl⟩
    · cases saw
      · cases buf with
        | nil =>
          obtain ⟨hcl, ⟨⟩⟩ := (localStep_recv_nil hq rfl hc rfl).mp h
          exact ⟨_, .sawClosed (of_decide_eq_true hcl), rfl⟩
        | cons v b => rw [localStep_recv_cons hq rfl hc rfl] at h; cases h; exact ⟨_, .recv, rfl⟩
      · rw [localStep_idle hq rfl] at h; cases h
    · obtain ⟨c, v, p', f, qc, ch, -, ha, -⟩ := syncStep_inv hq hp h
      cases saw <;> cases ha
  · rintro ⟨a', h, rfl⟩
    cases h with
    | send hlt => exact .sendBuf rfl hp rfl hc rfl hlt
    | close => exact .close rfl hp rfl hc rfl
    | ret => exact .tau rfl hp rfl
    | sync h0 => exact .sync rfl (by decide) hp hq rfl rfl hc rfl h0 rfl
    | recv => exact .recvVal rfl hq rfl hc rfl
    | sawClosed hpc => exact .recvClosed rfl hq rfl hc rfl (decide_eq_true hpc)

def PAbs (cap : Nat) (r : Option Nat) : Abs PA := ⟨pstate cap r, PStep cap r, pstate_lstep⟩

def pinit (vals : List Nat) : PA := ⟨[], [], vals, .run, false⟩

theorem producerSystem_eq (cap : Nat) (vals : List Nat) :
    producerSystem cap vals = pstate cap vals.getLast? (pinit vals) := by
  simp [producerSystem, pstate, pinit, pproc, cproc, producerCode]

structure PInv (cap : Nat) (vals : List Nat) (tr : List Event) (a : PA) : Prop where
  split : vals = a.got ++ a.buf ++ a.todo
  capOk : a.buf.length ≤ cap
  closedTodo : a.pc ≠ .run → a.todo = []
  sawOk : a.saw = true → a.buf = [] ∧ a.pc ≠ .run
  sent : sentVals tr = a.got ++ a.buf
  recv : recvVals tr = a.got
  closes : closeCount 0 tr = if a.pc = .run then 0 else 1
  rets : a.pc = .returned → Event.returned vals.getLast? ∈ tr
  panics : Event.panicked ∉ tr

theorem pinv_init (cap : Nat) (vals : List Nat) : PInv cap vals [] (pinit vals) := by
  constructor <;> simp [pinit]

/-- The fields of `PInv` about projections of the trace (all that mention `tr` but `rets`): one `simp`
    proves them for every rule. -/
structure PTrace (tr : List Event) (a : PA) : Prop where
  sent : sentVals tr = a.got ++ a.buf
  recv : recvVals tr = a.got
  closes : closeCount 0 tr = if a.pc = .run then 0 else 1
  panics : Event.panicked ∉ tr

theorem PInv.trace_step {cap : Nat} {vals : List Nat} {r : Option Nat} {tr l : List Event} {a a' : PA}
    (h : PInv cap vals tr a) (hs : PStep cap r a l a') : PTrace (tr ++ l) a' := by
  cases hs <;> constructor <;> simp [h.sent, h.recv, h.closes, h.panics]

theorem pinv_step (cap : Nat) (vals : List Nat) (tr : List Event) (a : PA) (l : List Event) (a' : PA)
    (h : PInv cap vals tr a) (hs : PStep cap vals.getLast? a l a') : PInv cap vals (tr ++ l) a' := by
  have t := h.trace_step hs
  -- `{ t, h with … }` takes a field that is not listed from `t` if `PTrace` has it, otherwise from `h`:
  -- that is accepted where the rule does not touch the part of the state the field speaks of
  cases hs with
  | send hlt => exact
    { t, h with
      split := by simpa using h.split
      capOk := by rw [List.length_append]; exact hlt
      closedTodo := nofun
      sawOk := fun hs => absurd rfl (h.sawOk hs).2
      rets := nofun }
  | close => exact
    { t, h with
      closedTodo := fun _ => rfl
      sawOk := fun hs => ⟨(h.sawOk hs).1, nofun⟩
      rets := nofun }
  | ret => exact
    { t, h with
      closedTodo := fun _ => h.closedTodo nofun
      sawOk := fun hs => ⟨(h.sawOk hs).1, nofun⟩
      rets := fun _ => by simp }
  | sync h0 => exact
    { t, h with
      split := by simpa using h.split
      closedTodo := nofun
      sawOk := nofun
      rets := nofun }
  | recv => exact
    { t, h with
      split := by simpa using h.split
      capOk := Nat.le_of_succ_le h.capOk
      sawOk := nofun
      rets := fun hp => List.mem_append_left _ (h.rets hp) }
  | sawClosed hpc => exact
    { t, h with
      sawOk := fun _ => ⟨rfl, hpc⟩
      rets := fun hp => List.mem_append_left _ (h.rets hp) }

theorem producer_reach {cap : Nat} {tr : List Event} {vals : List Nat} {s : State}
    (h : LReach (producerSystem cap vals) tr s) :
    ∃ a, s = pstate cap vals.getLast? a ∧ PInv cap vals tr a := by
  rw [producerSystem_eq] at h
  exact (PAbs cap vals.getLast?).reach _ (pinv_init cap vals) (pinv_step cap vals) h

/-- Final state of the producer system: both processes have run to completion, the channel is
    closed and empty, the consumer has observed the close. -/
def pfinal (s : State) : Prop :=
  s.panic = false ∧ (∀ p ∈ s.procs, p.code = []) ∧ (∀ ch ∈ s.chans, ch.closed = true ∧ ch.buf = []) ∧
  ∃ c, s.procs[1]? = some c ∧ c.sawClose = true

/-- No send on a closed channel, no double close. -/
theorem producer_no_panic {cap : Nat} {vals : List Nat} {tr : List Event} {s : State}
    (h : LReach (producerSystem cap vals) tr s) : s.panic = false ∧ Event.panicked ∉ tr := by
  rcases producer_reach h with ⟨a, rfl, ha⟩
  exact ⟨rfl, ha.panics⟩

/-- The consumer has received a prefix of `vals`, all of `vals` once it has observed the close. -/
theorem producer_fifo {cap : Nat} {vals : List Nat} {tr : List Event} {s : State}
    (h : LReach (producerSystem cap vals) tr s) :
    ∃ c, s.procs[1]? = some c ∧ c.got <+: vals ∧ recvVals tr = c.got ∧
      (c.sawClose = true → c.got = vals) := by
  rcases producer_reach h with ⟨a, rfl, ha⟩
  refine ⟨cproc 0 a.got a.saw, rfl, ?_, ha.recv, ?_⟩
  · exact ⟨a.buf ++ a.todo, by simp [cproc, ha.split]⟩
  · intro hs
    have hs' : a.saw = true := by simpa [cproc] using hs
    have h1 := ha.sawOk hs'
    have h2 := ha.closedTodo h1.2
    simp [cproc, ha.split, h1.1, h2]

/-- `close` was executed once if the channel is closed, never otherwise, and only the producer has a
    `close`; when it is closed every value has been sent. -/
theorem producer_closed_once {cap : Nat} {vals : List Nat} {tr : List Event} {s : State}
    (h : LReach (producerSystem cap vals) tr s) :
    ∃ p c ch, s.procs = [p, c] ∧ s.chans = [ch] ∧
      closeCount 0 tr = (if ch.closed then 1 else 0) ∧
      (ch.closed = true ↔ Instr.close 0 ∉ p.code) ∧
      (ch.closed = true → sentVals tr = vals ∧ ∀ v, Instr.send 0 v ∉ p.code) ∧
      (∀ k, Instr.close k ∉ c.code) := by
  rcases producer_reach h with ⟨a, rfl, ha⟩
  refine ⟨_, _, _, rfl, rfl, ?_, ?_, ?_, ?_⟩
  · rw [ha.closes]; cases hpc : a.pc <;> simp
  · cases hpc : a.pc <;> simp [pproc, hpc]
  · intro hc
    have hpc : a.pc ≠ .run := by simpa using hc
    have ht := ha.closedTodo hpc
    refine ⟨by rw [ha.sent, ha.split, ht]; simp, ?_⟩
    intro v
    cases hp : a.pc <;> simp_all [pproc]
  · intro k
    cases a.saw <;> simp [cproc]

def pfinalA (a : PA) : Prop := a.pc = .returned ∧ a.saw = true ∧ a.buf = []

theorem pproc_code_nil (r : Option Nat) (a : PA) : (pproc r a).code = [] ↔ a.pc = .returned := by
  cases h : a.pc <;> simp [pproc, h]

theorem cproc_code_nil (c : Nat) (got : List Nat) (saw : Bool) : (cproc c got saw).code = [] ↔ saw = true := by
  cases saw <;> simp [cproc]

theorem pfinal_iff {cap : Nat} {r : Option Nat} {a : PA} : pfinal (pstate cap r a) ↔ pfinalA a := by
  have hsaw : (cproc 0 a.got a.saw).sawClose = a.saw := rfl
  simp [pfinal, pfinalA, pstate, pproc_code_nil, cproc_code_nil, hsaw]
  constructor
  · rintro ⟨⟨hpc, hs⟩, ⟨-, hb⟩, -⟩; exact ⟨hpc, hs, hb⟩
  · rintro ⟨hpc, hs, hb⟩; simp [hpc, hs, hb]

theorem pstep_enabled {cap : Nat} {vals : List Nat} {tr : List Event} {a : PA}
    (h : PInv cap vals tr a) : pfinalA a ∨ ∃ l a', PStep cap vals.getLast? a l a' := by
  rcases a with ⟨got, buf, todo, pc, saw⟩
  cases saw
  · refine Or.inr ?_
    cases buf with
    | cons v b => exact ⟨_, _, .recv⟩
    | nil =>
      cases pc
      · cases todo with
        | nil => exact ⟨_, _, .close⟩
        | cons v t =>
          by_cases h0 : cap = 0
          · exact ⟨_, _, .sync h0⟩
          · exact ⟨_, _, .send (Nat.pos_of_ne_zero h0)⟩
      · exact ⟨_, _, .ret⟩
      · exact ⟨_, _, .sawClosed nofun⟩
  · cases pc
    · exact absurd rfl (h.sawOk rfl).2
    · exact Or.inr ⟨_, _, .ret⟩
    · exact Or.inl ⟨rfl, rfl, (h.sawOk rfl).1⟩

/-- No deadlock, capacity 0 included. -/
theorem producer_no_deadlock {cap : Nat} {vals : List Nat} {s : State}
    (h : Reachable (producerSystem cap vals) s) : pfinal s ∨ ∃ s', Step s s' := by
  rcases h with ⟨tr, h⟩
  rcases producer_reach h with ⟨a, rfl, ha⟩
  rcases pstep_enabled ha with hf | ⟨l, a', hs⟩
  · exact Or.inl (pfinal_iff.mpr hf)
  · exact Or.inr ((PAbs cap vals.getLast?).exists_step hs)

theorem producer_final_stuck {cap : Nat} {vals : List Nat} {s s' : State}
    (h : Reachable (producerSystem cap vals) s) (hf : pfinal s) : ¬ Step s s' :=
  have _ := h  -- not needed: no state whose processes have all finished has a step
  not_step_of_code_nil hf.2.1

/-- Termination measure; the weight 2 pays for the buffered value that a send adds. -/
def pmeasure (s : State) : Nat :=
  match s.procs, s.chans with
  | [p, c], [ch] => 2 * p.code.length + ch.buf.length + c.code.length
  | _, _ => 0

theorem pmeasure_dec {cap : Nat} {r : Option Nat} {a a' : PA} {l : List Event}
    (hs : PStep cap r a l a') : pmeasure (pstate cap r a') < pmeasure (pstate cap r a) := by
  cases hs <;> simp [pmeasure, pstate, pproc, cproc] <;> omega

theorem producer_measure_dec {cap : Nat} {vals : List Nat} {s s' : State}
    (h : Reachable (producerSystem cap vals) s) (hs : Step s s') : pmeasure s' < pmeasure s := by
  rcases h with ⟨tr, h⟩
  rcases producer_reach h with ⟨a, rfl, _⟩
  exact (PAbs cap vals.getLast?).measure_dec pmeasure_dec hs

/-- Every execution has at most `2·|vals| + 5` steps. -/
theorem producer_terminates {cap : Nat} {vals : List Nat} {n : Nat} {s : State}
    (h : Steps n (producerSystem cap vals) s) : n + pmeasure s ≤ 2 * vals.length + 5 := by
  have := steps_bounded pmeasure (fun s s' hr hs => producer_measure_dec (cap := cap) (vals := vals) hr hs) h
  -- only the measure of the initial state is to be computed; unfolding the one of `s` is slow
  generalize pmeasure s = m at this ⊢
  simpa [pmeasure, producerSystem, producerCode, Nat.mul_add] using this

/-- In the final state the consumer has received exactly `vals` and the value returned by the
    producer is the last value received. -/
theorem producer_final_result {cap : Nat} {vals : List Nat} {tr : List Event} {s : State}
    (h : LReach (producerSystem cap vals) tr s) (hf : pfinal s) :
    recvVals tr = vals ∧ Event.returned (recvVals tr).getLast? ∈ tr ∧ closeCount 0 tr = 1 := by
  rcases producer_reach h with ⟨a, rfl, ha⟩
  have hfa := pfinal_iff.mp hf
  have h2 := ha.closedTodo (ha.sawOk hfa.2.1).2
  have hr : recvVals tr = vals := by rw [ha.recv, ha.split, hfa.2.2, h2]; simp
  refine ⟨hr, ?_, ?_⟩
  · rw [hr]; exact ha.rets hfa.1
  · rw [ha.closes]; simp [hfa.1]


/-! Small instances explored by evaluation.  The statements about `reachN` are instances of `*_no_panic`
and `*_no_deadlock` (with `step_iff_mem`); they are evaluated all the same, as a test of the exploration
functions (`successors`, `layer`, `reachN`), which the proofs above do not use.  Where `layer n = []` is
checked beside them, `reachN n` is the whole reachable set (`reachable_iff_mem_reachN`); for
`producerSystem 2 [1, 2, 3]` it is not checked. -/

instance (s : State) : Decidable (pfinal s) :=
  decidable_of_iff (s.panic = false ∧ (∀ p ∈ s.procs, p.code = []) ∧
      (∀ ch ∈ s.chans, ch.closed = true ∧ ch.buf = []) ∧ s.procs[1]?.map (·.sawClose) = some true)
    (by unfold pfinal; simp [Option.map_eq_some_iff])

example : layer 7 [producerSystem 0 [1, 2]] = [] := by decide +kernel
example : ∀ s ∈ reachN 7 [producerSystem 0 [1, 2]],
    s.panic = false ∧ (pfinal s ∨ successors s ≠ []) := by decide +kernel
example : layer 9 [producerSystem 1 [1, 2]] = [] := by decide +kernel
example : ∀ s ∈ reachN 9 [producerSystem 1 [1, 2]],
    s.panic = false ∧ (pfinal s ∨ successors s ≠ []) := by decide +kernel
example : ∀ s ∈ reachN 12 [producerSystem 2 [1, 2, 3]],
    s.panic = false ∧ (pfinal s ∨ successors s ≠ []) := by decide +kernel
/-- the hypotheses of the producer theorems are satisfiable, including a reachable final state -/
example : ∃ tr s, LReach (producerSystem 1 [1, 2]) tr s ∧ pfinal s :=
  exists_lreach_of_layer (n := 7) (by decide +kernel)
example : ∃ tr s, LReach (producerSystem 0 [1, 2]) tr s ∧ pfinal s :=
  exists_lreach_of_layer (n := 5) (by decide +kernel)
/-- Enumerate on an unsatisfiable problem: no value at all -/
example : ∃ tr s, LReach (producerSystem 0 []) tr s ∧ pfinal s :=
  exists_lreach_of_layer (n := 3) (by decide +kernel)

inductive FPc | fwd | closing | returning | done
deriving DecidableEq, Repr

/-- Abstract state of the forwarder system: `todo` not yet sent by the inner producer, `pdone` =
    inner producer has closed `localRes`, `hold` = value received by the forwarder and not yet
    re-sent, `fgot` = everything the forwarder received, `buf` = buffer of `results`,
    `got`/`saw` = consumer. -/
structure FA where
  todo : List Nat
  pdone : Bool
  hold : Option Nat
  fgot : List Nat
  fpc : FPc
  buf : List Nat
  got : List Nat
  saw : Bool

def FPc.outerClosed : FPc → Bool
  | .fwd => false | .closing => false | .returning => true | .done => true

def fproc0 (a : FA) : Proc :=
  { code := if a.pdone then [] else a.todo.map (Instr.send 0) ++ [.close 0] }

def fproc1 (a : FA) : Proc :=
  { code := match a.fpc with
            | .fwd => [.forward 0 1, .close 1, .retLast]
            | .closing => [.close 1, .retLast]
            | .returning => [.retLast]
            | .done => [],
    hold := a.hold, got := a.fgot, sawClose := decide (a.fpc ≠ .fwd) }

def fstate (cap : Nat) (a : FA) : State :=
  { procs := [ fproc0 a, fproc1 a, cproc 1 a.got a.saw ],
    chans := [ ⟨0, [], a.pdone⟩, ⟨cap, a.buf, a.fpc.outerClosed⟩ ] }

inductive FStep (cap : Nat) : FA → List Event → FA → Prop
  | close0 {hold fgot fpc buf got saw} :
      FStep cap ⟨[], false, hold, fgot, fpc, buf, got, saw⟩ [.closed 0] ⟨[], true, hold, fgot, fpc, buf, got, saw⟩
  | sync01 {v t fgot buf got saw} :
      FStep cap ⟨v :: t, false, none, fgot, .fwd, buf, got, saw⟩ [.sent 0 v, .received 0 v]
        ⟨t, false, some v, fgot ++ [v], .fwd, buf, got, saw⟩
  | send1 {todo pdone v fgot buf got saw} : buf.length < cap →
      FStep cap ⟨todo, pdone, some v, fgot, .fwd, buf, got, saw⟩ [.sent 1 v]
        ⟨todo, pdone, none, fgot, .fwd, buf ++ [v], got, saw⟩
  | sawClosed0 {todo fgot buf got saw} :
      FStep cap ⟨todo, true, none, fgot, .fwd, buf, got, saw⟩ [.sawClosed 0]
        ⟨todo, true, none, fgot, .closing, buf, got, saw⟩
  | close1 {todo pdone hold fgot buf got saw} :
      FStep cap ⟨todo, pdone, hold, fgot, .closing, buf, got, saw⟩ [.closed 1]
        ⟨todo, pdone, hold, fgot, .returning, buf, got, saw⟩
  | ret {todo pdone hold fgot buf got saw} :
      FStep cap ⟨todo, pdone, hold, fgot, .returning, buf, got, saw⟩ [.returned fgot.getLast?]
        ⟨todo, pdone, hold, fgot, .done, buf, got, saw⟩
  | sync12 {todo pdone v fgot got} : cap = 0 →
      FStep cap ⟨todo, pdone, some v, fgot, .fwd, [], got, false⟩ [.sent 1 v, .received 1 v]
        ⟨todo, pdone, none, fgot, .fwd, [], got ++ [v], false⟩
  | recv1 {todo pdone hold fgot fpc v b got} :
      FStep cap ⟨todo, pdone, hold, fgot, fpc, v :: b, got, false⟩ [.received 1 v]
        ⟨todo, pdone, hold, fgot, fpc, b, got ++ [v], false⟩
  | sawClosed1 {todo pdone hold fgot fpc got} : fpc.outerClosed = true →
      FStep cap ⟨todo, pdone, hold, fgot, fpc, [], got, false⟩ [.sawClosed 1]
        ⟨todo, pdone, hold, fgot, fpc, [], got, true⟩

/-- The inner producer sends on `localRes` while the consumer listens on `results`, the inner producer
    never receives and the consumer never sends: of the six ordered pairs of `lstep3` only
    producer → forwarder and forwarder → consumer can meet. -/
theorem fstate_lstep {cap : Nat} {a : FA} {l : List Event} {s' : State} :
    LStep (fstate cap a) l s' ↔ ∃ a', FStep cap a l a' ∧ s' = fstate cap a' := by
  have hp : (fstate cap a).procs[0]? = some (fproc0 a) := rfl
  have hf : (fstate cap a).procs[1]? = some (fproc1 a) := rfl
  have hq : (fstate cap a).procs[2]? = some (cproc 1 a.got a.saw) := rfl
  have hc0 : (fstate cap a).chans[0]? = some ⟨0, [], a.pdone⟩ := rfl
  have hc1 : (fstate cap a).chans[1]? = some ⟨cap, a.buf, a.fpc.outerClosed⟩ := rfl
  rcases a with ⟨todo, pdone, hold, fgot, fpc, buf, got, saw⟩
  constructor
  · intro h
    rcases (lstep3 rfl rfl).mp h with h | h | h | h | h | h | h | h | h
    · cases pdone
      · cases todo with
        | nil => rw [localStep_close hp rfl hc0 rfl] at h; cases h; exact ⟨_, .close0, rfl⟩
        | cons v t => cases ((localStep_send hp rfl hc0 rfl).mp h).1
      · rw [localStep_idle hp rfl] at h; cases h
    · obtain ⟨c, v, p', f, qc, ch, -, ha, hb, -, -, -, -, rfl, rfl⟩ := syncStep_inv hp hf h
      cases pdone <;> cases todo <;> cases ha
      cases fpc <;> cases hold <;> cases hb
      exact ⟨_, .sync01, rfl⟩
    · obtain ⟨c, v, p', f, qc, ch, -, ha, hb, -⟩ := syncStep_inv hp hq h
      cases pdone <;> cases todo <;> cases ha
      cases saw <;> cases hb
    · cases fpc
      · cases hold with
        | none =>
          obtain ⟨⟨⟩, ⟨⟩⟩ := (localStep_recv_nil hf rfl hc0 rfl).mp h
          exact ⟨_, .sawClosed0, rfl⟩
        | some v =>
          obtain ⟨hlt, ⟨⟩⟩ := (localStep_send hf rfl hc1 rfl).mp h
          exact ⟨_, .send1 hlt, rfl⟩
      · rw [localStep_close hf rfl hc1 rfl] at h; cases h; exact ⟨_, .close1, rfl⟩
      · rw [localStep_tau hf rfl] at h; cases h; exact ⟨_, .ret, rfl⟩
      · rw [localStep_idle hf rfl] at h; cases h
    · obtain ⟨c, v, p', f, qc, ch, -, -, hb, -⟩ := syncStep_inv hf hp h
      cases pdone <;> cases todo <;> cases hb
    · obtain ⟨c, v, p', f, qc, ch, -, ha, hb, hch, -, h0, hbuf, rfl, rfl⟩ := syncStep_inv hf hq h
      cases fpc <;> cases hold <;> cases ha
      cases saw <;> cases hb
      cases hch
      cases hbuf
      exact ⟨_, .sync12 h0, rfl⟩
    · cases saw
      · cases buf with
        | nil =>
          obtain ⟨hcl, ⟨⟩⟩ := (localStep_recv_nil hq rfl hc1 rfl).mp h
          exact ⟨_, .sawClosed1 hcl, rfl⟩
        | cons v b => rw [localStep_recv_cons hq rfl hc1 rfl] at h; cases h; exact ⟨_, .recv1, rfl⟩
      · rw [localStep_idle hq rfl] at h; cases h
    · obtain ⟨c, v, p', f, qc, ch, -, ha, -⟩ := syncStep_inv hq hp h
      cases saw <;> cases ha
    · obtain ⟨c, v, p', f, qc, ch, -, ha, -⟩ := syncStep_inv hq hf h
      cases saw <;> cases ha
  · rintro ⟨a', h, rfl⟩
    cases h with
    | close0 => exact .close rfl hp rfl hc0 rfl
    | sync01 => exact .sync rfl (by decide) hp hf rfl rfl hc0 rfl rfl rfl
    | send1 hlt => exact .sendBuf rfl hf rfl hc1 rfl hlt
    | sawClosed0 => exact .recvClosed rfl hf rfl hc0 rfl rfl
    | close1 => exact .close rfl hf rfl hc1 rfl
    | ret => exact .tau rfl hf rfl
    | sync12 h0 => exact .sync rfl (by decide) hf hq rfl rfl hc1 rfl h0 rfl
    | recv1 => exact .recvVal rfl hq rfl hc1 rfl
    | sawClosed1 hoc => exact .recvClosed rfl hq rfl hc1 rfl hoc

def FAbs (cap : Nat) : Abs FA := ⟨fstate cap, FStep cap, fstate_lstep⟩

def finit (vals : List Nat) : FA := ⟨vals, false, none, [], .fwd, [], [], false⟩

theorem forwarderSystem_eq (cap : Nat) (vals : List Nat) :
    forwarderSystem cap vals = fstate cap (finit vals) := by
  simp [forwarderSystem, fstate, finit, fproc0, fproc1, cproc, FPc.outerClosed]

structure FInv (cap : Nat) (vals : List Nat) (tr : List Event) (a : FA) : Prop where
  split : vals = a.got ++ a.buf ++ a.hold.toList ++ a.todo
  fgotEq : a.fgot = a.got ++ a.buf ++ a.hold.toList
  capOk : a.buf.length ≤ cap
  pdoneTodo : a.pdone = true → a.todo = []
  fpcOk : a.fpc ≠ .fwd → a.pdone = true ∧ a.hold = none
  sawOk : a.saw = true → a.buf = [] ∧ a.fpc.outerClosed = true
  recv1 : recvOn 1 tr = a.got
  sent1 : sentOn 1 tr = a.got ++ a.buf
  recv0 : recvOn 0 tr = a.fgot
  sent0 : sentOn 0 tr = a.fgot
  closes1 : closeCount 1 tr = if a.fpc.outerClosed then 1 else 0
  closes0 : closeCount 0 tr = if a.pdone then 1 else 0
  rets : a.fpc = .done → Event.returned vals.getLast? ∈ tr
  panics : Event.panicked ∉ tr

theorem finv_init (cap : Nat) (vals : List Nat) : FInv cap vals [] (finit vals) := by
  constructor <;> simp [finit, FPc.outerClosed]

structure FTrace (tr : List Event) (a : FA) : Prop where
  recv1 : recvOn 1 tr = a.got
  sent1 : sentOn 1 tr = a.got ++ a.buf
  recv0 : recvOn 0 tr = a.fgot
  sent0 : sentOn 0 tr = a.fgot
  closes1 : closeCount 1 tr = if a.fpc.outerClosed then 1 else 0
  closes0 : closeCount 0 tr = if a.pdone then 1 else 0
  panics : Event.panicked ∉ tr

theorem FInv.trace_step {cap : Nat} {vals : List Nat} {tr l : List Event} {a a' : FA}
    (h : FInv cap vals tr a) (hs : FStep cap a l a') : FTrace (tr ++ l) a' := by
  have ⟨r1, s1, r0, s0, c1, c0, pn⟩ : FTrace tr a := { h with }
  cases hs <;> constructor <;> simp [r1, s1, r0, s0, c1, c0, pn, FPc.outerClosed]

theorem finv_step (cap : Nat) (vals : List Nat) (tr : List Event) (a : FA) (l : List Event) (a' : FA)
    (h : FInv cap vals tr a) (hs : FStep cap a l a') : FInv cap vals (tr ++ l) a' := by
  have t := h.trace_step hs
  cases hs with
  | close0 => exact
    { t, h with
      pdoneTodo := fun _ => rfl
      fpcOk := fun hf => ⟨rfl, (h.fpcOk hf).2⟩
      rets := fun hf => List.mem_append_left _ (h.rets hf) }
  | @sync01 v => exact
    { t, h with
      split := by simpa using h.split
      fgotEq := by simpa using congrArg (· ++ [v]) h.fgotEq
      pdoneTodo := nofun
      fpcOk := fun hf => absurd rfl hf
      rets := nofun }
  | send1 hlt => exact
    { t, h with
      split := by simpa using h.split
      fgotEq := by simpa using h.fgotEq
      capOk := by rw [List.length_append]; exact hlt
      fpcOk := fun hf => absurd rfl hf
      sawOk := fun hs => nomatch (h.sawOk hs).2
      rets := nofun }
  | sawClosed0 => exact
    { t, h with
      fpcOk := fun _ => ⟨rfl, rfl⟩
      rets := nofun }
  | close1 => exact
    { t, h with
      fpcOk := fun _ => h.fpcOk nofun
      sawOk := fun hs => ⟨(h.sawOk hs).1, rfl⟩
      rets := nofun }
  | ret => exact
    { t, h with
      fpcOk := fun _ => h.fpcOk nofun
      rets := fun _ => by
        -- the forwarding loop is over, so the forwarder has received all of `vals`
        have hv : vals = _ := h.split
        rw [h.pdoneTodo (h.fpcOk nofun).1, List.append_nil, ← h.fgotEq] at hv
        simp [hv] }
  | sync12 h0 => exact
    { t, h with
      split := by simpa using h.split
      fgotEq := by simpa using h.fgotEq
      fpcOk := fun hf => absurd rfl hf
      sawOk := nofun
      rets := nofun }
  | recv1 => exact
    { t, h with
      split := by simpa using h.split
      fgotEq := by simpa using h.fgotEq
      capOk := Nat.le_of_succ_le h.capOk
      sawOk := nofun
      rets := fun hf => List.mem_append_left _ (h.rets hf) }
  | sawClosed1 hoc => exact
    { t, h with
      sawOk := fun _ => ⟨rfl, hoc⟩
      rets := fun hf => List.mem_append_left _ (h.rets hf) }

theorem FInv.drained {cap : Nat} {vals : List Nat} {tr : List Event} {a : FA} (h : FInv cap vals tr a)
    (hc : a.fpc.outerClosed = true) : a.hold = none ∧ a.todo = [] := by
  have h1 := h.fpcOk (by intro hf; rw [hf] at hc; cases hc)
  exact ⟨h1.2, h.pdoneTodo h1.1⟩

theorem forwarder_reach {cap : Nat} {tr : List Event} {vals : List Nat} {s : State}
    (h : LReach (forwarderSystem cap vals) tr s) :
    ∃ a, s = fstate cap a ∧ FInv cap vals tr a := by
  rw [forwarderSystem_eq] at h
  exact (FAbs cap).reach _ (finv_init cap vals) (finv_step cap vals) h

/-- Final state of the forwarder system: the three processes have run to completion, both channels
    are closed and empty, the consumer has observed the close of `results`. -/
def ffinal (s : State) : Prop :=
  s.panic = false ∧ (∀ p ∈ s.procs, p.code = []) ∧ (∀ ch ∈ s.chans, ch.closed = true ∧ ch.buf = []) ∧
  ∃ c, s.procs[2]? = some c ∧ c.sawClose = true

theorem forwarder_no_panic {cap : Nat} {vals : List Nat} {tr : List Event} {s : State}
    (h : LReach (forwarderSystem cap vals) tr s) : s.panic = false ∧ Event.panicked ∉ tr := by
  rcases forwarder_reach h with ⟨a, rfl, ha⟩
  exact ⟨rfl, ha.panics⟩

/-- The consumer of `results` (process 2) has received a prefix of what the forwarder
    (process 1) has received, itself a prefix of `vals` (the values produced by the inner
    `solver.Optimal`); all of `vals` once it has seen the close. -/
theorem forwarder_fifo {cap : Nat} {vals : List Nat} {tr : List Event} {s : State}
    (h : LReach (forwarderSystem cap vals) tr s) :
    ∃ f c, s.procs[1]? = some f ∧ s.procs[2]? = some c ∧
      c.got <+: f.got ∧ f.got <+: vals ∧ recvOn 1 tr = c.got ∧ recvOn 0 tr = f.got ∧
      (c.sawClose = true → c.got = vals) := by
  rcases forwarder_reach h with ⟨a, rfl, ha⟩
  refine ⟨fproc1 a, cproc 1 a.got a.saw, rfl, rfl, ?_, ?_, ha.recv1, ha.recv0, ?_⟩
  · exact ⟨a.buf ++ a.hold.toList, by simp [cproc, fproc1, ha.fgotEq]⟩
  · exact ⟨a.todo, by simp [fproc1, ha.fgotEq, ha.split]⟩
  · intro hs
    have hs' : a.saw = true := by simpa [cproc] using hs
    have h1 := ha.sawOk hs'
    have h2 := ha.drained h1.2
    simp [cproc, ha.split, h1.1, h2.1, h2.2]

/-- Each channel was closed once if it is closed, never otherwise;
    only the forwarder has a `close(results)`, and when `results` is closed everything has been
    forwarded; only the inner producer closes `localRes`. -/
theorem forwarder_closed_once {cap : Nat} {vals : List Nat} {tr : List Event} {s : State}
    (h : LReach (forwarderSystem cap vals) tr s) :
    ∃ p f c inner outer, s.procs = [p, f, c] ∧ s.chans = [inner, outer] ∧
      closeCount 1 tr = (if outer.closed then 1 else 0) ∧
      closeCount 0 tr = (if inner.closed then 1 else 0) ∧
      (outer.closed = true ↔ Instr.close 1 ∉ f.code) ∧
      (outer.closed = true → sentOn 1 tr = vals ∧ f.hold = none ∧ Instr.forward 0 1 ∉ f.code) ∧
      Instr.close 1 ∉ p.code ∧ Instr.close 1 ∉ c.code ∧
      (inner.closed = true ↔ Instr.close 0 ∉ p.code) ∧
      Instr.close 0 ∉ f.code ∧ Instr.close 0 ∉ c.code := by
  rcases forwarder_reach h with ⟨a, rfl, ha⟩
  refine ⟨_, _, _, _, _, rfl, rfl, ha.closes1, ha.closes0, ?_, ?_, ?_, ?_, ?_, ?_, ?_⟩
  · cases hpc : a.fpc <;> simp [fproc1, hpc, FPc.outerClosed]
  · intro hc
    have h2 := ha.drained hc
    refine ⟨by rw [ha.sent1, ha.split, h2.1, h2.2]; simp, by simp [fproc1, h2.1], ?_⟩
    cases hp : a.fpc <;> simp_all [fproc1, FPc.outerClosed]
  · cases a.pdone <;> simp [fproc0]
  · cases a.saw <;> simp [cproc]
  · cases hpd : a.pdone <;> simp [fproc0, hpd]
  · cases hpc : a.fpc <;> simp [fproc1, hpc]
  · cases a.saw <;> simp [cproc]

def ffinalA (a : FA) : Prop := a.pdone = true ∧ a.fpc = .done ∧ a.saw = true ∧ a.buf = []

theorem fproc0_code_nil (a : FA) : (fproc0 a).code = [] ↔ a.pdone = true := by
  cases h : a.pdone <;> simp [fproc0, h]

theorem fproc1_code_nil (a : FA) : (fproc1 a).code = [] ↔ a.fpc = .done := by
  cases h : a.fpc <;> simp [fproc1, h]

theorem ffinal_iff {cap : Nat} {a : FA} : ffinal (fstate cap a) ↔ ffinalA a := by
  have hsaw : (cproc 1 a.got a.saw).sawClose = a.saw := rfl
  simp [ffinal, ffinalA, fstate, fproc0_code_nil, fproc1_code_nil, cproc_code_nil, hsaw]
  constructor
  · rintro ⟨⟨hd, hpc, hs⟩, ⟨-, -, hb⟩, -⟩; exact ⟨hd, hpc, hs, hb⟩
  · rintro ⟨hd, hpc, hs, hb⟩; simp [hd, hpc, hs, hb, FPc.outerClosed]

theorem fstep_enabled {cap : Nat} {vals : List Nat} {tr : List Event} {a : FA}
    (h : FInv cap vals tr a) : ffinalA a ∨ ∃ l a', FStep cap a l a' := by
  rcases a with ⟨todo, pdone, hold, fgot, fpc, buf, got, saw⟩
  cases fpc
  · refine Or.inr ?_
    cases hold with
    | none =>
      cases pdone
      · cases todo with
        | nil => exact ⟨_, _, .close0⟩
        | cons v t => exact ⟨_, _, .sync01⟩
      · exact ⟨_, _, .sawClosed0⟩
    | some v =>
      by_cases hlt : buf.length < cap
      · exact ⟨_, _, .send1 hlt⟩
      · cases saw
        · cases buf with
          | nil => exact ⟨_, _, .sync12 (Nat.eq_zero_of_not_pos hlt)⟩
          | cons w b => exact ⟨_, _, .recv1⟩
        · exact nomatch (h.sawOk rfl).2
  · exact Or.inr ⟨_, _, .close1⟩
  · exact Or.inr ⟨_, _, .ret⟩
  · cases saw
    · refine Or.inr ?_
      cases buf with
      | nil => exact ⟨_, _, .sawClosed1 rfl⟩
      | cons w b => exact ⟨_, _, .recv1⟩
    · exact Or.inl ⟨(h.fpcOk nofun).1, rfl, rfl, (h.sawOk rfl).1⟩

/-- No deadlock, capacity 0 of `results` included. -/
theorem forwarder_no_deadlock {cap : Nat} {vals : List Nat} {s : State}
    (h : Reachable (forwarderSystem cap vals) s) : ffinal s ∨ ∃ s', Step s s' := by
  rcases h with ⟨tr, h⟩
  rcases forwarder_reach h with ⟨a, rfl, ha⟩
  rcases fstep_enabled ha with hf | ⟨l, a', hs⟩
  · exact Or.inl (ffinal_iff.mpr hf)
  · exact Or.inr ((FAbs cap).exists_step hs)

theorem forwarder_final_stuck {cap : Nat} {vals : List Nat} {s s' : State}
    (h : Reachable (forwarderSystem cap vals) s) (hf : ffinal s) : ¬ Step s s' :=
  have _ := h
  not_step_of_code_nil hf.2.1

/-- Termination measure; a value weighs 4 while the inner producer has it, 3 in the forwarder's `hold`,
    2 in the buffer of `results`, and nothing once received: every hand-over loses at least 1. -/
def fmeasure (s : State) : Nat :=
  match s.procs, s.chans with
  | [p, f, c], [_, o] =>
      4 * p.code.length + 3 * (if f.hold.isSome then 1 else 0) + 2 * o.buf.length +
        f.code.length + c.code.length
  | _, _ => 0

theorem fmeasure_dec {cap : Nat} {a a' : FA} {l : List Event}
    (hs : FStep cap a l a') : fmeasure (fstate cap a') < fmeasure (fstate cap a) := by
  cases hs <;> simp [fmeasure, fstate, fproc0, fproc1, cproc] <;> omega

theorem forwarder_measure_dec {cap : Nat} {vals : List Nat} {s s' : State}
    (h : Reachable (forwarderSystem cap vals) s) (hs : Step s s') : fmeasure s' < fmeasure s := by
  rcases h with ⟨tr, h⟩
  rcases forwarder_reach h with ⟨a, rfl, _⟩
  exact (FAbs cap).measure_dec fmeasure_dec hs

/-- Every execution has at most `4·|vals| + 8` steps. -/
theorem forwarder_terminates {cap : Nat} {vals : List Nat} {n : Nat} {s : State}
    (h : Steps n (forwarderSystem cap vals) s) : n + fmeasure s ≤ 4 * vals.length + 8 := by
  have := steps_bounded fmeasure (fun s s' hr hs => forwarder_measure_dec (cap := cap) (vals := vals) hr hs) h
  generalize fmeasure s = m at this ⊢
  simpa [fmeasure, forwarderSystem, Nat.mul_add] using this

/-- In the final state the consumer has received exactly `vals`, the forwarder has returned the last
    value received by the consumer, each channel was closed exactly once. -/
theorem forwarder_final_result {cap : Nat} {vals : List Nat} {tr : List Event} {s : State}
    (h : LReach (forwarderSystem cap vals) tr s) (hf : ffinal s) :
    recvOn 1 tr = vals ∧ Event.returned (recvOn 1 tr).getLast? ∈ tr ∧
      closeCount 1 tr = 1 ∧ closeCount 0 tr = 1 := by
  rcases forwarder_reach h with ⟨a, rfl, ha⟩
  have hfa := ffinal_iff.mp hf
  have h2 := ha.drained (ha.sawOk hfa.2.2.1).2
  have hr : recvOn 1 tr = vals := by rw [ha.recv1, ha.split, hfa.2.2.2, h2.1, h2.2]; simp
  refine ⟨hr, ?_, ?_, ?_⟩
  · rw [hr]; exact ha.rets hfa.2.1
  · rw [ha.closes1]; simp [hfa.2.1, FPc.outerClosed]
  · rw [ha.closes0]; simp [hfa.1]

instance (s : State) : Decidable (ffinal s) :=
  decidable_of_iff (s.panic = false ∧ (∀ p ∈ s.procs, p.code = []) ∧
      (∀ ch ∈ s.chans, ch.closed = true ∧ ch.buf = []) ∧ s.procs[2]?.map (·.sawClose) = some true)
    (by unfold ffinal; simp [Option.map_eq_some_iff])

example : layer 11 [forwarderSystem 0 [1, 2]] = [] := by decide +kernel
example : ∀ s ∈ reachN 11 [forwarderSystem 0 [1, 2]],
    s.panic = false ∧ (ffinal s ∨ successors s ≠ []) := by decide +kernel
example : layer 13 [forwarderSystem 1 [1, 2]] = [] := by decide +kernel
example : ∀ s ∈ reachN 13 [forwarderSystem 1 [1, 2]],
    s.panic = false ∧ (ffinal s ∨ successors s ≠ []) := by decide +kernel
example : ∃ tr s, LReach (forwarderSystem 1 [1, 2]) tr s ∧ ffinal s :=
  exists_lreach_of_layer (n := 11) (by decide +kernel)
example : ∃ tr s, LReach (forwarderSystem 0 [1, 2]) tr s ∧ ffinal s :=
  exists_lreach_of_layer (n := 9) (by decide +kernel)

end GS.Chan
