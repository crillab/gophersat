import GS.Model.BfRender
import Std.Data.String.ToNat
/-!
# C17 — the formula text syntax is parsed with the documented precedence

Subject: `GS.BfParse.parse`, the line-by-line mirror of `bf/parser.go` (differentially tested
against the Go parser). Specification (`GS.Model.BfRender`): `Syn`, the syntax trees of the
documented grammar; `Syn.toSF`, the documented reading (`;` and `&` give `And(f, g)`, `|` gives
`Or(f, g)`, `->` `Implies`, `=` `Eq`, `^` `Not`, `{..}` `Unique`, operators of equal priority nest
to the right); `Syn.render`, the tokens with the minimal parentheses for the priorities
`;` < `=` < `->` < `|` < `&` < `^` < atom; `renderP d`, the same with any number of redundant
parentheses around any sub-term.

For unbounded inputs: parsing a rendering of `s` gives exactly `s.toSF` (`parse_renderP`); the
fuel of the mirror always suffices and every token list gives a formula or an error
(`parse_no_fuel`, `parse_total`); trailing tokens, unbalanced `(`, a missing operand give `err`,
a dangling `;` is accepted — a leniency of the Go code (`parse_errors`, `parse_leading_operator`).

Proof: the eight functions of the mirror are the grammar levels `parseAt 0 … 7`, the five binary
ones instances of one scheme (`parseAt_bin`, `Op.cont`). Fuel appears in two places only. One
induction (`fits_all`) shows that a call with eight units per token never answers `.fuel` and
leaves no more tokens than it got. Everything else is about `Yields d toks r`, "whenever level `d`
answers on `toks`, the answer is `r`": `.fuel` is strict in every function, so a call that has
answered has had answers from its sub-calls, and the rules of the grammar (`Yields.bin`, `.neg`,
`.paren`, …) hold without any bound. `parse_cst` is the induction over `CST`, concrete syntax with
explicit parenthesis nodes: "at every level `d ≤ c.prio`, for every `rest` whose first token cannot
continue a term at level `d`, `Yields d (c.render ++ rest) (ok c.toSF rest)`". The end of the file
(`nameId_vtok`, `renderP_mapNames`, `renderP_all`) serves `C17_BfLex`, where names are spelled otherwise.
-/
namespace GS.BfRender
open GS GS.BfParse

def parseAt : Nat → Nat → List String → Res SF
  | 0 => parseClause | 1 => clauseRest | 2 => parseEquiv | 3 => parseImplies
  | 4 => parseOr | 5 => parseAnd | 6 => parseNot | _ => parseBasic

def _root_.GS.BfParse.Res.andThen {α β : Type} (r : Res α) (k : α → List String → Res β) : Res β :=
  match r with
  | .ok a rest => k a rest
  | .err => .err
  | .fuel => .fuel

theorem _root_.GS.BfParse.Res.andThen_ne_fuel {α β : Type} {r : Res α} {k : α → List String → Res β}
    (h : r.andThen k ≠ .fuel) : r ≠ .fuel := fun e => h (by rw [e]; rfl)

theorem Op.prio_le (op : Op) : op.prio ≤ 5 := by cases op <;> decide
theorem Op.prio_pos (op : Op) : 1 ≤ op.prio := by cases op <;> decide
theorem level_cases {P : Nat → Prop} (clause : P 0) (bin : ∀ op : Op, P op.prio) (not : P 6)
    (basic : ∀ k, P (k + 7)) : ∀ d, P d
  | 0 => clause | 1 => bin .seq | 2 => bin .iff | 3 => bin .imp | 4 => bin .or | 5 => bin .and
  | 6 => not | k + 7 => basic k
theorem Op.toks_length_pos (op : Op) : 1 ≤ op.toks.length := by cases op <;> decide
theorem Op.toks_length_le (op : Op) : op.toks.length ≤ 2 := by cases op <;> simp [Op.toks]

/-- the level at which the right operand of `op` is parsed: its own (operators nest to the right),
except that `clauseRest` re-enters `parseClause` after `;` -/
def Op.rhs (op : Op) : Nat := if op = .seq then 0 else op.prio

theorem Op.rhs_cases (op : Op) : op.rhs = op.prio ∨ (op.rhs = 0 ∧ op.prio = 1) := by
  cases op <;> decide

/-- the answer to an operator at the end of the input: an error, except for `;`, which is accepted
and ignored -/
def Op.dangling (op : Op) (f : SF) : Res SF := if op = .seq then .ok f [] else .err

/-- what `clauseRest`, `parseEquiv`, `parseImplies`, `parseOr`, `parseAnd` do with the left operand
`f` and the tokens `rest` after it (`rhs` parses the right operand); `-` without `>` is an error -/
def Op.cont (op : Op) (rhs : List String → Res SF) (f : SF) (rest : List String) : Res SF :=
  if rest.head? ≠ op.toks.head? then .ok f rest
  else match rest.drop op.toks.length with
    | [] => op.dangling f
    | b :: B =>
      if op.toks.isPrefixOf rest then (rhs (b :: B)).andThen fun g r => .ok (op.mk f g) r else .err

/-- the end of a parenthesised formula in `parseBasic` -/
def closeParen (f : SF) : List String → Res SF
  | [] => .err
  | ")" :: r => .ok f r
  | _ => .err

theorem parseAt_zero (d : Nat) (toks : List String) : parseAt d 0 toks = .fuel := by
  rcases d with _|_|_|_|_|_|_|d <;> rfl

theorem parseClause_succ (fuel : Nat) (toks : List String) :
    parseClause (fuel + 1) toks =
      if toks.head?.any isOperator = true then .err else clauseRest fuel toks := by
  rcases toks with _ | ⟨h, tl⟩
  · rfl
  · simp only [parseClause, List.head?_cons, Option.any_some]; rfl

theorem Op.cont_stop {op : Op} {rest : List String} (h : rest.head? ≠ op.toks.head?)
    (rhs : List String → Res SF) (f : SF) : op.cont rhs f rest = .ok f rest := if_pos h

theorem Op.cont_toks (op : Op) (rhs : List String → Res SF) (f : SF) {B : List String} (hB : B ≠ []) :
    op.cont rhs f (op.toks ++ B) = (rhs B).andThen fun g r => .ok (op.mk f g) r := by
  obtain ⟨b, B, rfl⟩ := List.exists_cons_of_ne_nil hB
  cases op <;> simp [Op.cont, Op.toks]

theorem Op.cont_end (op : Op) (rhs : List String → Res SF) (f : SF) :
    op.cont rhs f op.toks = op.dangling f := by
  cases op <;> simp [Op.cont, Op.toks]

theorem head?_ne_of_not_cons {s : String} {rest : List String} (h : ∀ r, rest = s :: r → False) :
    rest.head? ≠ some s :=
  fun e => (List.head?_eq_some_iff.1 e).elim h

theorem Op.cont_imp_err (rhs : List String → Res SF) (f : SF) {rest : List String}
    (h : ∀ r, rest = ">" :: r → False) : Op.imp.cont rhs f ("-" :: rest) = .err := by
  rcases rest with _ | ⟨t, _ | ⟨b, B⟩⟩
  · rfl
  · rfl
  · have : t ≠ ">" := fun e => h _ (by rw [e])
    simp [Op.cont, Op.toks, Ne.symm this]

theorem clauseRest_succ (fuel : Nat) (toks : List String) :
    clauseRest (fuel + 1) toks = (parseEquiv fuel toks).andThen (Op.seq.cont (parseClause fuel)) := by
  simp only [clauseRest]
  cases parseEquiv fuel toks with
  | err => rfl
  | fuel => rfl
  | ok f rest =>
    symm
    simp only [Res.andThen]
    -- the branches of the function's `match` on what follows the left operand are the rules of `Op.cont`
    split
    · rfl
    · split
      · exact Op.seq.cont_end _ f
      · refine (Op.seq.cont_toks _ f ‹_›).trans ?_
        cases parseClause fuel _ <;> rfl
    · exact Op.cont_stop (head?_ne_of_not_cons ‹_›) _ f

theorem parseEquiv_succ (fuel : Nat) (toks : List String) :
    parseEquiv (fuel + 1) toks =
      if toks.head?.all isOperator = true then .err
      else (parseImplies fuel toks).andThen (Op.iff.cont (parseEquiv fuel)) := by
  rcases toks with _ | ⟨h, tl⟩
  · rfl
  simp only [parseEquiv, List.head?_cons, Option.all_some]
  by_cases hop : isOperator h = true
  · simp only [hop, ↓reduceIte]
  simp only [hop, Bool.false_eq_true, ↓reduceIte]
  cases parseImplies fuel (h :: tl) with
  | err => rfl
  | fuel => rfl
  | ok f rest =>
    symm
    simp only [Res.andThen]
    split
    · split
      · exact Op.iff.cont_end _ f
      · refine (Op.iff.cont_toks _ f ‹_›).trans ?_
        cases parseEquiv fuel _ <;> rfl
    · exact Op.cont_stop (head?_ne_of_not_cons ‹_›) _ f

theorem parseImplies_succ (fuel : Nat) (toks : List String) :
    parseImplies (fuel + 1) toks = (parseOr fuel toks).andThen (Op.imp.cont (parseImplies fuel)) := by
  simp only [parseImplies]
  cases parseOr fuel toks with
  | err => rfl
  | fuel => rfl
  | ok f rest =>
    symm
    simp only [Res.andThen]
    split
    · split
      · rfl
      · split
        · exact Op.imp.cont_end _ f
        · refine (Op.imp.cont_toks _ f ‹_›).trans ?_
          cases parseImplies fuel _ <;> rfl
      · exact Op.cont_imp_err _ f ‹_›
    · exact Op.cont_stop (head?_ne_of_not_cons ‹_›) _ f

theorem parseOr_succ (fuel : Nat) (toks : List String) :
    parseOr (fuel + 1) toks = (parseAnd fuel toks).andThen (Op.or.cont (parseOr fuel)) := by
  simp only [parseOr]
  cases parseAnd fuel toks with
  | err => rfl
  | fuel => rfl
  | ok f rest =>
    symm
    simp only [Res.andThen]
    split
    · split
      · exact Op.or.cont_end _ f
      · refine (Op.or.cont_toks _ f ‹_›).trans ?_
        cases parseOr fuel _ <;> rfl
    · exact Op.cont_stop (head?_ne_of_not_cons ‹_›) _ f

theorem parseAnd_succ (fuel : Nat) (toks : List String) :
    parseAnd (fuel + 1) toks = (parseNot fuel toks).andThen (Op.and.cont (parseAnd fuel)) := by
  simp only [parseAnd]
  cases parseNot fuel toks with
  | err => rfl
  | fuel => rfl
  | ok f rest =>
    symm
    simp only [Res.andThen]
    split
    · split
      · exact Op.and.cont_end _ f
      · refine (Op.and.cont_toks _ f ‹_›).trans ?_
        cases parseAnd fuel _ <;> rfl
    · exact Op.cont_stop (head?_ne_of_not_cons ‹_›) _ f
/-- the five binary levels are one scheme; `parseEquiv` alone tests its first token itself, and
with `.all` (an empty list is rejected too) where `parseClause` has `.any` -/
theorem parseAt_bin (op : Op) (fuel : Nat) (toks : List String) :
    parseAt op.prio (fuel + 1) toks =
      if op = .iff ∧ toks.head?.all isOperator = true then .err
      else (parseAt (op.prio + 1) fuel toks).andThen (op.cont (parseAt op.rhs fuel)) := by
  cases op
  · exact clauseRest_succ fuel toks
  · simpa [parseAt, Op.prio, Op.rhs] using parseEquiv_succ fuel toks
  · exact parseImplies_succ fuel toks
  · exact parseOr_succ fuel toks
  · exact parseAnd_succ fuel toks

theorem parseAt_bin_head (op : Op) (fuel : Nat) {toks : List String}
    (hop : toks.head?.all isOperator = false) :
    parseAt op.prio (fuel + 1) toks =
      (parseAt (op.prio + 1) fuel toks).andThen (op.cont (parseAt op.rhs fuel)) := by
  rw [parseAt_bin, if_neg]
  simp [hop]

theorem parseNot_succ (fuel : Nat) (toks : List String) :
    parseNot (fuel + 1) toks = match toks with
      | [] => parseBasic fuel []
      | t :: X =>
        if isOperator t then .err
        else if t = "^" then
          if X = [] then .err else (parseNot fuel X).andThen fun f r => .ok (SF.not f) r
        else parseBasic fuel (t :: X) := by
  rcases toks with _ | ⟨t, _ | ⟨x, X⟩⟩
  · rfl
  · simp only [parseNot, if_true]
  · simp only [parseNot, reduceCtorEq, if_false]
    cases parseNot fuel (x :: X) <;> rfl

theorem parseBasic_succ (fuel : Nat) (toks : List String) :
    parseBasic (fuel + 1) toks = match toks with
      | [] => .ok (SF.var 2997) []
      | t :: X =>
        if isOperator t || t = ")" then .err
        else if t = "(" then (parseClause fuel X).andThen closeParen
        else if t = "{" then (braceLoop fuel X []).andThen fun ns r => .ok (SF.unique ns) r
        else .ok (SF.var (nameId t)) X := by
  rcases toks with _ | ⟨t, X⟩
  · rfl
  · simp only [parseBasic]
    refine ite_congr rfl (fun _ => rfl) fun _ => ite_congr rfl (fun _ => ?_) fun _ =>
      ite_congr rfl (fun _ => ?_) fun _ => rfl
    · cases parseClause fuel X <;> rfl
    · cases braceLoop fuel X [] <;> rfl

theorem parseNot_cons (fuel : Nat) {h : String} (tl : List String) (hop : isOperator h = false)
    (hc : h ≠ "^") : parseNot (fuel + 1) (h :: tl) = parseBasic fuel (h :: tl) := by
  simp [parseNot_succ, hop, hc]

theorem parseNot_neg (fuel : Nat) {X : List String} (hX : X ≠ []) :
    parseNot (fuel + 1) ("^" :: X) = (parseNot fuel X).andThen fun f r => .ok (SF.not f) r := by
  rw [parseNot_succ]
  exact (if_neg (by decide)).trans ((if_pos rfl).trans (if_neg hX))

theorem plainTok_facts {t : String} (h : plainTok t = true) :
    isOperator t = false ∧ t ≠ "^" ∧ t ≠ "(" ∧ t ≠ ")" ∧ t ≠ "{" ∧ t ≠ "}" ∧ t ≠ "," ∧ t ≠ "-" ∧ t ≠ ">" := by
  simp only [plainTok, isPunct, Bool.and_eq_true, Bool.not_eq_true', Bool.or_eq_false_iff,
    decide_eq_false_iff_not] at h
  simp only [isOperator, h, decide_false, Bool.or_self, ne_eq, not_false_eq_true, and_self]

theorem parseBasic_name (fuel : Nat) {t : String} (rest : List String) (h : plainTok t = true) :
    parseBasic (fuel + 1) (t :: rest) = .ok (SF.var (nameId t)) rest := by
  have := plainTok_facts h
  simp [parseBasic_succ, this]

theorem parseBasic_brace (fuel : Nat) (X : List String) :
    parseBasic (fuel + 1) ("{" :: X) = (braceLoop fuel X []).andThen fun ns r => .ok (SF.unique ns) r := by
  rw [parseBasic_succ]
  exact (if_neg (by decide)).trans ((if_neg (by decide)).trans (if_pos rfl))

theorem parseBasic_paren (fuel : Nat) (X : List String) :
    parseBasic (fuel + 1) ("(" :: X) = (parseClause fuel X).andThen closeParen := by
  rw [parseBasic_succ]
  exact (if_neg (by decide)).trans (if_pos rfl)

/-- what a call on `toks` may answer: no `.fuel` when `enough` says that its fuel suffices, and a
result leaves no more tokens than `toks` -/
def _root_.GS.BfParse.Res.Fits {α : Type} (r : Res α) (toks : List String) (enough : Prop) : Prop :=
  (enough → r ≠ .fuel) ∧ ∀ a rest, r = .ok a rest → rest.length ≤ toks.length

section
variable {α β : Type} {toks : List String} {P : Prop}

theorem _root_.GS.BfParse.Res.fits_err : (.err : Res α).Fits toks P := ⟨nofun, nofun⟩

theorem _root_.GS.BfParse.Res.fits_ok {a : α} {rest : List String} (h : rest.length ≤ toks.length) :
    (Res.ok a rest).Fits toks P :=
  ⟨nofun, fun _ _ e => by cases e; exact h⟩

theorem _root_.GS.BfParse.Res.Fits.mono {r : Res α} {B : List String} {Q : Prop} (h : r.Fits B Q)
    (hl : B.length ≤ toks.length) (hp : P → Q) : r.Fits toks P :=
  ⟨fun p => h.1 (hp p), fun a rest e => Nat.le_trans (h.2 a rest e) hl⟩

theorem _root_.GS.BfParse.Res.Fits.andThen {r : Res α} {k : α → List String → Res β} (h : r.Fits toks P)
    (hk : ∀ a rest, rest.length ≤ toks.length → (k a rest).Fits toks P) : (r.andThen k).Fits toks P := by
  cases r with
  | ok a rest => exact hk a rest (h.2 a rest rfl)
  | err => exact Res.fits_err
  | fuel => exact ⟨fun p => absurd rfl (h.1 p), nofun⟩

theorem _root_.GS.BfParse.Res.Fits.ite {c : Prop} [Decidable c] {a b : Res α} (ha : c → a.Fits toks P)
    (hb : ¬c → b.Fits toks P) : (if c then a else b).Fits toks P := by
  split
  · exact ha ‹_›
  · exact hb ‹_›

end

theorem Op.cont_fits {op : Op} {rhs : List String → Res SF} {f : SF} {rest toks : List String} {P : Prop}
    (hl : rest.length ≤ toks.length) (hr : ∀ B, B.length < rest.length → (rhs B).Fits toks P) :
    (op.cont rhs f rest).Fits toks P := by
  unfold Op.cont
  refine .ite (fun _ => Res.fits_ok hl) fun _ => ?_
  split
  · exact .ite (fun _ => Res.fits_ok (Nat.zero_le _)) fun _ => Res.fits_err
  · rename_i b B hB
    refine .ite (fun _ => ?_) fun _ => Res.fits_err
    have : (b :: B).length < rest.length := by
      have := op.toks_length_pos
      have := congrArg List.length hB
      simp only [List.length_drop, List.length_cons] at this ⊢
      omega
    exact (hr _ this).andThen fun _ _ h => Res.fits_ok h

theorem braceLoop_fits (fuel toks acc) : (braceLoop fuel toks acc).Fits toks (toks.length + 1 ≤ fuel) := by
  fun_induction braceLoop fuel toks acc
  case case1 => exact ⟨fun h => by omega, nofun⟩
  case case5 => exact Res.fits_ok (Nat.le_add_right _ 2)   -- a name, then `}`
  case case6 ih =>                                          -- a name, then `,`
    exact ih.mono (Nat.le_add_right _ 2) (by simp only [List.length_cons]; omega)
  all_goals exact Res.fits_err

theorem closeParen_fits {f : SF} {r toks : List String} {P : Prop} (h : r.length ≤ toks.length) :
    (closeParen f r).Fits toks P := by
  unfold closeParen
  split
  · exact Res.fits_err
  · exact Res.fits_ok (Nat.le_trans (Nat.le_succ _) h)
  · exact Res.fits_err

/-- eight units of fuel per token, one less per level already descended -/
theorem fits_all : ∀ fuel d, d ≤ 7 → ∀ toks,
    (parseAt d fuel toks).Fits toks (8 * toks.length + 8 ≤ fuel + d) := by
  intro fuel
  induction fuel with
  | zero => intro d hd toks; rw [parseAt_zero]; exact ⟨fun h => by omega, nofun⟩
  | succ fuel ih =>
    intro d hd toks
    cases d using level_cases with
    | clause =>
      show (parseClause (fuel + 1) toks).Fits _ _
      rw [parseClause_succ]
      exact .ite (fun _ => Res.fits_err) fun _ => (ih 1 (by decide) toks).mono (Nat.le_refl _) id
    | bin op =>
      -- the left operand gets the same tokens one level up; the right operand, at most the own
      -- level, has lost the operator
      have := op.rhs_cases
      have := op.prio_le
      rw [parseAt_bin]
      refine .ite (fun _ => Res.fits_err) fun _ => ?_
      exact ((ih _ (by omega) toks).mono (Nat.le_refl _) (by omega)).andThen fun f rest hl =>
          Op.cont_fits hl fun B hB => (ih _ (by omega) B).mono (by omega) (by omega)
    | not =>
      show (parseNot (fuel + 1) toks).Fits _ _
      rw [parseNot_succ]
      rcases toks with _ | ⟨t, X⟩
      · exact (ih 7 (by decide) []).mono (Nat.le_refl _) id
      · refine .ite (fun _ => Res.fits_err) fun _ => .ite (fun _ => .ite (fun _ => Res.fits_err) fun _ => ?_)
          fun _ => (ih 7 (by decide) _).mono (Nat.le_refl _) id
        exact ((ih 6 (by decide) X).mono (Nat.le_succ _)
          (by simp only [List.length_cons]; omega)).andThen fun _ _ h => Res.fits_ok h
    | basic k =>
      obtain rfl : k = 0 := by omega
      show (parseBasic (fuel + 1) toks).Fits _ _
      rw [parseBasic_succ]
      rcases toks with _ | ⟨t, X⟩
      · exact Res.fits_ok (Nat.le_refl _)
      · refine .ite (fun _ => Res.fits_err) fun _ => .ite (fun _ => ?_) fun _ => .ite (fun _ => ?_)
          fun _ => Res.fits_ok (Nat.le_succ _)
        · exact ((ih 0 (by decide) X).mono (Nat.le_succ _)
            (by simp only [List.length_cons]; omega)).andThen fun f r h => closeParen_fits h
        · exact ((braceLoop_fits fuel X []).mono (Nat.le_succ _)
            (by simp only [List.length_cons]; omega)).andThen fun _ _ h => Res.fits_ok h

theorem parseClause_ne_fuel (toks : List String) : parseClause (8 * (toks.length + 1)) toks ≠ .fuel :=
  (fits_all (8 * (toks.length + 1)) 0 (by omega) toks).1 (by omega)

theorem parse_no_fuel (toks : List String) : parse toks ≠ .fuel := by
  have := parseClause_ne_fuel toks
  simp only [parse]
  split <;> simp_all

theorem parse_total (toks : List String) : (∃ f, parse toks = .ok f []) ∨ parse toks = .err := by
  have := parse_no_fuel toks
  simp only [parse] at this ⊢
  split <;> simp_all

/-- whenever level `d` answers on `toks`, the answer is `r` -/
def Yields (d : Nat) (toks : List String) (r : Res SF) : Prop :=
  ∀ fuel, parseAt d fuel toks ≠ .fuel → parseAt d fuel toks = r

theorem Yields.of_succ {d toks r}
    (h : ∀ fuel, parseAt d (fuel + 1) toks ≠ .fuel → parseAt d (fuel + 1) toks = r) : Yields d toks r
  | 0, h0 => absurd (parseAt_zero d toks) h0
  | fuel + 1, h1 => h fuel h1

theorem Yields.pass {d toks d' toks' r}
    (heq : ∀ fuel, parseAt d (fuel + 1) toks = parseAt d' fuel toks') (H : Yields d' toks' r) :
    Yields d toks r :=
  .of_succ fun fuel hf => by rw [heq] at hf ⊢; exact H fuel hf

/-- if the level has answered, the call it made has (`Res.andThen_ne_fuel`) -/
theorem Yields.call {d toks d' toks' r' r} {k : Nat → SF → List String → Res SF}
    (heq : ∀ fuel, parseAt d (fuel + 1) toks = (parseAt d' fuel toks').andThen (k fuel))
    (H : Yields d' toks' r') (hr : ∀ fuel, r'.andThen (k fuel) ≠ .fuel → r'.andThen (k fuel) = r) :
    Yields d toks r :=
  .of_succ fun fuel hf => by
    rw [heq] at hf ⊢
    have h' := H fuel (Res.andThen_ne_fuel hf)
    rw [h'] at hf ⊢
    exact hr fuel hf

theorem Yields.parseClause_eq {toks r} (H : Yields 0 toks r) :
    parseClause (8 * (toks.length + 1)) toks = r := H (8 * (toks.length + 1)) (parseClause_ne_fuel toks)

theorem Yields.parse_ok {toks f} (H : Yields 0 toks (.ok f [])) : parse toks = .ok f [] := by
  simp only [parse, H.parseClause_eq]

theorem Yields.parse_err {toks r} (H : Yields 0 toks r) (hr : ∀ f, r ≠ .ok f []) : parse toks = .err := by
  have := parse_total toks
  simp only [parse, H.parseClause_eq] at this ⊢
  split <;> simp_all

/-- no operator of level `d` or higher starts `rest`: a term parsed at level `d` ends here -/
def stop (d : Nat) (rest : List String) : Prop :=
  ∀ op : Op, d ≤ op.prio → rest.head? ≠ op.toks.head?

theorem stop_mono {d e : Nat} {rest} (h : d ≤ e) (hs : stop d rest) : stop e rest :=
  fun op he => hs op (Nat.le_trans h he)

theorem stop_nil (d : Nat) : stop d [] := fun op _ => by cases op <;> simp [Op.toks]

theorem stop_cons {t : String} (h : cantContinue t = true) (d : Nat) (rest : List String) :
    stop d (t :: rest) := by
  intro op _
  simp [cantContinue] at h
  cases op <;> simp [Op.toks, h]

theorem stop_six (rest : List String) : stop 6 rest :=
  fun op h => absurd h (by have := op.prio_le; omega)

theorem stop_toks (op : Op) (rest : List String) : stop (op.prio + 1) (op.toks ++ rest) := by
  intro op' h
  -- a higher level is another operator, and the first tokens of the five are pairwise distinct
  cases op <;> cases op' <;> simp [Op.prio] at h <;> simp [Op.toks]

/-- `toks` starts a term whose native level is `D`: its first token is no operator, and it is `^`
only if `D ≤ 6` (the levels above `parseNot` do not accept `^`) -/
def Head (D : Nat) (toks : List String) : Prop :=
  ∃ h tl, toks = h :: tl ∧ isOperator h = false ∧ (h ≠ "^" ∨ D ≤ 6)

theorem Head.notOp {D : Nat} {toks : List String} (hh : Head D toks) :
    toks.head?.all isOperator = false := by
  obtain ⟨_, _, rfl, hop, _⟩ := hh
  exact hop

theorem Head.mono {D D' : Nat} {toks : List String} (hh : Head D toks) (h : D ≤ 6 → D' ≤ 6) :
    Head D' toks :=
  let ⟨t, tl, e, hop, hc⟩ := hh
  ⟨t, tl, e, hop, hc.imp_right h⟩

/-- levels 0 and 6 hand a token list that does not start with an operator (`^` at level 6) to the
next level unchanged; a binary level does not find its operator after the left operand (`hs`) -/
theorem Yields.step {d toks r} (hd : d ≤ 6) (hh : Head (d + 1) toks) (H : Yields (d + 1) toks r)
    (hs : ∀ f rest, r = .ok f rest → stop d rest) : Yields d toks r := by
  obtain ⟨h, tl, rfl, hop, hc⟩ := hh
  cases d using level_cases with
  | clause =>
    exact .pass (fun fuel => (parseClause_succ fuel (h :: tl)).trans (if_neg (by simp [hop]))) H
  | bin op =>
    refine .call (parseAt_bin_head op · hop) H fun fuel _ => ?_
    cases r with
    | ok f rest => exact Op.cont_stop (hs f rest rfl op (Nat.le_refl _)) _ f
    | err => rfl
    | fuel => rfl
  | not => exact .pass (d' := 7) (fun fuel => parseNot_cons fuel tl hop (hc.resolve_right (by omega))) H
  | basic k => omega

theorem Yields.descend {d D toks r} (hd : d ≤ D) (hD : D ≤ 7) (hh : Head D toks) (H : Yields D toks r)
    (hs : ∀ f rest, r = .ok f rest → stop d rest) : Yields d toks r := by
  induction hd with
  | refl => exact H
  | step hm ih =>
    exact ih (by omega) (hh.mono (by omega))
      (.step (by omega) hh H fun f rest e => stop_mono hm (hs f rest e))

theorem Yields.bin (op : Op) {toks f B r} (hop : toks.head?.all isOperator = false) (hB : B ≠ [])
    (H1 : Yields (op.prio + 1) toks (.ok f (op.toks ++ B))) (H2 : Yields op.rhs B r) :
    Yields op.prio toks (r.andThen fun g rest => .ok (op.mk f g) rest) := by
  refine .call (parseAt_bin_head op · hop) H1 fun fuel hf => ?_
  simp only [Res.andThen, op.cont_toks _ _ hB] at hf ⊢
  rw [H2 fuel (Res.andThen_ne_fuel hf)]

theorem Yields.bin_end (op : Op) {toks f} (hop : toks.head?.all isOperator = false)
    (H1 : Yields (op.prio + 1) toks (.ok f op.toks)) : Yields op.prio toks (op.dangling f) :=
  .call (parseAt_bin_head op · hop) H1 fun _ _ => op.cont_end _ f

theorem Yields.neg {X r} (hX : X ≠ []) (H : Yields 6 X r) :
    Yields 6 ("^" :: X) (r.andThen fun f rest => .ok (SF.not f) rest) :=
  .call (d' := 6) (k := fun _ f rest => .ok (SF.not f) rest) (parseNot_neg · hX) H fun _ _ => rfl

theorem Yields.paren {X r} (H : Yields 0 X r) : Yields 7 ("(" :: X) (r.andThen closeParen) :=
  .call (d' := 0) (k := fun _ => closeParen) (parseBasic_paren · X) H fun _ _ => rfl

theorem Yields.name {t : String} (rest : List String) (h : plainTok t = true) :
    Yields 7 (t :: rest) (.ok (SF.var (nameId t)) rest) :=
  .of_succ fun fuel _ => parseBasic_name fuel rest h

theorem braceLoop_ok (rest : List String) : ∀ (ns : List String), ns ≠ [] → ns.all plainTok = true →
    ∀ acc fuel, braceLoop fuel (commaSep ns ++ "}" :: rest) acc ≠ .fuel →
    braceLoop fuel (commaSep ns ++ "}" :: rest) acc = .ok (acc ++ ns.map nameId) rest := by
  intro ns
  induction ns with
  | nil => intro h; exact absurd rfl h
  | cons a ns ih =>
    intro _ hall acc fuel hf
    simp at hall
    have ha : lookupIsIdent a = true := (Bool.and_eq_true_iff.1 hall.1).2
    cases fuel with
    | zero => exact absurd rfl hf
    | succ fuel =>
    cases ns with
    | nil => simp [commaSep, braceLoop, ha]
    | cons b ns =>
      have := ih (by simp) (by simpa using hall.2) (acc ++ [nameId a]) fuel
      simp [commaSep, braceLoop, ha] at this hf ⊢
      exact this hf

theorem Yields.brace {ns : List String} (rest : List String) (hne : ns ≠ []) (hall : ns.all plainTok = true) :
    Yields 7 ("{" :: (commaSep ns ++ "}" :: rest)) (.ok (SF.unique (ns.map nameId)) rest) := by
  refine .of_succ fun fuel hf => ?_
  have e : parseAt 7 (fuel + 1) ("{" :: (commaSep ns ++ "}" :: rest)) = _ := parseBasic_brace fuel _
  rw [e] at hf ⊢
  rw [braceLoop_ok rest ns hne hall [] fuel (Res.andThen_ne_fuel hf)]
  rfl

theorem render_ne_nil (c : CST) : c.render ≠ [] := by
  cases c <;> simp [CST.render]
  case bin op l r => cases op <;> simp [Op.toks]

theorem CST.prio_le (c : CST) : c.prio ≤ 7 := by
  cases c <;> simp [CST.prio]
  case bin op l r => have := op.prio_le; omega

theorem render_head : ∀ (c : CST), c.ok = true → ∀ X, Head c.prio (c.render ++ X)
  | .var t, hok, X => by
    have := plainTok_facts (by simpa [CST.ok] using hok : plainTok t = true)
    exact ⟨t, X, rfl, this.1, .inl this.2.1⟩
  | .uniq ns, _, _ => ⟨"{", _, rfl, by decide, .inl (by decide)⟩
  | .par c, _, _ => ⟨"(", _, rfl, by decide, .inl (by decide)⟩
  | .not c, _, _ => ⟨"^", _, rfl, by decide, .inr (Nat.le_refl _)⟩
  | .bin op l r, hok, X => by
    simp only [CST.ok, Bool.and_eq_true] at hok
    rw [CST.render, List.append_assoc]
    exact (render_head l hok.1.2 _).mono fun _ => by have := op.prio_le; simp only [CST.prio]; omega

theorem lift_native (c : CST) (hok : c.ok = true)
    (N : ∀ rest, stop c.prio rest → Yields c.prio (c.render ++ rest) (.ok c.toSF rest)) :
    ∀ d, d ≤ c.prio → ∀ rest, stop d rest → Yields d (c.render ++ rest) (.ok c.toSF rest) :=
  fun _ hd rest hs => .descend hd c.prio_le (render_head c hok rest) (N rest (stop_mono hd hs))
    fun _ _ e => by cases e; exact hs

theorem parse_cst : ∀ (c : CST), c.ok = true →
    ∀ d, d ≤ c.prio → ∀ rest, stop d rest → Yields d (c.render ++ rest) (.ok c.toSF rest) := by
  intro c
  induction c with
  | var t => exact fun hok => lift_native _ hok fun rest _ => .name rest (by simpa [CST.ok] using hok)
  | uniq ns =>
    intro hok
    refine lift_native _ hok fun rest _ => ?_
    simp only [CST.ok, Bool.and_eq_true, Bool.not_eq_true', List.isEmpty_eq_false_iff] at hok
    rw [CST.render, List.cons_append, List.append_assoc]
    exact .brace rest hok.1 hok.2
  | par c ihc =>
    intro hok
    refine lift_native _ hok fun rest _ => ?_
    rw [CST.render, List.cons_append, List.append_assoc]
    exact .paren (ihc hok 0 (Nat.zero_le _) (")" :: rest) (stop_cons (by decide) _ _))
  | not c ihc =>
    intro hok
    refine lift_native _ hok fun rest _ => ?_
    simp only [CST.ok, Bool.and_eq_true, decide_eq_true_eq] at hok
    exact .neg (List.append_ne_nil_of_left_ne_nil (render_ne_nil c) _) (ihc hok.2 6 hok.1 rest (stop_six rest))
  | bin op l r ihl ihr =>
    intro hok
    refine lift_native _ hok fun rest hs => ?_
    have hh := render_head _ hok rest
    simp only [CST.ok, Bool.and_eq_true, decide_eq_true_eq] at hok
    obtain ⟨⟨⟨hl, hr⟩, okl⟩, okr⟩ := hok
    have hrhs := op.rhs_cases
    rw [CST.render, List.append_assoc, List.append_assoc] at hh ⊢
    exact .bin op hh.notOp (List.append_ne_nil_of_left_ne_nil (render_ne_nil r) _)
      (ihl okl (op.prio + 1) hl _ (stop_toks op _))
      (ihr okr op.rhs (by omega) rest fun op' h =>
        hs op' (by have := op'.prio_pos; simp only [CST.prio]; omega))

theorem wrapN_eq {α : Type} (f : CST → α) (hf : ∀ c, f (.par c) = f c) (n : Nat) (c : CST) :
    f (wrapN n c) = f c := by
  induction n with
  | zero => rfl
  | succ n ih => rw [wrapN, hf, ih]

theorem parIf_eq {α : Type} (f : CST → α) (hf : ∀ c, f (.par c) = f c) (b : Bool) (c : CST) :
    f (parIf b c) = f c := by
  cases b
  · rfl
  · exact hf c

theorem wrapN_prio {p : Nat} (n : Nat) (c : CST) (h : p ≤ c.prio) : p ≤ (wrapN n c).prio := by
  cases n with
  | zero => exact h
  | succ n => exact Nat.le_trans h c.prio_le

theorem parIf_render (b : Bool) (c : CST) : (parIf b c).render = paren b c.render := by
  cases b <;> simp [parIf, paren, CST.render]

theorem decorate_toSF (s : Syn) : ∀ d : Deco, (decorate d s).toSF = s.toSF := by
  induction s <;> intro d <;> simp [decorate, wrapN_eq CST.toSF fun _ => rfl, parIf_eq CST.toSF fun _ => rfl, CST.toSF, Syn.toSF, *]

theorem decorate_prio (s : Syn) (d : Deco) : s.prio ≤ (decorate d s).prio := by
  cases s <;> exact wrapN_prio _ _ (Nat.le_refl _)

theorem parIf_prio {q : Nat} (hq : q ≤ 7) {b : Bool} (s : Syn) (d : Deco) (h : b = false → q ≤ s.prio) :
    q ≤ (parIf b (decorate d s)).prio := by
  cases b
  · exact Nat.le_trans (h rfl) (decorate_prio s d)
  · exact hq

theorem decorate_ok : ∀ (s : Syn) (d : Deco), s.wf = true → (decorate d s).ok = true
  | .var _, d, h | .uniq _, d, h => by simpa [decorate, wrapN_eq CST.ok fun _ => rfl, CST.ok, Syn.wf] using h
  | .not s, d, h => by
    have ih := decorate_ok s (fun p => d (false :: p)) (by simpa [Syn.wf] using h)
    have := parIf_prio (q := 6) (by omega) s (fun p => d (false :: p))
      fun h => Nat.not_lt.1 (of_decide_eq_false h)
    simp [decorate, wrapN_eq CST.ok fun _ => rfl, CST.ok, parIf_eq CST.ok fun _ => rfl, ih, this]
  | .bin op l r, d, h => by
    simp [Syn.wf] at h
    have ihl := decorate_ok l (fun p => d (false :: p)) h.1
    have ihr := decorate_ok r (fun p => d (true :: p)) h.2
    have hop5 := op.prio_le
    have h1 : op.prio < _ := parIf_prio (q := op.prio + 1) (by omega) l (fun p => d (false :: p))
      fun h => Nat.not_le.1 (of_decide_eq_false h)
    have h2 := parIf_prio (q := op.prio) (by omega) r (fun p => d (true :: p))
      fun h => Nat.not_lt.1 (of_decide_eq_false h)
    simp [decorate, wrapN_eq CST.ok fun _ => rfl, CST.ok, parIf_eq CST.ok fun _ => rfl, ihl, ihr, h1, h2]

theorem render_eq_renderP (s : Syn) : s.render = renderP (fun _ => 0) s := by
  induction s <;> simp_all [renderP, decorate, wrapN, CST.render, Syn.render, parIf_render]

theorem parse_cst_nil (c : CST) (hok : c.ok = true) : Yields 0 c.render (.ok c.toSF []) := by
  simpa using parse_cst c hok 0 (Nat.zero_le _) [] (stop_nil 0)

/-- C17: a rendering of a well-formed tree, with any redundant parentheses, is parsed as its documented
reading -/
theorem parse_renderP (d : Deco) (s : Syn) (h : s.wf = true) :
    parse (renderP d s) = .ok s.toSF [] := by
  rw [renderP, (parse_cst_nil _ (decorate_ok s d h)).parse_ok, decorate_toSF]

theorem parse_render (s : Syn) (h : s.wf = true) : parse s.render = .ok s.toSF [] := by
  rw [render_eq_renderP]; exact parse_renderP _ s h

theorem parse_parens_irrelevant (d : Deco) (s : Syn) (h : s.wf = true) :
    parse (renderP d s) = parse s.render := by
  rw [parse_renderP d s h, parse_render s h]

theorem parse_cst_trailing (c : CST) (hok : c.ok = true) (rest : List String) (hne : rest ≠ [])
    (hs : stop 0 rest) : parse (c.render ++ rest) = .err :=
  (parse_cst c hok 0 (Nat.zero_le _) rest hs).parse_err fun f e => by cases e; exact hne rfl

theorem parse_trailing (d : Deco) (s : Syn) (h : s.wf = true) (rest : List String)
    (hne : rest ≠ []) (ht : ∀ t ∈ rest.head?, cantContinue t = true) :
    parse (renderP d s ++ rest) = .err := by
  apply parse_cst_trailing _ (decorate_ok s d h) rest hne
  cases rest with
  | nil => exact stop_nil 0
  | cons a r => exact stop_cons (ht a (by simp)) 0 r

theorem paren_err {X : List String} {r} (H : Yields 0 X r) (hr : r = .err ∨ ∃ f, r = .ok f []) :
    Yields 0 ("(" :: X) .err := by
  refine .descend (Nat.zero_le 7) (Nat.le_refl 7) ⟨_, _, rfl, by decide, .inl (by decide)⟩ ?_ nofun
  have := H.paren
  rcases hr with rfl | ⟨f, rfl⟩ <;> exact this

theorem yields_unbalanced {X : List String} {f : SF} (H : Yields 0 X (.ok f [])) :
    ∀ n, Yields 0 (List.replicate (n + 1) "(" ++ X) .err
  | 0 => paren_err H (.inr ⟨f, rfl⟩)
  | n + 1 => paren_err (yields_unbalanced H n) (.inl rfl)

theorem Op.dangling_stop (op : Op) (g : SF) (d : Nat) :
    ∀ f rest, op.dangling g = .ok f rest → stop d rest := by
  intro f rest e
  unfold Op.dangling at e
  split at e <;> cases e
  exact stop_nil d

theorem Op.dangling_andThen (op : Op) (g : SF) (k : SF → SF) :
    ((op.dangling g).andThen fun g rest => .ok (k g) rest) = op.dangling (k g) := by
  unfold Op.dangling; split <;> rfl

theorem dangling_tight (c : CST) (hok : c.ok = true) (op : Op) (hp : op.prio < c.prio) :
    ∀ d, d ≤ op.prio → Yields d (c.render ++ op.toks) (op.dangling c.toSF) := by
  intro d hd
  have hp5 := op.prio_le
  have hh := render_head c hok op.toks
  refine .descend hd (by omega) (hh.mono fun _ => by omega) ?_ (op.dangling_stop _ d)
  exact .bin_end op hh.notOp (parse_cst c hok (op.prio + 1) hp op.toks (by simpa using stop_toks op []))

/-- an operator at the end is met either by its own level (`dangling_tight`: `c` binds tighter),
or inside the right operand of the top operator of `c` -/
theorem parse_cst_dangling (op : Op) (c : CST) : c.ok = true →
    ∀ d, d ≤ c.prio → d ≤ op.prio → Yields d (c.render ++ op.toks) (op.dangling c.toSF) := by
  induction c with
  | bin op' l r _ ihr =>
    intro hok d hd1 hd2
    by_cases hp : op.prio < op'.prio
    · exact dangling_tight _ hok op hp d hd2
    · have hh := render_head _ hok op.toks
      simp only [CST.ok, Bool.and_eq_true, decide_eq_true_eq] at hok
      obtain ⟨⟨⟨hl', hr⟩, okl⟩, okr⟩ := hok
      have hp5 := op'.prio_le
      have hrhs := op'.rhs_cases
      refine .descend hd1 (by simp only [CST.prio]; omega) hh ?_ (op.dangling_stop _ d)
      rw [CST.render, List.append_assoc, List.append_assoc] at hh ⊢
      have := Yields.bin op' hh.notOp (List.append_ne_nil_of_left_ne_nil (render_ne_nil r) _)
        (parse_cst l okl (op'.prio + 1) hl' _ (stop_toks op' _)) (ihr okr op'.rhs (by omega) (by omega))
      rwa [op.dangling_andThen] at this
  | _ =>
    intro hok d _ hd2
    exact dangling_tight _ hok op (by have := op.prio_le; simp only [CST.prio]; omega) d hd2

theorem parse_cst_dangling_top (c : CST) (hok : c.ok = true) (op : Op) :
    parse (c.render ++ op.toks) = op.dangling c.toSF := by
  have := (parse_cst_dangling op c hok 0 (Nat.zero_le _) (Nat.zero_le _)).parseClause_eq
  cases op <;> simp only [parse, this] <;> rfl

theorem yields_operator_first {t : String} (X : List String) (h : isOperator t = true) :
    Yields 0 (t :: X) .err :=
  .of_succ fun fuel _ => (parseClause_succ fuel (t :: X)).trans (if_pos (by simp [h]))

/-- a text cannot start with a binary operator (missing left operand), whatever follows -/
theorem parse_leading_operator (op : Op) (X : List String) : parse (op.toks ++ X) = .err := by
  cases op
  case imp =>
    -- `-` alone is no operator for `parseClause`: it is read as a name, which `>` cannot follow
    have h7 : Yields 7 ("-" :: ">" :: X) (.ok (SF.var (nameId "-")) (">" :: X)) := .of_succ fun _ _ => rfl
    exact (h7.descend (Nat.zero_le 7) (Nat.le_refl 7) ⟨_, _, rfl, by decide, .inl (by decide)⟩
      fun _ _ e => by cases e; exact stop_cons (by decide) _ _).parse_err nofun
  all_goals exact (yields_operator_first X (by decide)).parse_err nofun

/-- C17, the error cases, for the rendering (with any redundant parentheses) of a well-formed tree:
a trailing token, unbalanced `(`, a missing right operand; a dangling `;` is accepted -/
theorem parse_errors (d : Deco) (s : Syn) (h : s.wf = true) :
    (∀ t, cantContinue t = true → parse (renderP d s ++ [t]) = .err) ∧
    (∀ n, parse (List.replicate (n+1) "(" ++ renderP d s) = .err) ∧
    (∀ op : Op, op ≠ .seq → parse (renderP d s ++ op.toks) = .err) ∧
    parse (renderP d s ++ [";"]) = .ok s.toSF [] :=
  have hok := decorate_ok s d h
  ⟨fun t ht => parse_trailing d s h [t] (by simp) (by simpa using ht),
   fun n => (yields_unbalanced (parse_cst_nil _ hok) n).parse_err nofun,
   fun op hop => by rw [renderP, parse_cst_dangling_top _ hok, Op.dangling, if_neg hop],
   by rw [renderP, ← decorate_toSF s d]; exact parse_cst_dangling_top _ hok .seq⟩

theorem cantContinue_of_plain {t : String} (h : plainTok t = true) : cantContinue t = true := by
  have := plainTok_facts h
  simp [isOperator] at this
  simp [cantContinue, this]

/-- `parse_errors` for the minimal rendering, the trailing tokens spelled out -/
theorem parse_errors_render (s : Syn) (h : s.wf = true) :
    parse (s.render ++ [")"]) = .err ∧ parse (s.render ++ ["}"]) = .err ∧
    parse (s.render ++ [","]) = .err ∧ (∀ t, plainTok t = true → parse (s.render ++ [t]) = .err) ∧
    parse ("(" :: s.render) = .err ∧
    (∀ op : Op, op ≠ .seq → parse (s.render ++ op.toks) = .err) ∧
    parse (s.render ++ [";"]) = .ok s.toSF [] := by
  have := parse_errors (fun _ => 0) s h
  rw [← render_eq_renderP] at this
  obtain ⟨a, b, c, e⟩ := this
  exact ⟨a _ (by decide), a _ (by decide), a _ (by decide),
    fun t ht => a t (cantContinue_of_plain ht), by simpa using b 0, c, e⟩

theorem lookupIsIdent_of_v {t : String} (h : isVTok t = true) : lookupIsIdent t = true := by
  have hv : t.toList.head? = some 'v' := by simpa [isVTok] using h
  have : ¬ ['k'] <+: t.toList := fun ⟨r, hr⟩ => by simp [← hr] at hv
  simpa [lookupIsIdent] using this

theorem plainTok_of_v {t : String} (h : isVTok t = true) : plainTok t = true := by
  have hl := lookupIsIdent_of_v h
  simp only [plainTok, hl, Bool.and_true, Bool.not_eq_true']
  simp only [isPunct, Bool.or_eq_false_iff, decide_eq_false_iff_not]
  and_intros <;> (intro e; subst e; revert h; decide +kernel)

theorem isVTok_vtok (i : Nat) : isVTok (vtok i) = true := by
  simp [isVTok, vtok]

theorem wf_of_wfV : ∀ (s : Syn), s.wfV = true → s.wf = true := by
  intro s
  induction s <;> simp_all [Syn.wfV, Syn.wf, plainTok_of_v]

theorem wf_v (i : Nat) : (Syn.v i).wf = true := plainTok_of_v (isVTok_vtok i)

theorem wf_u (is : List Nat) (h : is ≠ []) : (Syn.u is).wf = true := by
  simp [Syn.u, Syn.wf, h]
  intro i _
  exact plainTok_of_v (isVTok_vtok i)

/-- rests on `Nat.toNat?_repr` of the toolchain's `Std.Data.String.ToNat` -/
theorem nameId_vtok (i : Nat) : nameId (vtok i) = i := by
  have hs : (vtok i).startsWith "v" = true := by simp [vtok]
  have hc : ((vtok i).drop 1).copy = Nat.repr i := by
    apply String.toList_inj.1
    rw [String.toList_copy_drop]
    simp [vtok]
  have : ((vtok i).drop 1).toNat? = some i := by
    rw [← String.Slice.toNat?_copy, hc, Nat.toNat?_repr]
  simp [nameId, hs, this]

theorem toSF_v (i : Nat) : (Syn.v i).toSF = SF.var i := by simp [Syn.v, Syn.toSF, nameId_vtok]

theorem toSF_u (is : List Nat) : (Syn.u is).toSF = SF.unique is := by
  have : nameId ∘ vtok = id := funext nameId_vtok
  simp [Syn.u, Syn.toSF, this]

def Syn.mapNames (g : String → String) : Syn → Syn
  | .var t => .var (g t)
  | .uniq ns => .uniq (ns.map g)
  | .not s => .not (s.mapNames g)
  | .bin op l r => .bin op (l.mapNames g) (r.mapNames g)

structure PunctAll (Q : String → Prop) : Prop where
  lp : Q "("
  rp : Q ")"
  lb : Q "{"
  rb : Q "}"
  comma : Q ","
  neg : Q "^"
  semi : Q ";"
  eq : Q "="
  minus : Q "-"
  gt : Q ">"
  bar : Q "BAR"
  amp : Q "&"

theorem Op.toks_all {Q : String → Prop} (hq : PunctAll Q) (op : Op) : ∀ t ∈ op.toks, Q t := by
  cases op <;> simp [Op.toks, hq.semi, hq.eq, hq.minus, hq.gt, hq.bar, hq.amp]

theorem Syn.prio_mapNames (g : String → String) (s : Syn) : (s.mapNames g).prio = s.prio := by
  cases s <;> rfl

theorem commaSep_map (g : String → String) (hc : g "," = ",") :
    ∀ ns : List String, commaSep (ns.map g) = (commaSep ns).map g
  | [] => rfl
  | [_] => rfl
  | a :: b :: ns => by
    have := commaSep_map g hc (b :: ns)
    simp only [List.map_cons] at this
    simp [commaSep, this, hc]

theorem Op.toks_map {g : String → String} (hg : PunctAll fun t => g t = t) (op : Op) :
    op.toks.map g = op.toks :=
  (List.map_congr_left (Op.toks_all hg op)).trans (List.map_id _)

theorem render_wrapN (n : Nat) (c : CST) :
    (wrapN n c).render = List.replicate n "(" ++ (c.render ++ List.replicate n ")") := by
  induction n with
  | zero => simp [wrapN]
  | succ n ih =>
    rw [wrapN, CST.render, ih, List.replicate_succ, List.replicate_succ' (a := ")")]
    simp

theorem paren_map {g : String → String} (hl : g "(" = "(") (hr : g ")" = ")") (b : Bool) (l : List String) :
    (paren b l).map g = paren b (l.map g) := by
  cases b <;> simp [paren, hl, hr]

theorem renderP_mapNames {g : String → String} (hg : PunctAll fun t => g t = t) (s : Syn) :
    ∀ d : Deco, renderP d (s.mapNames g) = (renderP d s).map g := by
  unfold renderP
  induction s <;> intro d <;>
    simp [decorate, Syn.mapNames, render_wrapN, parIf_render, paren_map hg.lp hg.rp, CST.render,
      commaSep_map g hg.comma, Op.toks_map hg, Syn.prio_mapNames, hg.lp, hg.rp, hg.lb, hg.rb, hg.neg, *]

def Syn.allNames (P : String → Bool) : Syn → Bool
  | .var t => P t
  | .uniq ns => ns.all P
  | .not s => s.allNames P
  | .bin _ l r => l.allNames P && r.allNames P

theorem commaSep_all {P : String → Bool} (hc : P "," = true) :
    ∀ ns : List String, (commaSep ns).all P = ns.all P
  | [] => rfl
  | [_] => rfl
  | a :: b :: ns => by
    have := commaSep_all hc (b :: ns)
    simp only [List.all_cons] at this
    simp [commaSep, this, hc]

theorem renderP_all {P : String → Bool} (hq : PunctAll fun t => P t = true) (s : Syn) :
    ∀ d : Deco, (renderP d s).all P = s.allNames P := by
  have par : ∀ c : CST, (CST.par c).render.all P = c.render.all P := fun c => by
    simp [CST.render, hq.lp, hq.rp]
  unfold renderP
  induction s <;> intro d <;>
    simp [decorate, wrapN_eq (fun c => c.render.all P) par, parIf_eq (fun c => c.render.all P) par,
      CST.render, Syn.allNames, commaSep_all hq.comma, List.all_eq_true.2 (Op.toks_all hq _),
      hq.lb, hq.rb, hq.neg, *]

section Examples
private def a := Syn.var "v1"
private def b := Syn.var "v2"
private def c := Syn.var "v3"
private def d := Syn.var "v4"
private def e := Syn.var "v5"
private def f := Syn.var "v6"

/-- `a & b | ^ c -> d = e ; f` -/
private def ex1 : Syn :=
  .bin .seq (.bin .iff (.bin .imp (.bin .or (.bin .and a b) (.not c)) d) e) f

example : ex1.render = ["v1", "&", "v2", "BAR", "^", "v3", "-", ">", "v4", "=", "v5", ";", "v6"] := by
  decide +kernel
example : ex1.wf = true := wf_of_wfV _ (by decide +kernel)
/-- the theorem instantiated ... -/
example : parse ["v1", "&", "v2", "BAR", "^", "v3", "-", ">", "v4", "=", "v5", ";", "v6"]
    = .ok ex1.toSF [] := parse_render ex1 (wf_of_wfV _ (by decide +kernel))
/-- ... and the same fact by evaluation of the mirror, with the tree spelled out -/
example : parse ["v1", "&", "v2", "BAR", "^", "v3", "-", ">", "v4", "=", "v5", ";", "v6"]
    = .ok (SF.and [SF.iff (SF.imp (SF.or [SF.and [SF.var (nameId "v1"), SF.var (nameId "v2")],
        SF.not (SF.var (nameId "v3"))]) (SF.var (nameId "v4"))) (SF.var (nameId "v5")),
        SF.var (nameId "v6")]) [] := rfl

/-- lowest priority on top: `a ; b = c -> d | e & ^ f` -/
private def ex2 : Syn :=
  .bin .seq a (.bin .iff b (.bin .imp c (.bin .or d (.bin .and e (.not f)))))
example : ex2.render = ["v1", ";", "v2", "=", "v3", "-", ">", "v4", "BAR", "v5", "&", "^", "v6"] := by
  decide +kernel
example : parse ex2.render = .ok ex2.toSF [] := rfl

/-- right nesting: `a & b & c` is `a & (b & c)`; `(a & b) & c` needs its parentheses -/
example : (Syn.bin .and a (.bin .and b c)).render = ["v1", "&", "v2", "&", "v3"] := by decide +kernel
example : (Syn.bin .and (.bin .and a b) c).render = ["(", "v1", "&", "v2", ")", "&", "v3"] := by decide +kernel
example : parse ["v1", "&", "v2", "&", "v3"]
    = .ok (SF.and [SF.var (nameId "v1"), SF.and [SF.var (nameId "v2"), SF.var (nameId "v3")]]) [] := rfl
example : parse ["v1", "-", ">", "v2", "-", ">", "v3"]
    = .ok (SF.imp (SF.var (nameId "v1")) (SF.imp (SF.var (nameId "v2")) (SF.var (nameId "v3")))) [] := rfl
example : parse ["(", "v1", "&", "v2", ")", "&", "v3"]
    = .ok (SF.and [SF.and [SF.var (nameId "v1"), SF.var (nameId "v2")], SF.var (nameId "v3")]) [] := rfl

/-- a lower-priority operand is parenthesised: `^ (a | b) & {c, d}` -/
private def ex3 : Syn := .bin .and (.not (.bin .or a b)) (.uniq ["v3", "v4"])
example : ex3.render = ["^", "(", "v1", "BAR", "v2", ")", "&", "{", "v3", ",", "v4", "}"] := by decide +kernel
example : ex3.wf = true := wf_of_wfV _ (by decide +kernel)
example : parse ["^", "(", "v1", "BAR", "v2", ")", "&", "{", "v3", ",", "v4", "}"]
    = .ok (SF.and [SF.not (SF.or [SF.var (nameId "v1"), SF.var (nameId "v2")]),
        SF.unique [nameId "v3", nameId "v4"]]) [] :=
  parse_render ex3 (wf_of_wfV _ (by decide +kernel))

/-- redundant parentheses: two pairs around the whole, one around the left operand, one around
the right operand of the right operand -/
private def deco : Deco := fun p =>
  if p = [] then 2 else if p = [false] then 1 else if p = [true, true] then 1 else 0
example : renderP deco (Syn.bin .or a (.bin .and b c))
    = ["(", "(", "(", "v1", ")", "BAR", "v2", "&", "(", "v3", ")", ")", ")"] := by decide +kernel
example : parse ["(", "(", "(", "v1", ")", "BAR", "v2", "&", "(", "v3", ")", ")", ")"]
    = parse ["v1", "BAR", "v2", "&", "v3"] :=
  parse_parens_irrelevant deco (Syn.bin .or a (.bin .and b c)) (wf_of_wfV _ (by decide +kernel))

/-- numbered names: `v7 | {v8, v9}` -/
example : parse (Syn.bin .or (.v 7) (.u [8, 9])).render
    = .ok (SF.or [SF.var 7, SF.unique [8, 9]]) [] := by
  rw [parse_render _ (by simp [Syn.wf, wf_v, wf_u])]
  simp [Syn.toSF, toSF_v, toSF_u, Op.mk]

example : parse ([] : List String) = .err := rfl
example : parse ["v1", "&"] = .err := rfl
example : parse ["v1", "-"] = .err := rfl
example : parse ["v1", "-", "v2"] = .err := rfl
example : parse ["&", "v1"] = .err := rfl
example : parse ["^"] = .err := rfl
example : parse ["(", "v1", "&", "v2"] = .err := rfl
example : parse ["v1", "&", "v2", ")"] = .err := rfl
example : parse ["v1", "v2"] = .err := rfl
example : parse ["(", ")"] = .err := rfl
-- plain `rfl` stops at `String.startsWith` (in `lookupIsIdent`, called by `braceLoop`)
example : parse ["{", "}"] = .err := by with_unfolding_all rfl
/-- recorded leniencies of the Go parser: a dangling `;` is ignored, and where an atom is expected
`,` `}` `-` `>` are read as names -/
example : parse ["v1", ";"] = .ok (SF.var (nameId "v1")) [] := rfl
example : parse [",", "&", "}"] = .ok (SF.and [SF.var (nameId ","), SF.var (nameId "}")]) [] := rfl
example : parse ["-"] = .ok (SF.var (nameId "-")) [] := rfl
end Examples

end GS.BfRender

section Audit
open GS.BfRender
#print axioms parse_render
#print axioms parse_renderP
#print axioms parse_parens_irrelevant
#print axioms parse_no_fuel
#print axioms parse_total
#print axioms parse_errors
#print axioms parse_errors_render
#print axioms parse_leading_operator
#print axioms parse_cst
#print axioms nameId_vtok
end Audit

