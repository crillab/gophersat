import GS.Props.C01_WatchDyn
/-!
# C01 (support) — `watchClause` / `initWatcherList` establish the watch invariant

For a clause list in which every clause has at least two literals, non-zero, over pairwise distinct
variables `≤ nbVars` (what `parseSlice` + `simplify2` hand to `New`), the mirror of
`initWatcherList` does not panic and the state it builds (nothing bound) satisfies `watchInv`.
-/
namespace GS.Watch

/-- One family of watch lists (`wbin` for the clauses selected by `sel` = "two literals", `wlong` for
    the others) after the clauses of id `< k` have been watched: every watcher is for such a clause and
    satisfies `P`, and each selected clause is watched exactly by the negations of its literals 0 and 1. -/
structure FamInv (n : Nat) (cls : List (List Int)) (k : Nat) (sel : List Int → Prop)
    (P : Nat → Watcher → Prop) (F : List (List Watcher)) : Prop where
  len : F.length = 2 * n
  fam : ∀ i ws, F[i]? = some ws → ∀ w ∈ ws, w.cid < k ∧ P i w
  count : ∀ cid c, cid < k → cls[cid]? = some c → sel c →
    ∃ a b, c[0]? = some a ∧ c[1]? = some b ∧ CountOk F cid a b

theorem FamInv.skip {n k : Nat} {cls : List (List Int)} {sel : List Int → Prop}
    {P : Nat → Watcher → Prop} {F : List (List Watcher)} {c : List Int} (h : FamInv n cls k sel P F)
    (hc : cls[k]? = some c) (hsel : ¬ sel c) : FamInv n cls (k + 1) sel P F := by
  refine ⟨h.len, fun i ws hws w hw => ?_, fun cid c' hcid hc' hs => ?_⟩
  · have := h.fam i ws hws w hw
    exact ⟨by omega, this.2⟩
  · have hck : cid ≠ k := by
      intro hck; subst hck
      rw [hc] at hc'; cases hc'
      exact hsel hs
    exact h.count cid c' (by omega) hc' hs

/-- the two appends of `watchClause` for clause `k` -/
theorem FamInv.push {n k : Nat} {cls : List (List Int)} {sel : List Int → Prop}
    {P : Nat → Watcher → Prop} {F : List (List Watcher)} {a b : Int} {r : List Int}
    (h : FamInv n cls k sel P F) (hc : cls[k]? = some (a :: b :: r))
    (ha0 : a ≠ 0) (hb0 : b ≠ 0) (han : a.natAbs ≤ n) (hbn : b.natAbs ≤ n)
    (hab : a.natAbs ≠ b.natAbs) (hPa : P (litIdx (-a)) ⟨k, b⟩) (hPb : P (litIdx (-b)) ⟨k, a⟩) :
    ∃ F1 F2, wpush F (-a) ⟨k, b⟩ = some F1 ∧ wpush F1 (-b) ⟨k, a⟩ = some F2 ∧
      FamInv n cls (k + 1) sel P F2 := by
  have hna0 : -a ≠ 0 := by omega
  have hnb0 : -b ≠ 0 := by omega
  have hia : litIdx (-a) < F.length := by rw [h.len]; exact litIdx_lt hna0 (by simpa using han)
  have hib : litIdx (-b) < F.length := by rw [h.len]; exact litIdx_lt hnb0 (by simpa using hbn)
  have hne : litIdx (-a) ≠ litIdx (-b) := litIdx_ne_of_natAbs_ne hna0 hnb0 (by simpa using hab)
  have hLa : F[litIdx (-a)]? = some F[litIdx (-a)] := List.getElem?_eq_getElem hia
  have hLb : F[litIdx (-b)]? = some F[litIdx (-b)] := List.getElem?_eq_getElem hib
  have hLb' : (F.set (litIdx (-a)) (F[litIdx (-a)] ++ [⟨k, b⟩]))[litIdx (-b)]? =
      some F[litIdx (-b)] := by
    rw [List.getElem?_set_ne hne]; exact hLb
  have hzero : ∀ (i : Nat) (L : List Watcher), F[i]? = some L → countW L k = 0 := by
    intro i L hL
    apply countW_eq_zero.mpr
    intro w hw hcid
    have := (h.fam i L hL w hw).1
    omega
  have old : ∀ i L, F[i]? = some L → ∀ w ∈ L, w.cid < k + 1 ∧ P i w := fun i L hL w hw =>
    ⟨Nat.lt_succ_of_lt (h.fam i L hL w hw).1, (h.fam i L hL w hw).2⟩
  have push : ∀ i L x, F[i]? = some L → P i ⟨k, x⟩ → ∀ w ∈ L ++ [⟨k, x⟩], w.cid < k + 1 ∧ P i w := by
    intro i L x hL hP w hw
    rcases List.mem_append.mp hw with hw | hw
    · exact old i L hL w hw
    · rw [List.mem_singleton.mp hw]
      exact ⟨Nat.lt_succ_self k, hP⟩
  refine ⟨_, _, wpush_eq hna0 hLa _, wpush_eq hnb0 hLb' _, by simp [h.len], ?_, ?_⟩
  · exact forall_set _ hLb' (fun i ws _ => forall_set (P := fun i ws => ∀ w ∈ ws, w.cid < k + 1 ∧ P i w)
      _ hLa (fun i ws _ => old i ws) (push _ _ _ hLa hPa) i ws) (push _ _ _ hLb hPb)
  · intro cid c hcid hcc hs
    by_cases hck : cid = k
    · subst hck
      rw [hc] at hcc; cases hcc
      refine ⟨a, b, rfl, rfl, F[litIdx (-a)] ++ [⟨cid, b⟩], F[litIdx (-b)] ++ [⟨cid, a⟩], ?_, ?_, ?_, ?_⟩
      · rw [wget_set _ hLb', wget_set _ hLa]; simp [hna0, hne]
      · rw [countW_push, hzero _ _ hLa, if_pos rfl]
      · rw [wget_set _ hLb']; simp [hnb0]
      · rw [countW_push, hzero _ _ hLb, if_pos rfl]
    · obtain ⟨x, y, h0, h1, hcnt⟩ := h.count cid c (by omega) hcc hs
      have hk : ¬ k = cid := fun e => hck e.symm
      exact ⟨x, y, h0, h1, CountOk.set _ hLb' (by simp [countW_push, hk])
        (CountOk.set _ hLa (by simp [countW_push, hk]) hcnt)⟩

/-- both families after the clauses of id `< k` have been watched -/
def WStruct (n : Nat) (cls : List (List Int)) (k : Nat) (wb wl : List (List Watcher)) : Prop :=
  FamInv n cls k (fun c => c.length = 2) (PBin cls) wb ∧
    FamInv n cls k (fun c => ¬ c.length = 2) (PLong cls) wl

theorem watchClause_struct {n k : Nat} {cls : List (List Int)} {wb wl : List (List Watcher)}
    {c : List Int} (h : WStruct n cls k wb wl) (hc : cls[k]? = some c)
    (hok : ClauseOk n c) :
    ∃ wb' wl', watchClause k c wb wl = some (wb', wl') ∧ WStruct n cls (k + 1) wb' wl' := by
  obtain ⟨hlen, hlits, hnd⟩ := hok
  obtain ⟨a, b, r, rfl⟩ : ∃ a b r, c = a :: b :: r := by
    rcases c with _ | ⟨a, _ | ⟨b, r⟩⟩
    · cases hlen
    · exact absurd hlen (by simp)
    · exact ⟨a, b, r, rfl⟩
  obtain ⟨ha0, han⟩ := hlits a (by simp)
  obtain ⟨hb0, hbn⟩ := hlits b (by simp)
  have hab : a.natAbs ≠ b.natAbs := by
    simp only [List.map_cons, List.nodup_cons, List.mem_cons] at hnd
    intro heq; exact hnd.1 (Or.inl heq)
  have hia : idxLit (litIdx (-a)) = -a := idxLit_litIdx (by omega)
  have hib : idxLit (litIdx (-b)) = -b := idxLit_litIdx (by omega)
  unfold watchClause
  simp only [List.getElem?_cons_zero, List.getElem?_cons_succ]
  by_cases h2 : (a :: b :: r).length = 2
  · have hr : r = [] := by
      cases r with
      | nil => rfl
      | cons y r' => simp at h2
    subst hr
    obtain ⟨F1, F2, hp1, hp2, hF2⟩ := h.1.push hc ha0 hb0 han hbn hab
      ⟨_, hc, Or.inl (by rw [hia]; simp)⟩ ⟨_, hc, Or.inr (by rw [hib]; simp)⟩
    simp only [h2, if_true, hp1, hp2]
    exact ⟨_, _, rfl, hF2, h.2.skip hc (fun hn => hn h2)⟩
  · have h3 : 3 ≤ (a :: b :: r).length := by
      simp only [List.length_cons] at h2 hlen ⊢; omega
    obtain ⟨F1, F2, hp1, hp2, hF2⟩ := h.2.push hc ha0 hb0 han hbn hab
      ⟨_, hc, h3, Or.inl (by rw [hia]; simp), by simp⟩ ⟨_, hc, h3, Or.inr (by rw [hib]; simp), by simp⟩
    simp only [h2, if_false, hp1, hp2]
    exact ⟨_, _, rfl, h.1.skip hc h2, hF2⟩

theorem watchAll_struct {n : Nat} {cls : List (List Int)} (hcls : ∀ c ∈ cls, ClauseOk n c) :
    ∀ (d k : Nat) (wb wl : List (List Watcher)), k + d = cls.length → WStruct n cls k wb wl →
      ∃ wb' wl', watchAll k (cls.drop k) wb wl = some (wb', wl') ∧ WStruct n cls cls.length wb' wl' := by
  intro d
  induction d with
  | zero =>
    intro k wb wl hk h
    obtain rfl : k = cls.length := hk
    exact ⟨wb, wl, by rw [List.drop_length]; rfl, h⟩
  | succ d ih =>
    intro k wb wl hk h
    have hlt : k < cls.length := by omega
    obtain ⟨wb1, wl1, hw, h1⟩ :=
      watchClause_struct h (List.getElem?_eq_getElem hlt) (hcls _ (List.getElem_mem hlt))
    obtain ⟨wb2, wl2, hw2, h2⟩ := ih (k + 1) wb1 wl1 (by omega) h1
    exact ⟨wb2, wl2, by rw [List.drop_eq_getElem_cons hlt, watchAll, hw]; exact hw2, h2⟩

/-- **`initWatcherList` establishes the invariant** (and does not panic: `initState … = some st`). -/
theorem initState_watchInv {n : Nat} {cls : List (List Int)}
    (hcls : cls.all (clauseOk n) = true) :
    ∃ st, initState n cls = some st ∧ watchInv st 0 = true := by
  have hcls' : ∀ c ∈ cls, ClauseOk n c :=
    fun c hc => (clauseOk_iff n c).mp (List.all_eq_true.mp hcls c hc)
  have h0 : WStruct n cls 0 (List.replicate (2 * n) []) (List.replicate (2 * n) []) := by
    have hfam : ∀ (P : Nat → Watcher → Prop) i ws, (List.replicate (2 * n) ([] : List Watcher))[i]? = some ws →
        ∀ w ∈ ws, w.cid < 0 ∧ P i w := by
      intro P i ws hws w hw
      rw [List.getElem?_replicate] at hws
      split at hws
      · cases hws; simp at hw
      · cases hws
    exact ⟨⟨by simp, hfam _, fun cid c hcid => by omega⟩, ⟨by simp, hfam _, fun cid c hcid => by omega⟩⟩
  obtain ⟨wb, wl, hw, hs⟩ := watchAll_struct hcls' cls.length 0 _ _ (Nat.zero_add _) h0
  unfold initState
  rw [List.drop_zero] at hw
  simp only [hw]
  refine ⟨_, rfl, ?_⟩
  rw [watchInv_iff]
  refine ⟨?_, ?_, Nat.le_refl _, fun _ hl => absurd hl List.not_mem_nil, List.nodup_nil, ?_, ?_, ?_, ?_,
    fun _ _ _ hin => absurd hin List.not_mem_nil, fun _ _ _ hin => absurd hin List.not_mem_nil⟩
  · simp [hs.1.len, hs.2.len]
  · show ∀ c ∈ cls, 2 ≤ c.length ∧ (∀ l ∈ c, l ≠ 0 ∧ l.natAbs ≤ (List.replicate n (0 : Int)).length) ∧ _
    rw [List.length_replicate]; exact hcls'
  · intro v hv
    left
    simp only [List.length_replicate] at hv
    simp [hv]
  · intro i ws hws w hw; exact (hs.1.fam i ws hws w hw).2
  · intro i ws hws w hw; exact (hs.2.fam i ws hws w hw).2
  · intro cid c hc
    have hlt : cid < cls.length := (List.getElem?_eq_some_iff.mp hc).1
    by_cases h2 : c.length = 2
    · simp only [h2, if_true]; exact hs.1.count cid c hlt hc h2
    · simp only [h2, if_false]; exact hs.2.count cid c hlt hc h2

example : ([[1, 2, 3], [-1, 2], [-2, -3, 1]] : List (List Int)).all (clauseOk 3) = true := by decide

end GS.Watch

#print axioms GS.Watch.initState_watchInv
