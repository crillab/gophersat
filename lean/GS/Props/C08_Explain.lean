import GS.Model.Explain
/-!
# C08 — the certificate checker of package `explain` (mirror `GS.Model.Explain`)

Proved for all inputs (no size bound), about the line-by-line mirror of `explain/check.go`,
`explain/problem.go` and the `units` initialisation of `explain/parser.go`.

What one pass of `(*Problem).unsat` does is stated once (`PassOk`, proved by `pass_ok` along the cases
of `pass`); `LoopOk` (`loop_ok`) says the same of `for modified { … }`: no conflict under an assignment
that agrees with the bindings and satisfies the clauses learned or tagged in the result; the fuel
`NbVars + 2` of the model is never used up (`propagate_fuel_suffices`); a propagation that ends without
conflict ends in a saturated state, which is what completeness w.r.t. `GS.rupValid` needs (stated here
with its witnesses, proved in `GS/Props/C08_Complete.lean`).  The literal scan of `(*Problem).unsat` is
`GS.scan` (`scanGo_eq_scan`), so what `GS.Check.Rup` proves of one clause visit applies.

Soundness of the certificate loop is one invariant, `allLoop_sound`: an assignment that agrees with
`units`, satisfies the clauses learned so far and satisfies the original clauses *tagged at the end of
the run* (`Good`) satisfies every accepted line.  Tags only grow (`TagLe`, `Frame`), and unit clauses
are tagged from the start, so that `units` as the parser initialises it agrees with such an assignment
(`units_entailed`).  Hence the tagged clauses alone entail the certificate (`runAll_sound`), and they
are a sub-list of the problem.

Hypotheses (`Pb.Ok`, established by `mkPb_ok` for parsed problems): `NbClauses = len(Clauses)`
(ParseCNF trusts the header: with `p cnf 2 3` followed by 2 clauses the learned clauses stay in
the problem after `Unsat`; with `p cnf 2 1` followed by 2 clauses `initTagged` panics),
literals non-zero and within `1..NbVars` (otherwise the Go code panics on `units[v-1]`).
-/
namespace GS.Explain
open GS

/-- `n ≤ 1` covers the states the Go loop can be in (`unbound` is 0 or 1 while it runs).  Before
    the repair of `problem.go` (/repo commit d6e9aa4) a repetition of the first unbound literal also ended the scan,
    and the Go scan was not `GS.scan`. -/
theorem scanGo_eq_scan (u : Array Int) : ∀ (c : List Int) (n : Nat) (ul : Int), n ≤ 1 →
    scanGo u c n ul = scan u c n ul := by
  intro c
  induction c with
  | nil => intro n ul _; cases n <;> rfl
  | cons x xs ih =>
    intro n ul hn
    rw [scan_cons, scanGo]
    have h01 : n = 0 ∨ n = 1 := by omega
    rcases h01 with rfl | rfl
    · simp only [ih 1 x (Nat.le_refl 1), ih 0 ul hn, Nat.zero_ne_one, false_and, if_false, if_true]
    · simp only [ih 1 ul hn, true_and, Nat.one_ne_zero, if_false]

theorem scanGo_start (u : Array Int) (c : List Int) : scanGo u c 0 0 = scan u c 0 0 :=
  scanGo_eq_scan u c 0 0 (Nat.zero_le 1)

def TagLe (tg tg' : List Bool) : Prop :=
  tg'.length = tg.length ∧ ∀ k : Nat, tg[k]? = some true → tg'[k]? = some true

theorem TagLe.refl (tg : List Bool) : TagLe tg tg := ⟨rfl, fun _ h => h⟩
theorem TagLe.trans {a b c : List Bool} (h1 : TagLe a b) (h2 : TagLe b c) : TagLe a c :=
  ⟨h2.1.trans h1.1, fun k h => h2.2 k (h1.2 k h)⟩

theorem tag_le (nbC i : Nat) (tg : List Bool) : TagLe tg (tag nbC i tg) := by
  unfold tag
  split
  · refine ⟨List.length_set, fun k h => ?_⟩
    rw [List.getElem?_set]
    split
    · have hk : k < tg.length := (List.getElem?_eq_some_iff.1 h).1
      simp [*]
    · exact h
  · exact TagLe.refl tg

theorem tag_self (nbC i : Nat) (tg : List Bool) (h1 : i < nbC) (h2 : i < tg.length) :
    (tag nbC i tg)[i]? = some true := by
  simp [tag, h1, h2]


theorem pass_le (nbC : Nat) (cs : List (List Int)) (i : Nat) (u : Array Int) (d : Array Bool)
    (tg : List Bool) (m : Bool) : TagLe tg (pass nbC cs i u d tg m).tagged := by
  fun_induction pass nbC cs i u d tg m
  next => exact TagLe.refl _
  next ih => exact ih                               -- `done[i]`
  next ih => exact ih                               -- `.sat`
  next => exact tag_le _ _ _                        -- `.conflict`
  next ih => exact (tag_le _ _ _).trans ih          -- `.unit`
  next ih => exact ih                               -- `.many`

theorem loop_le (nbC : Nat) (cs : List (List Int)) (fuel : Nat) (u : Array Int) (d : Array Bool)
    (tg : List Bool) : TagLe tg (loop nbC cs fuel u d tg).2.2.1 := by
  fun_induction loop nbC cs fuel u d tg
  next => exact TagLe.refl _
  next => exact pass_le ..
  next ih => exact (pass_le ..).trans ih
  next => exact pass_le ..

def Nz (cs : List (List Int)) : Prop := ∀ c ∈ cs, ∀ l ∈ c, l ≠ 0

theorem nz_of_cnfWf (n : Nat) (cs : List (List Int)) (h : cnfWf n cs = true) : Nz cs :=
  fun c hc l hl => ((cnfWf_iff n cs).1 h c hc l hl).1

/-! `Good a nbC tg all`: the assignment `a` satisfies the clauses of `all` that matter under the tags
`tg`: the learned ones (index `≥ nbC`) and the original ones tagged in `tg`.  For an `a` that is `Good`
for the tags *at the end* of a propagation, bindings stay in agreement with `a` and no conflict is found
(`PassOk.sound`, `LoopOk.sound`). -/

def Good (a : Asg) (nbC : Nat) (tg : List Bool) (all : List (List Int)) : Prop :=
  ∀ (j : Nat) (c : List Int), all[j]? = some c → (nbC ≤ j ∨ tg[j]? = some true) → clauseTrue a c = true

theorem Good.anti {a : Asg} {nbC : Nat} {tg tg' : List Bool} {all : List (List Int)}
    (h : Good a nbC tg' all) (hle : TagLe tg tg') : Good a nbC tg all :=
  fun j c hj hor => h j c hj (hor.imp_right (hle.2 _))

/-- the clause at a position that the propagation tags is one of those that matter at the end -/
theorem Good.used {a : Asg} {nbC : Nat} {tg tg' : List Bool} {i : Nat} {c : List Int}
    {all : List (List Int)} (h : Good a nbC tg' all) (hi : all[i]? = some c) (hlen : tg.length = nbC)
    (hle : TagLe (tag nbC i tg) tg') : clauseTrue a c = true := by
  apply h i c hi
  rcases Nat.lt_or_ge i nbC with h' | h'
  · exact Or.inr (hle.2 _ (tag_self nbC i tg h' (hlen ▸ h')))
  · exact Or.inl h'

theorem Good.snoc {a : Asg} {nbC : Nat} {tg : List Bool} {c : List Int} {all : List (List Int)}
    (h : Good a nbC tg all) (hc : clauseTrue a c = true) : Good a nbC tg (all ++ [c]) := by
  intro j c' hj hor
  rcases Nat.lt_or_ge j all.length with hlt | hge
  · rw [List.getElem?_append_left hlt] at hj
    exact h j c' hj hor
  · rw [List.getElem?_append_right hge] at hj
    rw [List.mem_singleton.1 (List.mem_of_getElem? hj)]
    exact hc

/-- number of unbound variables -/
def zeros (u : Array Int) : Nat := u.toList.count 0

theorem count_set_zero (u : Array Int) (i : Nat) (x : Int) (hx : x ≠ 0) (h : i < u.size) (h0 : u[i] = 0) :
    (u.setIfInBounds i x).toList.count 0 + 1 = u.toList.count 0 := by
  have hl : i < u.toList.length := by simpa using h
  have h0' : u.toList[i] = 0 := by simpa using h0
  rw [Array.toList_setIfInBounds, List.count_set hl, h0']
  have hx' : (x == 0) = false := by simpa using hx
  have : 0 < u.toList.count 0 := by
    apply List.count_pos_iff.2
    rw [← h0']; exact List.getElem_mem hl
  simp only [hx', BEq.rfl, if_true, Bool.false_eq_true, if_false]
  omega

theorem zeros_setLit (u : Array Int) (l : Int) (hl : l ≠ 0) (hr : l.natAbs ≤ u.size)
    (hb : bind u l.natAbs = 0) : zeros (setLit u l) + 1 = zeros u := by
  have hpos : 0 < l.natAbs := Int.natAbs_pos.mpr hl
  have hi : l.natAbs - 1 < u.size := by omega
  unfold bind at hb
  rw [Array.getElem?_eq_getElem hi] at hb
  apply count_set_zero u _ _ _ hi hb
  split <;> omega

/-- `u` is inside `w`: every literal true in `u` is true in `w` (bindings are only ever added) -/
def Ext (u w : Array Int) : Prop := ∀ l, Tr u l → Tr w l

theorem Ext.refl (u : Array Int) : Ext u u := fun _ h => h
theorem Ext.trans {a b c : Array Int} (h1 : Ext a b) (h2 : Ext b c) : Ext a c :=
  fun l h => h2 l (h1 l h)

theorem Ext_setLit (u : Array Int) (l : Int) (hl : l ≠ 0) (hb : bind u l.natAbs = 0) :
    Ext u (setLit u l) := by
  intro x hx
  by_cases hv : x.natAbs = l.natAbs
  · exact absurd (hv ▸ hb) hx.bound
  · exact (Tr_setLit_of_ne u l x hl hv).2 hx

/-- clause `c` is neither unit nor falsified under `w` -/
def SatCl (w : Array Int) (c : List Int) : Prop :=
  (∃ l ∈ c, Tr w l) ∨ (∃ x ∈ c, ∃ y ∈ c, x ≠ y ∧ bind w x.natAbs = 0 ∧ bind w y.natAbs = 0)

/-- a clause marked `done` has a literal true in `u` -/
def DoneOk (all : List (List Int)) (d : Array Bool) (u : Array Int) : Prop :=
  ∀ (j : Nat) (c : List Int), all[j]? = some c → d[j]? = some true → ∃ l ∈ c, Tr u l

theorem DoneOk.ext {all : List (List Int)} {d : Array Bool} {u w : Array Int}
    (h : DoneOk all d u) (he : Ext u w) : DoneOk all d w := by
  intro j c hj hd
  obtain ⟨l, hl, ht⟩ := h j c hj hd
  exact ⟨l, hl, he l ht⟩

theorem DoneOk.set {all : List (List Int)} {d : Array Bool} {u : Array Int} {i : Nat} {c : List Int}
    (h : DoneOk all d u) (hi : all[i]? = some c) (hc : ∃ l ∈ c, Tr u l) :
    DoneOk all (d.setIfInBounds i true) u := by
  intro j c' hj hd
  by_cases hij : i = j
  · subst hij
    rw [hi] at hj
    cases hj
    exact hc
  · rw [Array.getElem?_setIfInBounds_ne hij] at hd
    exact h j c' hj hd

theorem DoneOk.init (all : List (List Int)) (k : Nat) (u : Array Int) :
    DoneOk all (Array.replicate k false) u := by
  intro j c _ hd
  rw [Array.getElem?_replicate] at hd
  split at hd <;> cases hd

theorem zeros_le (u : Array Int) : zeros u ≤ u.size :=
  Array.length_toList (xs := u) ▸ List.count_le_length

/-- What one `for i, clause := range pb.Clauses` loop, started with bindings `u`, tags `tg` and flag `m`
    on the clauses `cs` of `all`, leaves in `r`.  `sound`: the clauses it has used for a binding or for
    the conflict are learned or tagged in `r`.  `loud`: a pass that sets `modified` binds at least one
    more variable.  `quiet`: a pass that ends with `modified == false` has changed no binding and (if it
    did not return) has found every clause saturated. -/
structure PassOk (nbC : Nat) (all : List (List Int)) (n : Nat) (u : Array Int) (tg : List Bool) (m : Bool)
    (cs : List (List Int)) (r : PassRes) : Prop where
  sound : ∀ a, tg.length = nbC → WF u → Agrees u a → Good a nbC r.tagged all →
    r.conflict = false ∧ WF r.units ∧ Agrees r.units a
  size : r.units.size = n
  ext : Ext u r.units
  done : DoneOk all r.done r.units
  le : zeros r.units ≤ zeros u
  loud : r.modified = true → m = true ∨ zeros r.units < zeros u
  quiet : r.modified = false → m = false ∧ r.units = u ∧ (r.conflict = false → ∀ c ∈ cs, SatCl u c)

theorem PassOk.cons {nbC : Nat} {all : List (List Int)} {n : Nat} {u : Array Int} {tg : List Bool} {m : Bool}
    {c : List Int} {cs : List (List Int)} {r : PassRes} (h : PassOk nbC all n u tg m cs r) (hc : SatCl u c) :
    PassOk nbC all n u tg m (c :: cs) r :=
  { h with quiet := fun hm =>
      ⟨(h.quiet hm).1, (h.quiet hm).2.1, fun hcf => List.forall_mem_cons.2 ⟨hc, (h.quiet hm).2.2 hcf⟩⟩ }

theorem drop_cons {α : Type} {l : List α} {i : Nat} {c : α} {cs : List α} (h : l.drop i = c :: cs) :
    l[i]? = some c ∧ l.drop (i+1) = cs := by
  rw [← List.head?_drop, ← List.tail_drop, h]
  exact ⟨rfl, rfl⟩

theorem pass_ok (nbC n : Nat) (all : List (List Int)) (hr : cnfWf n all = true)
    (cs : List (List Int)) (i : Nat) (u : Array Int) (d : Array Bool) (tg : List Bool) (m : Bool)
    (hdrop : all.drop i = cs) (hsz : u.size = n) (hd : DoneOk all d u) :
    PassOk nbC all n u tg m cs (pass nbC cs i u d tg m) := by
  fun_induction pass nbC cs i u d tg m with
  | case1 =>
    exact ⟨fun _ _ hwf hag _ => ⟨rfl, hwf, hag⟩, hsz, Ext.refl _, hd, Nat.le_refl _, Or.inl,
      fun h => ⟨h, rfl, fun _ _ hc => nomatch hc⟩⟩
  | case2 c cs i u d tg m hdi ih =>
    -- `done[i]`
    obtain ⟨hi, hdrop⟩ := drop_cons hdrop
    have hdi' : d[i]? = some true := by
      cases hh : d[i]? with
      | none => rw [hh] at hdi; cases hdi
      | some b => rw [hh] at hdi; exact congrArg some hdi
    exact (ih hdrop hsz hd).cons (Or.inl (hd i c hi hdi'))
  | case3 c cs i u d tg m _ hs ih =>
    obtain ⟨hi, hdrop⟩ := drop_cons hdrop
    rw [scanGo_start] at hs
    have htrue : ∃ l ∈ c, Tr u l := by
      obtain ⟨x, hx, _, ht⟩ := (scan_start u c 0).sat hs
      exact ⟨x, hx, ((cnfWf_iff n all).1 hr c (List.mem_of_getElem? hi) x hx).1, ht⟩
    exact (ih hdrop hsz (hd.set hi htrue)).cons (Or.inl htrue)
  | case4 c cs i u d tg m _ hs =>
    -- conflict: under an assignment for which `c` matters the scan cannot have reported it
    obtain ⟨hi, _⟩ := drop_cons hdrop
    rw [scanGo_start] at hs
    have hnz := fun l hl => ((cnfWf_iff n all).1 hr c (List.mem_of_getElem? hi) l hl).1
    exact ⟨fun a hl hwf hag hg =>
        absurd hs (scan_sound u a hwf hag c 0 hnz (hg.used hi hl (TagLe.refl _))).1,
      hsz, Ext.refl _, hd, Nat.le_refl _, Or.inl, fun h => ⟨h, rfl, fun hc => nomatch hc⟩⟩
  | case5 c cs i u d tg m _ l hs ih =>
    obtain ⟨hi, hdrop⟩ := drop_cons hdrop
    rw [scanGo_start] at hs
    have hrc := (cnfWf_iff n all).1 hr c (List.mem_of_getElem? hi)
    obtain ⟨hlc, hlb, _⟩ := (scan_start u c 0).unit l hs
    have hl := hrc l hlc
    have hext : Ext u (setLit u l) := Ext_setLit u l hl.1 hlb
    have hz := zeros_setLit u l hl.1 (hsz ▸ hl.2) hlb
    have := ih hdrop ((size_setLit u l).trans hsz)
      ((hd.ext hext).set hi ⟨l, hlc, Tr_setLit_self u l hl.1 (hsz ▸ hl.2)⟩)
    have hle := this.le
    refine ⟨fun a hlen hwf hag hg => ?_, this.size, hext.trans this.ext,
      this.done, by omega, fun _ => Or.inr (by omega), fun hm => nomatch (this.quiet hm).1⟩
    have hu := (scan_sound u a hwf hag c 0 (fun x hx => (hrc x hx).1) (hg.used hi hlen (pass_le ..))).2 l hs
    exact this.sound a ((tag_le nbC i tg).1.trans hlen) hu.1 hu.2 hg
  | case6 c cs i u d tg m _ hs ih =>
    obtain ⟨_, hdrop⟩ := drop_cons hdrop
    rw [scanGo_start] at hs
    exact (ih hdrop hsz hd).cons (Or.inr ((scan_start u c 0).many hs))

/-- What `for modified { … }` leaves.  `fuel`: it never stops for lack of fuel (`.2.2.2`) when the fuel
    exceeds the number of unbound variables; `sat`: when it ends by itself without conflict (`.1`)
    every clause is saturated. -/
structure LoopOk (nbC : Nat) (all : List (List Int)) (fuel : Nat) (u : Array Int) (tg : List Bool)
    (res : Bool × Array Int × List Bool × Bool) : Prop where
  sound : ∀ a, tg.length = nbC → WF u → Agrees u a → Good a nbC res.2.2.1 all → res.1 = false
  fuel : zeros u < fuel → res.2.2.2 = false
  sat : res.1 = false → res.2.2.2 = false → Ext u res.2.1 ∧ ∀ c ∈ all, SatCl res.2.1 c

theorem loop_ok (nbC n : Nat) (all : List (List Int)) (hr : cnfWf n all = true)
    (fuel : Nat) (u : Array Int) (d : Array Bool) (tg : List Bool) (hsz : u.size = n) (hd : DoneOk all d u) :
    LoopOk nbC all fuel u tg (loop nbC all fuel u d tg) := by
  fun_induction loop nbC all fuel u d tg with
  | case1 => exact ⟨fun _ _ _ _ _ => rfl, fun h => by omega, fun _ h => nomatch h⟩
  | case2 fuel u d tg r hc =>
    have hp : PassOk nbC all n u tg false all r := pass_ok nbC n all hr all 0 u d tg false rfl hsz hd
    exact ⟨fun a hl hwf hag hg => absurd ((hp.sound a hl hwf hag hg).1.symm.trans hc) Bool.false_ne_true,
      fun _ => rfl, fun h => nomatch h⟩
  | case3 fuel u d tg r hc hm ih =>
    have hp : PassOk nbC all n u tg false all r := pass_ok nbC n all hr all 0 u d tg false rfl hsz hd
    have hlt := (hp.loud hm).resolve_left Bool.false_ne_true
    have := ih hp.size hp.done
    refine ⟨fun a hl hwf hag hg => ?_, fun h => this.fuel (by omega),
      fun h1 h2 => ⟨hp.ext.trans (this.sat h1 h2).1, (this.sat h1 h2).2⟩⟩
    have hs := hp.sound a hl hwf hag (hg.anti (loop_le ..))
    exact this.sound a ((pass_le ..).1.trans hl) hs.2.1 hs.2.2 hg
  | case4 fuel u d tg r hc hm =>
    have hp : PassOk nbC all n u tg false all r := pass_ok nbC n all hr all 0 u d tg false rfl hsz hd
    have h4 := hp.quiet (Bool.eq_false_iff.2 hm)
    refine ⟨fun _ _ _ _ _ => rfl, fun _ => rfl, fun _ _ => ⟨hp.ext, ?_⟩⟩
    show ∀ c ∈ all, SatCl r.units c
    rw [h4.2.1]
    exact h4.2.2 (Bool.eq_false_iff.2 hc)

/-- once the loop ends by itself, any additional fuel changes nothing: the result is the one of
    the unbounded Go loop -/
theorem loop_fuel_stable (nbC : Nat) (cs : List (List Int)) (fuel : Nat) (u : Array Int)
    (d : Array Bool) (tg : List Bool) (h : (loop nbC cs fuel u d tg).2.2.2 = false) (k : Nat) :
    loop nbC cs (fuel + k) u d tg = loop nbC cs fuel u d tg := by
  fun_induction loop nbC cs fuel u d tg with
  | case1 => cases h
  | case2 fuel u d tg r hc => rw [Nat.succ_add, loop]; exact if_pos hc
  | case3 fuel u d tg r hc hm ih =>
    rw [Nat.succ_add, loop]; exact (if_neg hc).trans ((if_pos hm).trans (ih h))
  | case4 fuel u d tg r hc hm => rw [Nat.succ_add, loop]; exact (if_neg hc).trans (if_neg hm)

/-- **fuel sufficiency**: on literal-well-formed input `(*Problem).unsat` as modelled by
    `propagate` (fuel `NbVars + 2`) never stops for lack of fuel, and gives the same result with
    any larger fuel. -/
theorem propagate_fuel_suffices (pb : Pb) (hwf : cnfWf pb.units.size pb.clauses = true) :
    (loop pb.nbClauses pb.clauses (pb.units.size + 2) pb.units
      (Array.replicate pb.clauses.length false) pb.tagged).2.2.2 = false ∧
    ∀ k, loop pb.nbClauses pb.clauses (pb.units.size + 2 + k) pb.units
      (Array.replicate pb.clauses.length false) pb.tagged =
      loop pb.nbClauses pb.clauses (pb.units.size + 2) pb.units
      (Array.replicate pb.clauses.length false) pb.tagged := by
  have h := (loop_ok pb.nbClauses _ pb.clauses hwf (pb.units.size + 2) pb.units
    (Array.replicate pb.clauses.length false) pb.tagged rfl (DoneOk.init _ _ _)).fuel
    (Nat.lt_succ_of_le (Nat.le_succ_of_le (zeros_le _)))
  exact ⟨h, loop_fuel_stable _ _ _ _ _ _ h⟩


theorem installNeg_size (c : List Int) (u : Array Int) : (installNeg u c).size = u.size := by
  fun_induction installNeg u c with
  | case1 => rfl
  | case2 u l rest ih => rw [ih, size_setLit]

theorem installNeg_agrees (a : Asg) (c : List Int) (u : Array Int) (hwf : WF u) (hag : Agrees u a)
    (hf : clauseTrue a c = false) (hnz : ∀ l ∈ c, l ≠ 0) :
    WF (installNeg u c) ∧ Agrees (installNeg u c) a := by
  fun_induction installNeg u c with
  | case1 => exact ⟨hwf, hag⟩
  | case2 u l rest ih =>
    simp only [clauseTrue, List.any_cons, Bool.or_eq_false_iff] at hf
    have hs := setLit_neg_sound u a l (hnz l List.mem_cons_self) hwf hag hf.1
    exact ih hs.1 hs.2 hf.2 (fun x hx => hnz x (List.mem_cons_of_mem _ hx))

theorem checkLine_units (pb : Pb) (c : List Int) : (checkLine pb c).2.units = pb.units := rfl
theorem checkLine_clauses (pb : Pb) (c : List Int) : (checkLine pb c).2.clauses = pb.clauses := rfl
theorem checkLine_nb (pb : Pb) (c : List Int) : (checkLine pb c).2.nbClauses = pb.nbClauses := rfl

theorem checkLine_le (pb : Pb) (c : List Int) : TagLe pb.tagged (checkLine pb c).2.tagged :=
  loop_le _ _ _ _ _ _

theorem checkLine_ok (n : Nat) (pb : Pb) (c : List Int) (hsz : pb.units.size = n)
    (hwf : cnfWf n pb.clauses = true) :
    LoopOk pb.nbClauses pb.clauses ((installNeg pb.units c).size + 2) (installNeg pb.units c) pb.tagged
      (loop pb.nbClauses pb.clauses ((installNeg pb.units c).size + 2) (installNeg pb.units c)
        (Array.replicate pb.clauses.length false) pb.tagged) :=
  loop_ok _ n _ hwf _ _ _ _ ((installNeg_size c _).trans hsz) (DoneOk.init _ _ _)

theorem checkLine_sound (a : Asg) (n : Nat) (pb : Pb) (c : List Int) (hsz : pb.units.size = n)
    (hcw : cnfWf n pb.clauses = true) (hlen : pb.tagged.length = pb.nbClauses) (hwf : WF pb.units)
    (hag : Agrees pb.units a) (hnzc : ∀ l ∈ c, l ≠ 0)
    (hg : Good a pb.nbClauses (checkLine pb c).2.tagged pb.clauses)
    (hacc : (checkLine pb c).1 = true) : clauseTrue a c = true := by
  cases hct : clauseTrue a c with
  | true => rfl
  | false =>
    have hi := installNeg_agrees a c pb.units hwf hag hct hnzc
    have hrej : (checkLine pb c).1 = false := (checkLine_ok n pb c hsz hcw).sound a hlen hi.1 hi.2 hg
    rw [hacc] at hrej
    cases hrej

/-- the problem handed to the next line after `c` was accepted -/
def learn (pb : Pb) (c : List Int) : Pb :=
  { (checkLine pb c).2 with clauses := (checkLine pb c).2.clauses ++ [c] }

theorem allLoop_acc (pb : Pb) (c : List Int) (rest : List (List Int)) (i : Nat)
    (h : (checkLine pb c).1 = true) : allLoop pb (c :: rest) i = allLoop (learn pb c) rest (i+1) := by
  simp [allLoop, h, learn]

theorem allLoop_rej (pb : Pb) (c : List Int) (rest : List (List Int)) (i : Nat)
    (h : (checkLine pb c).1 = false) : allLoop pb (c :: rest) i = ⟨false, i, (checkLine pb c).2⟩ := by
  simp [allLoop, h]

/-- what checking certificate lines may change in a problem: tags are added, clauses appended -/
structure Frame (p q : Pb) : Prop where
  units : q.units = p.units
  nb : q.nbClauses = p.nbClauses
  tags : TagLe p.tagged q.tagged
  clauses : p.clauses <+: q.clauses

theorem Frame.refl (p : Pb) : Frame p p := ⟨rfl, rfl, TagLe.refl _, List.prefix_refl _⟩

theorem Frame.trans {p q r : Pb} (h1 : Frame p q) (h2 : Frame q r) : Frame p r :=
  ⟨h2.units.trans h1.units, h2.nb.trans h1.nb, h1.tags.trans h2.tags, h1.clauses.trans h2.clauses⟩

theorem checkLine_frame (pb : Pb) (c : List Int) : Frame pb (checkLine pb c).2 :=
  ⟨rfl, rfl, checkLine_le pb c, List.prefix_refl _⟩

theorem learn_frame (pb : Pb) (c : List Int) : Frame pb (learn pb c) :=
  ⟨rfl, rfl, checkLine_le pb c, List.prefix_append _ _⟩

theorem allLoop_frame (lines : List (List Int)) (pb : Pb) (i : Nat) :
    Frame pb (allLoop pb lines i).pb := by
  fun_induction allLoop pb lines i
  next => exact Frame.refl _
  next => exact checkLine_frame ..
  next ih => exact (learn_frame ..).trans ih

theorem chanLoop_frame (lines : List (List Int)) (pb : Pb) (i : Nat) :
    Frame pb (chanLoop pb lines i).pb := by
  fun_induction chanLoop pb lines i
  next => exact Frame.refl _
  next => exact checkLine_frame ..
  next => exact checkLine_frame ..
  next ih => exact (learn_frame ..).trans ih

theorem cutAtEmpty_cons (c : List Int) (rest : List (List Int)) :
    cutAtEmpty (c :: rest) = if c.isEmpty then [c] else c :: cutAtEmpty rest := by
  rw [cutAtEmpty]

/-- `UnsatChan` on a certificate = `Unsat` on the certificate cut after its first empty clause
    (same verdict, same tags). -/
theorem chanLoop_eq_allLoop (lines : List (List Int)) (pb : Pb) (i : Nat) :
    (chanLoop pb lines i).valid = (allLoop pb (cutAtEmpty lines) i).valid ∧
    (chanLoop pb lines i).pb.tagged = (allLoop pb (cutAtEmpty lines) i).pb.tagged := by
  fun_induction chanLoop pb lines i with
  | case1 => exact ⟨rfl, rfl⟩
  | case2 pb c rest i r h =>
    have h : (checkLine pb c).1 = false := by simpa using h
    rw [cutAtEmpty_cons]
    split <;> rw [allLoop_rej pb c _ i h] <;> exact ⟨rfl, rfl⟩
  | case3 pb c rest i r h he =>
    rw [cutAtEmpty_cons, if_pos he, allLoop_acc pb c [] i (by simpa using h)]
    exact ⟨rfl, rfl⟩
  | case4 pb c rest i r h he ih =>
    rw [cutAtEmpty_cons, if_neg he, allLoop_acc pb c _ i (by simpa using h)]
    exact ih

/-- The core invariant; the tags in `Good` are those *at the end of the run*. -/
theorem allLoop_sound (a : Asg) (n : Nat) (lines : List (List Int)) (pb : Pb) (i : Nat)
    (hsz : pb.units.size = n) (hcw : cnfWf n pb.clauses = true) (hl : cnfWf n lines = true)
    (hlen : pb.tagged.length = pb.nbClauses) (hwf : WF pb.units) (hag : Agrees pb.units a)
    (hv : (allLoop pb lines i).valid = true)
    (hg : Good a pb.nbClauses (allLoop pb lines i).pb.tagged pb.clauses) :
    ∀ c ∈ lines, clauseTrue a c = true := by
  fun_induction allLoop pb lines i with
  | case1 => nofun
  | case2 => cases hv
  | case3 pb c rest i r h ih =>
    obtain ⟨hc, hrest⟩ := (cnfWf_cons n c rest).1 hl
    have hct : clauseTrue a c = true :=
      checkLine_sound a n pb c hsz hcw hlen hwf hag (fun l hl => ((clauseWf_iff n c).1 hc l hl).1)
        (hg.anti (allLoop_frame rest (learn pb c) (i+1)).tags) (by simpa using h)
    exact List.forall_mem_cons.2 ⟨hct, ih hsz (cnfWf_append_one n _ c hcw hc) hrest
      ((checkLine_le pb c).1.trans hlen) hwf hag hv (hg.snoc hct)⟩

/-- the bindings in `u` are 0/±1 and each non-zero one is forced by a unit clause of `cs` -/
def UnitsFrom (cs : List (List Int)) (u : Array Int) : Prop :=
  WF u ∧ ∀ v, 0 < v → (bind u v = 1 → [(v : Int)] ∈ cs) ∧ (bind u v = -1 → [-(v : Int)] ∈ cs)

theorem addUnit_from (cs : List (List Int)) (u : Array Int) (c : List Int) (hc : c ∈ cs)
    (hnz : ∀ l ∈ c, l ≠ 0) (h : UnitsFrom cs u) : UnitsFrom cs (addUnit u c) := by
  unfold addUnit
  split
  · rename_i l
    have hl : l ≠ 0 := hnz l List.mem_cons_self
    refine ⟨wf_setLit u l hl h.1, fun v hv => ?_⟩
    rcases bind_setLit u l hl v hv with hb | ⟨hvl, hb⟩
    · rw [hb]; exact h.2 v hv
    · rw [hb]
      split
      · have : (v : Int) = l := by omega
        exact ⟨fun _ => this ▸ hc, fun h' => by omega⟩
      · have : -(v : Int) = l := by omega
        exact ⟨fun h' => by omega, fun _ => this ▸ hc⟩
  · exact h

theorem initUnits_from (n : Nat) (cs : List (List Int)) (hnz : Nz cs) : UnitsFrom cs (initUnits n cs) := by
  refine List.foldlRecOn cs addUnit ⟨wf_empty n, fun v _ => ?_⟩
    fun u hu c hc => addUnit_from cs u c hc (hnz c hc) hu
  rw [show bind (Array.replicate n 0) v = 0 from bind_emptyBind n v]
  exact ⟨fun h => by omega, fun h => by omega⟩

theorem agrees_of_unitsFrom (cs : List (List Int)) (u : Array Int) (h : UnitsFrom cs u) (a : Asg)
    (ha : ∀ c ∈ cs, c.length = 1 → clauseTrue a c = true) : Agrees u a := by
  intro v hv
  constructor
  · intro hb
    have := ha _ ((h.2 v hv).1 hb) rfl
    have hp : (v : Int) > 0 := by omega
    simpa only [clauseTrue, litTrue, List.any_cons, List.any_nil, Bool.or_false, if_pos hp,
      Int.natAbs_natCast] using this
  · intro hb
    have := ha _ ((h.2 v hv).2 hb) rfl
    have hp : ¬ (-(v : Int) > 0) := by omega
    simpa only [clauseTrue, litTrue, List.any_cons, List.any_nil, Bool.or_false, if_neg hp,
      Int.natAbs_neg, Int.natAbs_natCast, Bool.not_eq_true'] using this

/-- `units` as `ParseCNF` computes it.  A problem with two contradictory unit
    clauses has no model, so the last two parts are then vacuous. -/
theorem units_entailed (n : Nat) (cs : List (List Int)) (hnz : Nz cs) :
    UnitsFrom cs (initUnits n cs) ∧
    (∀ a, (∀ c ∈ cs, c.length = 1 → clauseTrue a c = true) → Agrees (initUnits n cs) a) ∧
    (∀ a, cnfTrue a cs = true → Agrees (initUnits n cs) a) := by
  have h := initUnits_from n cs hnz
  exact ⟨h, fun a ha => agrees_of_unitsFrom cs _ h a ha,
    fun a ha => agrees_of_unitsFrom cs _ h a fun c hc _ => (cnfTrue_iff a cs).1 ha c hc⟩

example : initUnits 3 [[1, 2], [-2], [3], [-3]] = #[0, -1, -1] := by decide +kernel

theorem initUnits_size (n : Nat) (cs : List (List Int)) : (initUnits n cs).size = n := by
  refine List.foldlRecOn (motive := (·.size = n)) cs addUnit Array.size_replicate fun u hu c _ => ?_
  unfold addUnit
  split
  · exact (size_setLit u _).trans hu
  · exact hu

theorem initTagged_len (pb : Pb) : (initTagged pb).tagged.length = pb.nbClauses := by
  simp [initTagged]

theorem initTagged_unit (pb : Pb) (i : Nat) (c : List Int) (hi : i < pb.nbClauses)
    (hc : pb.clauses[i]? = some c) (h1 : c.length = 1) : (initTagged pb).tagged[i]? = some true := by
  simp [initTagged, hi, hc, h1]

theorem subsetOf_cons (c : List Int) (cs : List (List Int)) (t : Bool) (ts : List Bool) :
    subsetOf (c :: cs) (t :: ts) = if t then c :: subsetOf cs ts else subsetOf cs ts := rfl

theorem mem_subsetOf : ∀ (cs : List (List Int)) (tg : List Bool) (i : Nat) (c : List Int),
    cs[i]? = some c → tg[i]? = some true → c ∈ subsetOf cs tg := by
  intro cs
  induction cs with
  | nil => intro _ _ _ hc _; cases hc
  | cons x xs ih =>
    intro tg i c hc ht
    cases tg with
    | nil => cases ht
    | cons t ts =>
      cases i with
      | zero =>
        cases hc; cases ht
        exact List.mem_cons_self
      | succ i =>
        have := ih ts i c hc ht
        rw [subsetOf_cons]
        split
        · exact List.mem_cons_of_mem _ this
        · exact this

theorem subsetOf_sublist : ∀ (cs : List (List Int)) (tg : List Bool), (subsetOf cs tg).Sublist cs
  | [], _ => List.nil_sublist _
  | _ :: _, [] => List.nil_sublist _
  | x :: xs, t :: ts => by
    rw [subsetOf_cons]
    split
    · exact (subsetOf_sublist xs ts).cons_cons x
    · exact (subsetOf_sublist xs ts).cons x

theorem good_of_subset (a : Asg) (cs : List (List Int)) (tg : List Bool)
    (h : cnfTrue a (subsetOf cs tg) = true) : Good a cs.length tg cs := by
  intro j c hj hor
  have hlt : j < cs.length := (List.getElem?_eq_some_iff.1 hj).1
  rcases hor with h1 | h1
  · omega
  · exact (cnfTrue_iff a _).1 h c (mem_subsetOf cs tg j c hj h1)

/-- Hypotheses on a problem between two calls: `NbClauses = len(Clauses)`, literals non-zero
    and within `1..NbVars` (`NbVars = units.size`; the Go code indexes `units[v-1]` unchecked),
    `units` produced from the unit clauses. -/
structure Pb.Ok (pb : Pb) : Prop where
  nb : pb.nbClauses = pb.clauses.length
  wf : cnfWf pb.units.size pb.clauses = true
  units : UnitsFrom pb.clauses pb.units

theorem mkPb_ok (n : Nat) (cs : List (List Int)) (h : cnfWf n cs = true) : (mkPb n cs).Ok :=
  ⟨rfl, (initUnits_size n cs).symm ▸ h, initUnits_from n cs (nz_of_cnfWf n cs h)⟩

/-- The theorem behind `checker_sound` and `tagged_unsat`; `subsetOf … tagged` is what
    `UnsatSubset` extracts. -/
theorem runAll_sound (pb : Pb) (hok : pb.Ok) (lines : List (List Int))
    (hl : cnfWf pb.units.size lines = true)
    (h : checkAll pb lines = true) (a : Asg)
    (ha : cnfTrue a (subsetOf pb.clauses (runAll pb lines).pb.tagged) = true) :
    ∀ c ∈ lines, clauseTrue a c = true := by
  have hfr := allLoop_frame lines (initTagged pb) 0
  -- every unit clause is tagged from the start, hence at the end, hence true under `a`
  have hag : Agrees pb.units a := by
    apply agrees_of_unitsFrom pb.clauses pb.units hok.units a
    intro c hc h1
    obtain ⟨i, hi, hci⟩ := List.getElem_of_mem hc
    have hci' : pb.clauses[i]? = some c := by rw [List.getElem?_eq_getElem hi, hci]
    exact (cnfTrue_iff a _).1 ha c (mem_subsetOf _ _ i c hci'
      (hfr.tags.2 i (initTagged_unit pb i c (hok.nb ▸ hi) hci' h1)))
  have hg := good_of_subset a pb.clauses _ ha
  rw [← hok.nb] at hg
  exact allLoop_sound a _ lines (initTagged pb) 0 rfl hok.wf hl (initTagged_len pb) hok.units.1 hag h hg

/-- Every line of a certificate accepted by `Unsat` is a logical
    consequence of the problem. -/
theorem checker_sound (pb : Pb) (hok : pb.Ok) (lines : List (List Int))
    (hl : cnfWf pb.units.size lines = true) (h : checkAll pb lines = true) :
    ∀ c ∈ lines, CnfEntails pb.clauses c := by
  intro c hc a ha
  refine runAll_sound pb hok lines hl h a ((cnfTrue_iff a _).2 fun c' hc' => ?_) c hc
  exact (cnfTrue_iff a _).1 ha c' ((subsetOf_sublist _ _).subset hc')

theorem checker_sound_unsat (pb : Pb) (hok : pb.Ok) (lines : List (List Int))
    (hl : cnfWf pb.units.size lines = true) (h : checkAll pb lines = true) (he : [] ∈ lines) :
    ¬ CnfSat pb.clauses := by
  rintro ⟨a, ha⟩
  have := checker_sound pb hok lines hl h [] he a ha
  cases this

theorem checkChan_eq (pb : Pb) (lines : List (List Int)) :
    checkChan pb lines = checkAll pb (cutAtEmpty lines) ∧
    (runChan pb lines).pb.tagged = (runAll pb (cutAtEmpty lines)).pb.tagged :=
  chanLoop_eq_allLoop lines (initTagged pb) 0

theorem cutAtEmpty_prefix (lines : List (List Int)) : cutAtEmpty lines <+: lines := by
  fun_induction cutAtEmpty lines with
  | case1 => exact List.prefix_refl _
  | case2 c rest _ => exact (List.prefix_cons_inj c).2 List.nil_prefix
  | case3 c rest _ ih => exact (List.prefix_cons_inj c).2 ih

theorem cutAtEmpty_empty : ∀ (lines : List (List Int)), [] ∈ lines → [] ∈ cutAtEmpty lines := by
  intro lines
  induction lines with
  | nil => intro h; cases h
  | cons x xs ih =>
    intro h
    rw [cutAtEmpty_cons]
    cases x with
    | nil => exact List.mem_cons_self
    | cons y ys =>
      rcases List.mem_cons.1 h with h | h
      · cases h
      · exact List.mem_cons_of_mem _ (ih h)

theorem cnfWf_cutAtEmpty (n : Nat) (lines : List (List Int)) (h : cnfWf n lines = true) :
    cnfWf n (cutAtEmpty lines) = true :=
  cnfWf_subset n (cutAtEmpty_prefix lines).subset h

/-- `checker_sound` for the channel entry point: `UnsatChan` reads up to and including the first
    empty clause. -/
theorem checkChan_sound (pb : Pb) (hok : pb.Ok) (lines : List (List Int))
    (hl : cnfWf pb.units.size lines = true) (h : checkChan pb lines = true) :
    (∀ c ∈ cutAtEmpty lines, CnfEntails pb.clauses c) ∧ ([] ∈ lines → ¬ CnfSat pb.clauses) := by
  rw [(checkChan_eq pb lines).1] at h
  have hl' := cnfWf_cutAtEmpty _ lines hl
  exact ⟨checker_sound pb hok _ hl' h,
    fun he => checker_sound_unsat pb hok _ hl' h (cutAtEmpty_empty lines he)⟩

theorem restore_of_frame {p q : Pb} (h : Frame p q) (hnb : p.nbClauses = p.clauses.length) :
    restore q = { p with tagged := q.tagged } := by
  show Pb.mk (q.clauses.take q.nbClauses) q.nbClauses q.units q.tagged = _
  rw [h.nb, h.units, hnb, ← List.prefix_iff_eq_take.1 h.clauses, ← hnb]

theorem run_restored (pb : Pb) (hnb : pb.nbClauses = pb.clauses.length) (lines : List (List Int)) :
    (runAll pb lines).pb = { pb with tagged := (runAll pb lines).pb.tagged } ∧
    (runChan pb lines).pb = { pb with tagged := (runChan pb lines).pb.tagged } :=
  ⟨restore_of_frame (p := initTagged pb) (allLoop_frame lines _ 0) hnb,
   restore_of_frame (p := initTagged pb) (chanLoop_frame lines _ 0) hnb⟩

/-- After `Unsat` / `UnsatChan` (accepted or not) the clause list,
    `NbClauses` and `units` are the initial ones. -/
theorem checker_restores (pb : Pb) (hnb : pb.nbClauses = pb.clauses.length) (lines : List (List Int)) :
    ((runAll pb lines).pb.clauses = pb.clauses ∧ (runAll pb lines).pb.units = pb.units ∧
      (runAll pb lines).pb.nbClauses = pb.nbClauses) ∧
    ((runChan pb lines).pb.clauses = pb.clauses ∧ (runChan pb lines).pb.units = pb.units ∧
      (runChan pb lines).pb.nbClauses = pb.nbClauses) := by
  rw [(run_restored pb hnb lines).1, (run_restored pb hnb lines).2]
  exact ⟨⟨rfl, rfl, rfl⟩, rfl, rfl, rfl⟩

theorem checker_rerun (pb : Pb) (hnb : pb.nbClauses = pb.clauses.length) (lines lines' : List (List Int)) :
    runAll (runAll pb lines).pb lines' = runAll pb lines' ∧
    runChan (runAll pb lines).pb lines' = runChan pb lines' ∧
    runAll (runChan pb lines).pb lines' = runAll pb lines' ∧
    runChan (runChan pb lines).pb lines' = runChan pb lines' := by
  -- a run starts with `initTagged`, which overwrites the tags
  rw [(run_restored pb hnb lines).1, (run_restored pb hnb lines).2]
  exact ⟨rfl, rfl, rfl, rfl⟩

/-- The tagged original clauses are what `UnsatSubset` returns. -/
theorem tagged_unsat (pb : Pb) (hok : pb.Ok) (lines : List (List Int))
    (hl : cnfWf pb.units.size lines = true) (h : checkAll pb lines = true) (he : [] ∈ lines) :
    (subsetOf pb.clauses (runAll pb lines).pb.tagged).Sublist pb.clauses ∧
    ¬ CnfSat (subsetOf pb.clauses (runAll pb lines).pb.tagged) := by
  refine ⟨subsetOf_sublist _ _, ?_⟩
  rintro ⟨a, ha⟩
  have := runAll_sound pb hok lines hl h a ha [] he
  cases this

/-- `tagged_unsat` for the channel entry point (the one `UnsatSubset` uses). -/
theorem tagged_unsat_chan (pb : Pb) (hok : pb.Ok) (lines : List (List Int))
    (hl : cnfWf pb.units.size lines = true) (h : checkChan pb lines = true) (he : [] ∈ lines) :
    (subsetOf pb.clauses (runChan pb lines).pb.tagged).Sublist pb.clauses ∧
    ¬ CnfSat (subsetOf pb.clauses (runChan pb lines).pb.tagged) := by
  rw [(checkChan_eq pb lines).2]
  rw [(checkChan_eq pb lines).1] at h
  exact tagged_unsat pb hok _ (cnfWf_cutAtEmpty _ lines hl) h (cutAtEmpty_empty lines he)

/-- the running example: `(1∨2)(¬1∨2)(¬2∨3)(¬3)(1∨3)` with certificate `2, 3, ⊥` -/
def exPb : Pb := mkPb 3 [[1, 2], [-1, 2], [-2, 3], [-3], [1, 3]]

example : exPb.Ok := mkPb_ok 3 _ (by decide)
example : cnfWf exPb.units.size [[2], [3], []] = true := by decide +kernel
example : checkAll exPb [[2], [3], []] = true := by decide +kernel
example : checkChan exPb [[2], [], [1]] = true := by decide +kernel
example : checkAll (mkPb 3 [[1, 2], [-1, 2], [-2, 3]]) [[1]] = false := by decide +kernel
example : (runAll exPb [[2], [3], []]).pb.tagged = [true, true, true, true, true] := by decide +kernel
example : (runAll (mkPb 2 [[1, 2], [-1], [-2], [1, -2]]) [[]]).pb.tagged = [true, true, true, false] := by decide +kernel
example : subsetOf [[1, 2], [-1], [-2], [1, -2]] [true, true, true, false] = [[1, 2], [-1], [-2]] := by decide +kernel
example : ((runAll exPb [[2], [3], []]).pb.clauses = exPb.clauses ∧
    (runAll exPb [[2], [3], []]).pb.units = exPb.units) := by decide +kernel

/-- Completeness w.r.t. the verified RUP checker `GS.rupValid`, provided no line contains
    complementary literals (`complete_needs_no_compl`).  Clauses of the problem and lines may
    repeat literals: since the repair of the literal scan of `(*Problem).unsat`
    (`if unbound == 1 && lit == unit { continue }`) the Go scan tolerates a repetition of the
    unbound literal of a unit clause.  Proved in `GS/Props/C08_Complete.lean`
    (`checker_complete_up`). -/
def checker_complete_up_statement : Prop :=
  ∀ (n : Nat) (cs lines : List (List Int)), cnfWf n cs = true → cnfWf n lines = true →
    (∀ c ∈ lines, ∀ l ∈ c, -l ∉ c) →
    rupValid n cs lines = true → checkAll (mkPb n cs) lines = true

/-- The hypotheses the scan before the repair needed: additionally no clause of the problem and no
    line repeats a literal (`checker_complete_up_nodup` in `GS/Props/C08_Complete.lean`). -/
def checker_complete_up_nodup_statement : Prop :=
  ∀ (n : Nat) (cs lines : List (List Int)), cnfWf n cs = true → cnfWf n lines = true →
    (∀ c ∈ cs, c.Nodup) → (∀ c ∈ lines, c.Nodup) → (∀ c ∈ lines, ∀ l ∈ c, -l ∉ c) →
    rupValid n cs lines = true → checkAll (mkPb n cs) lines = true

/-- A clause that repeats a literal: `(1∨1)(¬1∨2)(¬1∨¬2)` is refuted by unit propagation.  The
    scan before the repair counted the repeated literal of `1 1` as two unbound literals, never
    propagated it and rejected the empty clause; the repaired scan skips the repetition. -/
theorem repeat_now_accepted :
    rupLine 2 [[1, 1], [-1, 2], [-1, -2]] [] = true ∧
    checkAll (mkPb 2 [[1, 1], [-1, 2], [-1, -2]]) [[]] = true ∧
    checkAll (mkPb 2 [[1], [-1, 2], [-1, -2]]) [[]] = true := by decide +kernel

/-- A line that repeats a literal: the accepted line `1 1` is appended as is and is usable as a
    unit clause. -/
theorem repeat_line_now_accepted :
    rupValid 2 [[1, 2], [1, -2], [-1, 2], [-1, -2]] [[1, 1], []] = true ∧
    checkAll (mkPb 2 [[1, 2], [1, -2], [-1, 2], [-1, -2]]) [[1, 1], []] = true ∧
    checkAll (mkPb 2 [[1, 2], [1, -2], [-1, 2], [-1, -2]]) [[1], []] = true := by decide +kernel

/-- The input of the defect report: the refutation needs `1 2 1` to become unit once `2` is
    false (`units` binds 2 from the unit clause `¬2`; 1 is unbound, 2 false, 1 again).  Both
    entry points accept the certificate `⊥` and every clause is tagged (`UnsatSubset` returns the
    whole problem); before the repair both answered "not UNSAT". -/
theorem repeat_unit_now_accepted :
    rupValid 3 [[1, 2, 1], [-2], [-1, 3], [-1, -3]] [[]] = true ∧
    checkAll (mkPb 3 [[1, 2, 1], [-2], [-1, 3], [-1, -3]]) [[]] = true ∧
    checkChan (mkPb 3 [[1, 2, 1], [-2], [-1, 3], [-1, -3]]) [[]] = true ∧
    (runChan (mkPb 3 [[1, 2, 1], [-2], [-1, 3], [-1, -3]]) [[]]).pb.tagged = [true, true, true, true] := by
  decide +kernel

/-- The same defect through `UnsatSubset` (validated on the Go side): all 8 sign patterns over 3
    variables, each clause repeating its first literal at the end; the certificate is the one the
    solver emits (`3 1`, `1`, `-3 -1`, `⊥`).  Before the repair `UnsatChan` rejected the line `1`
    (tags `10100000`) and `UnsatSubset` answered "problem is not UNSAT"; the repaired code accepts
    the certificate and tags all clauses. -/
theorem repeat_subset_now_accepted :
    let cs : List (List Int) := [[1, 2, 3, 1], [2, 1, -3, 2], [3, 1, -2, 3], [-2, 1, -3, -2],
      [-1, 2, 3, -1], [2, -1, -3, 2], [-2, -1, 3, -2], [-3, -1, -2, -3]]
    let lines : List (List Int) := [[3, 1], [1], [-3, -1], []]
    rupValid 3 cs lines = true ∧ checkAll (mkPb 3 cs) lines = true ∧
    checkChan (mkPb 3 cs) lines = true ∧
    (runChan (mkPb 3 cs) lines).pb.tagged = [true, true, true, true, true, true, true, true] := by
  decide +kernel

/-- Only a repetition of the *first* unbound literal is skipped, and only while it is the only
    one: with 1 and 2 unbound the scan of `1 2 1` (and of `1 2 1 2`, `1 1 2`) stops at `2` —
    rightly, such a clause is not unit. -/
theorem scan_repeat_cases :
    scanGo #[0, 0] [1, 2, 1] 0 0 = .many ∧ scanGo #[0, 0] [1, 2, 1, 2] 0 0 = .many ∧
    scanGo #[0, 0] [1, 1, 2] 0 0 = .many ∧
    scanGo #[0, -1] [1, 2, 1, 2] 0 0 = .unit 1 ∧ scanGo #[0, -1] [1, 1, 2] 0 0 = .unit 1 ∧
    scanGo #[0, -1] [2, 1, 2, 1] 0 0 = .unit 1 ∧
    scanGo #[0, 0] [1, 1] 0 0 = .unit 1 ∧ scanGo #[-1, 0] [1, 1] 0 0 = .conflict ∧
    scanGo #[0, 0] [1, -1] 0 0 = .many := by decide +kernel

/-- Witness for "no complementary literals in a line": the tautology `1 ¬1` is a consequence of
    anything; the Go code binds variable 1 twice (last literal wins) and then usually finds no
    conflict. -/
theorem complete_needs_no_compl :
    rupLine 1 [] [1, -1] = true ∧ checkAll (mkPb 1 []) [[1, -1]] = false := by decide +kernel


/-! `checker_sound` (with `checkChan_sound`), `checker_restores` (with `checker_rerun`) and
`tagged_unsat` (with `tagged_unsat_chan`) at a problem as `ParseCNF` builds it: `Pb.Ok (mkPb n cs)` is
`cnfWf n cs` (`mkPb_ok`), so no hypothesis speaks of a `Pb`. -/

theorem C08_checker_sound (n : Nat) (cs lines : List (List Int)) (hcs : cnfWf n cs = true)
    (hl : cnfWf n lines = true) :
    (checkAll (mkPb n cs) lines = true → (∀ c ∈ lines, CnfEntails cs c) ∧ ([] ∈ lines → ¬ CnfSat cs)) ∧
    (checkChan (mkPb n cs) lines = true →
      (∀ c ∈ cutAtEmpty lines, CnfEntails cs c) ∧ ([] ∈ lines → ¬ CnfSat cs)) := by
  have hok := mkPb_ok n cs hcs
  have hl' : cnfWf (mkPb n cs).units.size lines = true := (initUnits_size n cs).symm ▸ hl
  exact ⟨fun h => ⟨checker_sound _ hok lines hl' h, checker_sound_unsat _ hok lines hl' h⟩,
    fun h => checkChan_sound _ hok lines hl' h⟩

theorem C08_checker_restores (n : Nat) (cs lines lines' : List (List Int)) :
    (runAll (mkPb n cs) lines).pb.clauses = cs ∧
    (runAll (mkPb n cs) lines).pb.units = initUnits n cs ∧
    (runChan (mkPb n cs) lines).pb.clauses = cs ∧
    (runChan (mkPb n cs) lines).pb.units = initUnits n cs ∧
    checkAll (runAll (mkPb n cs) lines).pb lines' = checkAll (mkPb n cs) lines' ∧
    checkChan (runChan (mkPb n cs) lines).pb lines' = checkChan (mkPb n cs) lines' := by
  have h := checker_restores (mkPb n cs) rfl lines
  have r := checker_rerun (mkPb n cs) rfl lines lines'
  refine ⟨h.1.1, h.1.2.1, h.2.1, h.2.2.1, ?_, ?_⟩
  · unfold checkAll; rw [r.1]
  · unfold checkChan; rw [r.2.2.2]

theorem C08_tagged_unsat (n : Nat) (cs lines : List (List Int)) (hcs : cnfWf n cs = true)
    (hl : cnfWf n lines = true) (he : [] ∈ lines) :
    (checkAll (mkPb n cs) lines = true →
      (subsetOf cs (runAll (mkPb n cs) lines).pb.tagged).Sublist cs ∧
      ¬ CnfSat (subsetOf cs (runAll (mkPb n cs) lines).pb.tagged)) ∧
    (checkChan (mkPb n cs) lines = true →
      (subsetOf cs (runChan (mkPb n cs) lines).pb.tagged).Sublist cs ∧
      ¬ CnfSat (subsetOf cs (runChan (mkPb n cs) lines).pb.tagged)) := by
  have hok := mkPb_ok n cs hcs
  have hl' : cnfWf (mkPb n cs).units.size lines = true := (initUnits_size n cs).symm ▸ hl
  exact ⟨fun h => tagged_unsat _ hok lines hl' h he, fun h => tagged_unsat_chan _ hok lines hl' h he⟩

example : cnfWf 3 [[1, 2], [-1, 2], [-2, 3], [-3], [1, 3]] = true ∧ cnfWf 3 [[2], [3], []] = true ∧
    checkAll (mkPb 3 [[1, 2], [-1, 2], [-2, 3], [-3], [1, 3]]) [[2], [3], []] = true := by decide +kernel

end GS.Explain
