import GS.Model.TextBytes
import GS.Props.C13_Formats
import GS.Props.C13_CnfBytes
/-!
# C13 at byte level for `solver.ParseOPB`, `maxsat.ParseWCNF`, `explain.ParseCNF`
(`GS.Model.TextBytes`)

The token-level theorems of `GS.Props.C13_Formats` (`parseOpb_render`, `parseWcnf_render`,
`explainParse_render`) are about lines of tokens. Here the texts are bytes: a file is rendered with
a free byte layout (`OpbByteLayout`, `WcnfByteLayout`, `LineDecor`), its tokens are shown to be the
token-level rendering (`opbTokens_render`, `wcnfTokens_render`, `explainTokens_render`), and the
token-level theorem does the rest.

Hypotheses on top of the token-level ones: the layout is well formed (`….ok`: blanks where blanks
are expected, non-empty between two fields), the numbers fit a 64-bit `int` (`OpbInRange`,
`wcnfInRange`, `tokOk`), every line fits the scanner's buffer and a text without final newline does
not end with an empty line (`OpbFits`, `WcnfFits`, `LinesFit`: `Fits` at the lines of the rendering).
A line of `maxLine` bytes or more ended by `\n` stops the scanner: the token level gets the lines
before it and then `errLine` (`tokens_long`, `wcnfTokens_long`), which `ParseOPB` rejects
(`parseOpbBytes_long`).
-/
namespace GS.TextBytes
open GS GS.Formats GS.CnfBytes

/-- A line of a text: its content and whether it is ended by `\r\n` (or, for the last line of a
    text without final newline, by a lone `\r`) rather than by `\n`. -/
structure TLine where
  body : List Nat
  cr : Bool := false
deriving Repr, Inhabited

def TLine.raw (l : TLine) : List Nat := l.body ++ (if l.cr then [13] else [])

/-- `fin = false`: the last line is not ended by `\n`. -/
def textBytes : List TLine → Bool → List Nat
  | [], _ => []
  | l :: ls, fin => if ls.isEmpty && !fin then l.raw else l.raw ++ 10 :: textBytes ls fin

def TLine.ok (l : TLine) : Bool :=
  l.body.all (· != 10) && l.body.getLast? != some 13 && decide (l.raw.length < maxLine)

/-- A text without final newline does not end with an empty line. -/
def textOk (ls : List TLine) (fin : Bool) : Bool :=
  ls.all (·.ok) && (fin || (ls.getLast?.map (fun l => !l.raw.isEmpty)).getD true)

/-- A line content the scanner returns as it is: `TLine.ok l` is `bodyOk l.body` and
    `l.raw.length < maxLine`; `Skip.ok` asks it of the bytes after the comment character. -/
def bodyOk (b : List Nat) : Bool := b.all (· != 10) && b.getLast? != some 13

/-- Every line fits the scanner's buffer, and a text without final newline does not end with an
    empty line. `OpbFits`, `LinesFit` and `WcnfFits` are this at the lines of their rendering. -/
def Fits (ls : List TLine) (fin : Bool) : Prop :=
  (∀ l ∈ ls, l.raw.length < maxLine) ∧ (fin || (ls.getLast?.map (fun l => !l.raw.isEmpty)).getD true) = true

theorem textOk_of_fits {ls : List TLine} {fin : Bool} (hb : ls.all (fun l => bodyOk l.body) = true)
    (hfit : Fits ls fin) : textOk ls fin = true := by
  rw [textOk, Bool.and_eq_true, List.all_eq_true]
  refine ⟨fun l hl => ?_, hfit.2⟩
  have h1 := List.all_eq_true.mp hb l hl
  unfold bodyOk at h1
  simp only [TLine.ok, h1, hfit.1 l hl, decide_true, Bool.and_self]

theorem rawLines_line : ∀ (l rest : List Nat), l.all (· != 10) = true →
    rawLines (l ++ 10 :: rest) = l :: rawLines rest
  | [], rest, _ => by simp [rawLines]
  | b :: l, rest, h => by
    simp only [List.all_cons, Bool.and_eq_true, bne_iff_ne, ne_eq] at h
    simp only [List.cons_append, rawLines, h.1, if_false, rawLines_line l rest h.2]

theorem rawLines_last : ∀ (l : List Nat), l.all (· != 10) = true → l ≠ [] → rawLines l = [l]
  | [], _, h => absurd rfl h
  | b :: l, h, _ => by
    rw [List.all_cons, Bool.and_eq_true, bne_iff_ne] at h
    rw [rawLines, if_neg h.1]
    cases l with
    | nil => rfl
    | cons c l => rw [rawLines_last (c :: l) h.2 (List.cons_ne_nil _ _)]

theorem raw_no_nl (l : TLine) (h : l.body.all (· != 10) = true) : l.raw.all (· != 10) = true := by
  unfold TLine.raw
  cases l.cr <;> simp [h]

theorem rawLines_lines (X : List Nat) : ∀ (ls : List TLine), ls.all (·.ok) = true →
    rawLines (textBytes ls true ++ X) = ls.map (·.raw) ++ rawLines X
  | [], _ => rfl
  | l :: ls, h => by
    simp only [List.all_cons, Bool.and_eq_true, TLine.ok] at h
    simp only [textBytes, Bool.not_true, Bool.and_false, Bool.false_eq_true, if_false, List.append_assoc,
      List.cons_append, List.map_cons]
    rw [rawLines_line _ _ (raw_no_nl l h.1.1.1), rawLines_lines X ls h.2]

theorem rawLines_text : ∀ (ls : List TLine) (fin : Bool), textOk ls fin = true →
    rawLines (textBytes ls fin) = ls.map (·.raw) := by
  intro ls
  induction ls with
  | nil => intro _ _; rfl
  | cons l ls ih =>
    intro fin h
    simp only [textOk, List.all_cons, Bool.and_eq_true, TLine.ok] at h
    obtain ⟨⟨⟨⟨hb, _⟩, _⟩, hls⟩, hfin⟩ := h
    have hraw := raw_no_nl l hb
    by_cases hc : (ls.isEmpty && !fin) = true
    · -- `l` is the last line and no `\n` follows: `rawLines` returns it because it is not empty (`hfin`)
      simp only [Bool.and_eq_true, Bool.not_eq_true', List.isEmpty_iff] at hc
      obtain ⟨rfl, rfl⟩ := hc
      simp only [Bool.false_or, List.getLast?_singleton, Option.map_some, Option.getD_some,
        Bool.not_eq_true', List.isEmpty_eq_false_iff] at hfin
      exact rawLines_last _ hraw hfin
    · simp only [textBytes, hc, if_false, Bool.false_eq_true, List.map_cons]
      rw [rawLines_line _ _ hraw, ih fin]
      simp only [textOk, Bool.and_eq_true]
      refine ⟨hls, ?_⟩
      cases fin with
      | true => rfl
      | false =>
        cases ls with
        | nil => simp at hc
        | cons l' ls' => simpa [List.getLast?_cons_cons] using hfin

theorem dropCR_raw (l : TLine) (h : (l.body.getLast? != some 13) = true) : dropCR l.raw = l.body := by
  unfold TLine.raw dropCR
  cases l.cr with
  | true => simp
  | false =>
    simp only [bne_iff_ne, ne_eq] at h
    simp [h]

theorem takeFit_lines (T : List (List Nat)) : ∀ (ls : List TLine), ls.all (·.ok) = true →
    takeFit (ls.map (·.raw) ++ T) = (ls.map (·.body) ++ (takeFit T).1, (takeFit T).2)
  | [], _ => rfl
  | l :: ls, h => by
    simp only [List.all_cons, Bool.and_eq_true, TLine.ok, decide_eq_true_eq] at h
    simp only [List.map_cons, List.cons_append, takeFit, h.1.2, if_true, takeFit_lines T ls h.2, dropCR_raw l h.1.1.2]

theorem scanLines_text (ls : List TLine) (fin : Bool) (h : textOk ls fin = true) :
    scanLines (textBytes ls fin) = (ls.map (·.body), false) := by
  unfold scanLines
  rw [rawLines_text ls fin h]
  simp only [textOk, Bool.and_eq_true] at h
  have := takeFit_lines [] ls h.1
  simpa [takeFit] using this

theorem scanLines_long (ls : List TLine) (long rest : List Nat) (h : textOk ls true = true)
    (hl : long.all (· != 10) = true) (hlen : maxLine ≤ long.length) :
    scanLines (textBytes ls true ++ (long ++ 10 :: rest)) = (ls.map (·.body), true) := by
  simp only [textOk, Bool.and_eq_true] at h
  unfold scanLines
  rw [rawLines_lines _ ls h.1, rawLines_line _ _ hl, takeFit_lines _ ls h.1]
  simp [takeFit, Nat.not_lt.mpr hlen]

/-- `opbTokens`, `wcnfTokens` and `explainTokens` are this at their line reader `f`. -/
def scanTokens (f : List Nat → Line) (bs : List Nat) : List Line :=
  (scanLines bs).1.map f ++ (if (scanLines bs).2 then [errLine] else [])

theorem tokens_text (f : List Nat → Line) (ls : List TLine) (fin : Bool) (h : textOk ls fin = true) :
    scanTokens f (textBytes ls fin) = ls.map (fun l => f l.body) := by
  rw [scanTokens, scanLines_text ls fin h]
  simp only [Bool.false_eq_true, if_false, List.append_nil, List.map_map]
  rfl

theorem tokens_long (f : List Nat → Line) (ls : List TLine) (long rest : List Nat) (h : textOk ls true = true)
    (hl : long.all (· != 10) = true) (hlen : maxLine ≤ long.length) :
    scanTokens f (textBytes ls true ++ (long ++ 10 :: rest)) = scanTokens f (textBytes ls true) ++ [errLine] := by
  rw [scanTokens, scanTokens, scanLines_long ls long rest h hl hlen, scanLines_text ls true h]
  simp

theorem bodyOk_cons {k : Nat} {junk : List Nat} (h10 : k ≠ 10) (h13 : k ≠ 13) (h : bodyOk junk = true) :
    bodyOk (k :: junk) = true := by
  rw [bodyOk, Bool.and_eq_true] at h ⊢
  refine ⟨by rw [List.all_cons, bne_iff_ne.mpr h10, h.1]; rfl, ?_⟩
  cases junk with
  | nil => exact bne_iff_ne.mpr fun e => h13 (Option.some.inj e)
  | cons a junk => rw [List.getLast?_cons_cons]; exact h.2

theorem bodyOk_of_all {P : Nat → Bool} {b : List Nat} (h : b.all P = true) (h10 : P 10 = false)
    (h13 : P 13 = false) : bodyOk b = true := by
  rw [bodyOk, Bool.and_eq_true, bne_iff_ne]
  exact ⟨all_ne_of_all h h10,
    fun e => ne_of_class (List.all_eq_true.mp h 13 (List.mem_of_getLast? e)) h13 rfl⟩

/-- The contents of the lines `ls` are such as the scanner returns as they are (if the lines fit:
    `Reads.tokens`), and the line reader `f` turns them into the token lines `T`. -/
def Reads (f : List Nat → Line) (ls : List TLine) (T : List Line) : Prop :=
  ls.all (fun l => bodyOk l.body) = true ∧ ls.map (fun l => f l.body) = T

theorem Reads.cons {f : List Nat → Line} {l : TLine} {t : Line} {ls : List TLine} {T : List Line}
    (hb : bodyOk l.body = true) (ht : f l.body = t) (h : Reads f ls T) : Reads f (l :: ls) (t :: T) :=
  ⟨by rw [List.all_cons, hb, h.1]; rfl, by rw [List.map_cons, ht, h.2]⟩

theorem Reads.append {f : List Nat → Line} {ls ls' : List TLine} {T T' : List Line}
    (h : Reads f ls T) (h' : Reads f ls' T') : Reads f (ls ++ ls') (T ++ T') :=
  ⟨by rw [List.all_append, h.1, h'.1]; rfl, by rw [List.map_append, h.2, h'.2]⟩

theorem Reads.skips {σ : Type} {f : List Nat → Line} (g : σ → TLine) (h : Option (List Tok) → Line) :
    ∀ ss : List σ, (∀ s ∈ ss, bodyOk (g s).body = true ∧ f (g s).body = h none) →
      Reads f (ss.map g) ((ss.map fun _ => none).map h)
  | [], _ => ⟨rfl, rfl⟩
  | s :: ss, hs =>
    .cons (hs s List.mem_cons_self).1 (hs s List.mem_cons_self).2
      (Reads.skips g h ss fun s' h' => hs s' (List.mem_cons_of_mem _ h'))

theorem Reads.tokens {f : List Nat → Line} {ls : List TLine} {T : List Line} {fin : Bool} (h : Reads f ls T)
    (hfit : Fits ls fin) : scanTokens f (textBytes ls fin) = T :=
  (tokens_text f ls fin (textOk_of_fits h.1 hfit)).trans h.2

def blank (b : Nat) : Bool := b == 32 || b == 9

theorem blank_space {b : Nat} (h : blank b = true) : asciiSpace b = true := by
  simp only [blank, Bool.or_eq_true, beq_iff_eq] at h
  rcases h with rfl | rfl <;> rfl

theorem blanks_spaces {ws : List Nat} (h : ws.all blank = true) : ws.all asciiSpace = true :=
  all_mono (fun _ => blank_space) h

/-- How an integer is written: an optional `+` (non-negative values only) and leading zeros. -/
structure IntLay where
  plus : Bool := false
  zeros : Nat := 0
deriving Repr, Inhabited

def intBytes (l : IntLay) (i : Int) : List Nat :=
  (if i < 0 then [45] else if l.plus then [43] else []) ++ (List.replicate l.zeros 48 ++ decBytes i.natAbs)

/-- `x<n>` / `~x<n>`. -/
def varBytes (l : Int) : List Nat := (if l < 0 then [126, 120] else [120]) ++ decBytes l.natAbs

theorem intBytes_all {P : Nat → Bool} (l : IntLay) (i : Int) (h45 : P 45 = true) (h43 : P 43 = true)
    (hd : ∀ b, isDigit b = true → P b = true) : (intBytes l i).all P = true := by
  rw [intBytes, List.all_append, all_mono hd (isDigits_num _ _).2, Bool.and_true]
  split
  · rw [List.all_cons, h45]; rfl
  · split
    · rw [List.all_cons, h43]; rfl
    · rfl

theorem varBytes_all {P : Nat → Bool} (v : Int) (h126 : P 126 = true) (h120 : P 120 = true)
    (hd : ∀ b, isDigit b = true → P b = true) : (varBytes v).all P = true := by
  rw [varBytes, List.all_append, List.all_eq_true.mpr fun b hb => hd b (decBytes_digit hb), Bool.and_true]
  split
  · rw [List.all_cons, List.all_cons, h126, h120]; rfl
  · rw [List.all_cons, h120]; rfl

theorem intBytes_field (l : IntLay) (i : Int) : IsField (intBytes l i) :=
  ⟨fun h => (isDigits_num _ _).1 (List.append_eq_nil_iff.mp h).2, intBytes_all l i rfl rfl fun _ => isWord_of_digit⟩

theorem varBytes_field (v : Int) : IsField (varBytes v) :=
  ⟨by unfold varBytes; split <;> simp, varBytes_all v rfl rfl fun _ => isWord_of_digit⟩

theorem atoi_intBytes (l : IntLay) (i : Int) (h : i.natAbs < 9223372036854775808) :
    atoi (intBytes l i) = some i := by
  have hd := isDigits_num l.zeros i.natAbs
  have hn := dval_num l.zeros i.natAbs
  unfold intBytes
  by_cases hi : i < 0
  · rw [if_pos hi, List.singleton_append, atoi_minus_digits hd hn (Nat.le_of_lt h)]
    congr 1; omega
  · have e : (i.natAbs : Int) = i := by omega
    rw [if_neg hi]
    cases l.plus with
    | true => rw [if_pos rfl, List.singleton_append, atoi_plus_digits hd hn h, e]
    | false => rw [if_neg Bool.false_ne_true, List.nil_append, atoi_digits hd hn h, e]

theorem atoi_varBytes (v : Int) : atoi (varBytes v) = none := by
  unfold varBytes
  split <;> simp [CnfBytes.atoi, splitSign, isDigit]

theorem map_ofNat_toNat : ∀ cs : List Char, (cs.map Char.toNat).map Char.ofNat = cs
  | [] => rfl
  | c :: cs => by rw [List.map_cons, List.map_cons, Char.ofNat_toNat, map_ofNat_toNat cs]

theorem wordOf_varBytes (v : Int) : wordOf (varBytes v) = varName v := by
  unfold wordOf varBytes
  rw [List.map_append, decBytes, map_ofNat_toNat]
  apply String.ext
  rw [varName_toList]
  split <;> simp [String.toList_ofList] <;> rfl

theorem opbTok_varBytes (v : Int) (h : v.natAbs < 9223372036854775808) : opbTok (varBytes v) = varTok v := by
  have hd : varDigits (varBytes v) = some (decBytes v.natAbs) := by
    unfold varBytes; split <;> simp [varDigits]
  have ha : atoi (decBytes v.natAbs) = some (v.natAbs : Int) :=
    atoi_digits (isDigits_num 0 _) (dval_num 0 _) h
  unfold opbTok
  rw [atoi_varBytes]
  simp only [hd, ha, Option.isNone_some, Bool.and_false, Bool.false_eq_true, if_false, varTok, wordOf_varBytes]

theorem opbTok_intBytes (l : IntLay) (i : Int) (h : i.natAbs < 9223372036854775808) :
    opbTok (intBytes l i) = Tok.int i := by
  unfold opbTok
  rw [atoi_intBytes l i h]

/-- `CnfBytes.hws`, with its byte class named. -/
def seps (ws : List Nat) : Bool := !ws.isEmpty && ws.all blank

/-- The free choices for one weighted term: leave out a coefficient 1, how the coefficient is
    written, the blanks between coefficient and variable, the blanks after the variable. -/
structure TermLay where
  om : Bool := false
  coef : IntLay := {}
  sep1 : List Nat := [32]
  sep2 : List Nat := [32]
deriving Repr, Inhabited

def coefFields (t : Int × Int) (l : TermLay) : List (List Nat) :=
  if l.om && t.1 == 1 then [] else [intBytes l.coef t.1]

def termBytes (t : Int × Int) (l : TermLay) : List Nat :=
  (if l.om && t.1 == 1 then [] else intBytes l.coef t.1 ++ l.sep1) ++ (varBytes t.2 ++ l.sep2)

def termsBytes : List (Int × Int) → List TermLay → List Nat
  | [], _ => []
  | t :: ts, ls => termBytes t (ls.headD {}) ++ termsBytes ts ls.tail

def termsFields : List (Int × Int) → List TermLay → List (List Nat)
  | [], _ => []
  | t :: ts, ls => coefFields t (ls.headD {}) ++ varBytes t.2 :: termsFields ts ls.tail

/-- Blanks between coefficient and variable; blanks after the variable, which may be missing
    after the last term only (what follows is then glued to the variable). -/
def termsOk : List (Int × Int) → List TermLay → Bool
  | [], _ => true
  | _ :: ts, ls =>
    seps (ls.headD {}).sep1 && (ls.headD {}).sep2.all blank && (ts.isEmpty || !(ls.headD {}).sep2.isEmpty) &&
      termsOk ts ls.tail

theorem termsOk_cons {t : Int × Int} {ts : List (Int × Int)} {ls : List TermLay} (h : termsOk (t :: ts) ls = true) :
    ((ls.headD {}).sep1 ≠ [] ∧ (ls.headD {}).sep1.all blank = true) ∧ (ls.headD {}).sep2.all blank = true ∧
      (ts = [] ∨ (ls.headD {}).sep2 ≠ []) ∧ termsOk ts ls.tail = true := by
  simpa only [termsOk, seps, Bool.and_eq_true, Bool.or_eq_true, Bool.not_eq_true', List.isEmpty_iff,
    List.isEmpty_eq_false_iff, and_assoc] using h

theorem fields_terms : ∀ (ts : List (Int × Int)) (ls : List TermLay) (rest : List Nat),
    termsOk ts ls = true → EndsField rest →
    fieldsAux 0 [] (termsBytes ts ls ++ rest) = termsFields ts ls ++ fieldsAux 0 [] rest := by
  intro ts
  induction ts with
  | nil => intro _ _ _ _; rfl
  | cons t ts ih =>
    intro ls rest hok hr
    obtain ⟨⟨h1n, h1b⟩, h2, h3, h4⟩ := termsOk_cons hok
    have hnext : (ls.headD {}).sep2 ≠ [] ∨ EndsField (termsBytes ts ls.tail ++ rest) :=
      h3.elim (fun e => .inr (by rw [e]; exact hr)) .inl
    have hvar : fieldsAux 0 [] (varBytes t.2 ++ ((ls.headD {}).sep2 ++ (termsBytes ts ls.tail ++ rest))) =
        varBytes t.2 :: (termsFields ts ls.tail ++ fieldsAux 0 [] rest) := by
      rw [fieldsAux_sep _ (varBytes_field t.2) (blanks_spaces h2) hnext, ih ls.tail rest h4 hr]
    simp only [termsBytes, termsFields, termBytes, coefFields]
    split
    · simp only [List.nil_append, List.append_assoc]
      exact hvar
    · simp only [List.append_assoc, List.cons_append, List.nil_append]
      rw [fieldsAux_sep _ (intBytes_field _ _) (blanks_spaces h1b) (.inl h1n), hvar]

/-- Coefficients and variable numbers fit a 64-bit `int`. -/
def termsInRange (ts : List (Int × Int)) : Prop :=
  ∀ t ∈ ts, t.1.natAbs < 9223372036854775808 ∧ t.2.natAbs < 9223372036854775808

theorem toks_terms : ∀ (ts : List (Int × Int)) (ls : List TermLay), termsInRange ts →
    (termsFields ts ls).map opbTok = renderTerms ts (ls.map (·.om)) := by
  intro ts
  induction ts with
  | nil => intro _ _; rfl
  | cons t ts ih =>
    intro ls hr
    have ht := hr t List.mem_cons_self
    have ih := ih ls.tail fun t' h' => hr t' (List.mem_cons_of_mem _ h')
    rw [renderTerms, ← List.map_tail, ← ih, termsFields, List.map_append, List.map_cons, opbTok_varBytes _ ht.2,
      List.headD_map (f := (·.om)) (a := ({} : TermLay))]
    unfold coefFields renderTerm
    split
    · rfl
    · rw [List.map_cons, opbTok_intBytes _ _ ht.1]; rfl

theorem replaceGe_cons2 (a b : Nat) (r : List Nat) :
    replaceGe (a :: b :: r) =
      if a = 62 ∧ b = 61 then some (32 :: 62 :: 61 :: 32 :: r) else (replaceGe (b :: r)).map (a :: ·) := by
  rw [replaceGe]

theorem replaceGe_found : ∀ (pre post : List Nat), pre.all (· != 62) = true →
    replaceGe (pre ++ 62 :: 61 :: post) = some (pre ++ 32 :: 62 :: 61 :: 32 :: post) := by
  intro pre
  induction pre with
  | nil => intro post _; simp [replaceGe_cons2]
  | cons a pre ih =>
    intro post h
    rw [List.all_cons, Bool.and_eq_true, bne_iff_ne] at h
    have ih := ih post h.2
    cases pre with
    | nil =>
      rw [List.nil_append] at ih
      simp only [List.cons_append, List.nil_append, replaceGe_cons2 a 62, h.1, false_and, if_false, ih, Option.map_some]
    | cons b pre =>
      rw [List.cons_append] at ih
      rw [List.cons_append, List.cons_append, replaceGe_cons2, ih, if_neg fun e => h.1 e.1]
      rfl

theorem replaceGe_none : ∀ (l : List Nat), l.all (· != 62) = true → replaceGe l = none
  | [], _ => rfl
  | [_], _ => rfl
  | a :: b :: l, h => by
    rw [List.all_cons, Bool.and_eq_true, bne_iff_ne] at h
    rw [replaceGe_cons2, replaceGe_none (b :: l) h.2, if_neg fun e => h.1 e.1]
    rfl

theorem replaceEq_found : ∀ (pre post : List Nat), pre.all (· != 61) = true →
    replaceEq (pre ++ 61 :: post) = pre ++ 32 :: 61 :: 32 :: post
  | [], post, _ => by simp [replaceEq]
  | a :: pre, post, h => by
    rw [List.all_cons, Bool.and_eq_true, bne_iff_ne] at h
    rw [List.cons_append, replaceEq, if_neg h.1, replaceEq_found pre post h.2]
    rfl

theorem spaceOut_not_min (body : List Nat) (h : body.head? ≠ some 109) :
    spaceOut body = (match replaceGe body with | some r => r | none => replaceEq body) := by
  unfold spaceOut
  split
  · simp at h
  · rfl

/-- The bytes of a line of fields: blanks and ASCII word bytes, so not `\n` or `\r` (`bodyOk_of_all`). -/
def lbyte (b : Nat) : Bool := blank b || isWord b

theorem lbyte_of_blank {b : Nat} (h : blank b = true) : lbyte b = true := by
  simp [lbyte, h]

theorem lbyte_of_word {b : Nat} (h : isWord b = true) : lbyte b = true := by
  simp [lbyte, h]

/-- The bytes of terms, blanks, integers. -/
def plain (b : Nat) : Bool := blank b || isDigit b || b == 43 || b == 45 || b == 120 || b == 126

/-- The bytes of a constraint line. -/
def cbyte (b : Nat) : Bool := plain b || b == 62 || b == 61 || b == 59

theorem plain_of_blank {b : Nat} (h : blank b = true) : plain b = true := by simp [plain, h]

theorem plain_of_digit {b : Nat} (h : isDigit b = true) : plain b = true := by simp [plain, h]

theorem cbyte_of_plain {b : Nat} (h : plain b = true) : cbyte b = true := by simp [cbyte, h]

theorem lbyte_of_plain {b : Nat} (h : plain b = true) : lbyte b = true := by
  simp only [plain, Bool.or_eq_true, beq_iff_eq] at h
  rcases h with ((((h | h) | rfl) | rfl) | rfl) | rfl
  · exact lbyte_of_blank h
  · exact lbyte_of_word (isWord_of_digit h)
  all_goals rfl

theorem intBytes_plain (l : IntLay) (i : Int) : (intBytes l i).all plain = true :=
  intBytes_all l i rfl rfl fun _ => plain_of_digit

theorem varBytes_plain (v : Int) : (varBytes v).all plain = true :=
  varBytes_all v rfl rfl fun _ => plain_of_digit

theorem termsBytes_plain : ∀ (ts : List (Int × Int)) (ls : List TermLay), termsOk ts ls = true →
    (termsBytes ts ls).all plain = true := by
  intro ts
  induction ts with
  | nil => intro _ _; rfl
  | cons t ts ih =>
    intro ls hok
    obtain ⟨⟨_, h1b⟩, h2, _, h4⟩ := termsOk_cons hok
    simp only [termsBytes, termBytes, List.all_append, ih ls.tail h4, varBytes_plain,
      all_mono (fun _ => plain_of_blank) h2, Bool.and_true]
    split
    · rfl
    · rw [List.all_append, intBytes_plain, all_mono (fun _ => plain_of_blank) h1b]; rfl

theorem termsFields_plain : ∀ (ts : List (Int × Int)) (ls : List TermLay) (f : List Nat),
    f ∈ termsFields ts ls → f.all plain = true := by
  intro ts
  induction ts with
  | nil => intro _ f hf; simp [termsFields] at hf
  | cons t ts ih =>
    intro ls f hf
    simp only [termsFields, coefFields, List.mem_append, List.mem_cons] at hf
    rcases hf with hf | rfl | hf
    · split at hf
      · simp at hf
      · rw [List.mem_singleton] at hf; subst hf; exact intBytes_plain _ _
    · exact varBytes_plain _
    · exact ih ls.tail f hf

def opBytes : Rel → List Nat
  | .ge => [62, 61]
  | .eq => [61]

/-- The free choices for a constraint line: blanks in front, the terms, blanks between operator
    and right-hand side and before the `;` (either may be missing; so may the blanks after the
    last variable: `x1>=2;`), how the right-hand side is written, `\r\n` or `\n`. -/
structure ConstrLay where
  lead : List Nat := []
  terms : List TermLay := []
  ws1 : List Nat := [32]
  rhs : IntLay := {}
  ws2 : List Nat := [32]
  cr : Bool := false
deriving Repr, Inhabited

def ConstrLay.ok (c : OpbConstr) (l : ConstrLay) : Bool :=
  l.lead.all blank && termsOk c.terms l.terms && l.ws1.all blank && l.ws2.all blank

def constrBody (c : OpbConstr) (l : ConstrLay) : List Nat :=
  (l.lead ++ termsBytes c.terms l.terms) ++ (opBytes c.rel ++ (l.ws1 ++ (intBytes l.rhs c.rhs ++ l.ws2)))

def constrLineBytes (c : OpbConstr) (l : ConstrLay) : List Nat := constrBody c l ++ [59]

theorem constr_pre_plain (c : OpbConstr) (l : ConstrLay) (h : l.ok c = true) :
    (l.lead ++ termsBytes c.terms l.terms).all plain = true := by
  simp only [ConstrLay.ok, Bool.and_eq_true] at h
  rw [List.all_append, all_mono (fun _ => plain_of_blank) h.1.1.1, termsBytes_plain _ _ h.1.1.2]; rfl

theorem constr_post_plain (c : OpbConstr) (l : ConstrLay) (h : l.ok c = true) :
    (l.ws1 ++ (intBytes l.rhs c.rhs ++ l.ws2)).all plain = true := by
  simp only [ConstrLay.ok, Bool.and_eq_true] at h
  simp only [List.all_append, all_mono (fun _ => plain_of_blank) h.1.2, all_mono (fun _ => plain_of_blank) h.2,
    intBytes_plain, Bool.and_true]

theorem constrLine_cbyte (c : OpbConstr) (l : ConstrLay) (h : l.ok c = true) :
    (constrLineBytes c l).all cbyte = true := by
  have h1 := all_mono (fun _ => cbyte_of_plain) (constr_pre_plain c l h)
  have h2 := all_mono (fun _ => cbyte_of_plain) (constr_post_plain c l h)
  simp only [constrLineBytes, constrBody, List.all_append, Bool.and_eq_true] at h1 h2 ⊢
  exact ⟨⟨h1, by cases c.rel <;> rfl, h2⟩, rfl⟩

theorem spaceOut_constr (c : OpbConstr) (l : ConstrLay) (h : l.ok c = true) :
    spaceOut (constrBody c l) =
      (l.lead ++ termsBytes c.terms l.terms) ++ 32 :: (opBytes c.rel ++ 32 :: (l.ws1 ++ (intBytes l.rhs c.rhs ++ l.ws2))) := by
  have hline := constrLine_cbyte c l h
  rw [constrLineBytes, List.all_append, Bool.and_eq_true] at hline
  rw [spaceOut_not_min _ (head?_ne_of_all hline.1 rfl)]
  have h1 := constr_pre_plain c l h
  have h2 := constr_post_plain c l h
  unfold constrBody
  cases c.rel with
  | ge =>
    simp only [opBytes, List.cons_append, List.nil_append]
    rw [replaceGe_found _ _ (all_ne_of_all h1 rfl)]
  | eq =>
    simp only [opBytes, List.cons_append, List.nil_append]
    have hn : ((l.lead ++ termsBytes c.terms l.terms) ++ 61 :: (l.ws1 ++ (intBytes l.rhs c.rhs ++ l.ws2))).all (· != 62) = true := by
      rw [List.all_append, all_ne_of_all h1 rfl, List.all_cons, all_ne_of_all h2 rfl]; rfl
    rw [replaceGe_none _ hn]
    exact replaceEq_found _ _ (all_ne_of_all h1 rfl)

theorem fieldsAux_space_cons {b : Nat} (rest : List Nat) (h : asciiSpace b = true) :
    fieldsAux 0 [] (b :: rest) = fieldsAux 0 [] rest := fieldsAux_space [] rest h

theorem opBytes_field (r : Rel) : IsField (opBytes r) := by
  cases r <;> exact ⟨List.cons_ne_nil _ _, rfl⟩

theorem fields_constr (c : OpbConstr) (l : ConstrLay) (h : l.ok c = true) :
    fieldsOf (spaceOut (constrBody c l)) =
      termsFields c.terms l.terms ++ [opBytes c.rel, intBytes l.rhs c.rhs] := by
  rw [spaceOut_constr c l h]
  simp only [ConstrLay.ok, Bool.and_eq_true] at h
  obtain ⟨⟨⟨hl, ht⟩, hw1⟩, hw2⟩ := h
  unfold fieldsOf fields
  rw [List.append_assoc, fieldsAux_spaces _ _ (blanks_spaces hl),
    fields_terms _ _ _ ht (.inr ⟨32, _, rfl, rfl⟩), fieldsAux_space_cons _ rfl,
    fieldsAux_field _ (opBytes_field c.rel) (.inr ⟨32, _, rfl, rfl⟩), fieldsAux_space_cons _ rfl,
    fieldsAux_spaces _ _ (blanks_spaces hw1),
    fieldsAux_field _ (intBytes_field _ _) (endsField_spaces (blanks_spaces hw2)),
    fieldsAux_only_spaces (blanks_spaces hw2)]

theorem opbLineToks_body (body : List Nat) (fs : List (List Nat))
    (h1 : (body ++ [59]).head? ≠ some 42) (hf : fieldsOf (spaceOut body) = fs)
    (h2 : ∀ f, fs.head? = some f → f.head? ≠ some 42) :
    opbLineToks (body ++ [59]) = fs.map opbTok ++ [Tok.word ";"] := by
  have e1 : (body ++ [59]).isEmpty = false := by simp
  have e2 : startsWith 42 (body ++ [59]) = false := by
    simp only [startsWith, beq_eq_false_iff_ne]; exact h1
  have e3 : ((fs.head?.map (startsWith 42)).getD false) = false := by
    cases hfs : fs.head? with
    | none => rfl
    | some f =>
      simp only [Option.map_some, Option.getD_some, startsWith, beq_eq_false_iff_ne]
      exact h2 f hfs
  unfold opbLineToks
  simp only [e1, e2, Bool.or_self, Bool.false_eq_true, if_false, List.getLast?_append, List.getLast?_singleton,
    Option.some_or, bne_self_eq_false, List.dropLast_concat, hf, e3]

theorem opbTok_op (r : Rel) : opbTok (opBytes r) = relTok r := by
  cases r <;> decide

theorem opbLineToks_constr (c : OpbConstr) (l : ConstrLay) (h : l.ok c = true)
    (hr : termsInRange c.terms) (hrhs : c.rhs.natAbs < 9223372036854775808) :
    opbLineToks (constrLineBytes c l) = c.renderLine (l.terms.map (·.om)) := by
  have hhead := head?_ne_of_all (constrLine_cbyte c l h) (k := 42) rfl
  unfold constrLineBytes at hhead ⊢
  rw [opbLineToks_body _ _ hhead (fields_constr c l h)]
  · simp only [List.map_append, List.map_cons, List.map_nil, toks_terms _ _ hr, opbTok_op, opbTok_intBytes _ _ hrhs,
      OpbConstr.renderLine, List.append_assoc, List.cons_append, List.nil_append]
  · intro f hf
    have hm := List.mem_of_head? hf
    simp only [List.mem_append, List.mem_cons, List.not_mem_nil, or_false] at hm
    rcases hm with hm | rfl | rfl
    · exact head?_ne_of_all (termsFields_plain _ _ f hm) rfl
    · cases c.rel <;> decide
    · exact head?_ne_of_all (intBytes_plain _ _) rfl

/-- The free choices for the objective line: blanks after `min:` (may be missing), the terms
    (the blanks after the last variable may be missing: `x1;`). -/
structure ObjLay where
  ws0 : List Nat := [32]
  terms : List TermLay := []
  cr : Bool := false
deriving Repr, Inhabited

def ObjLay.ok (ts : List (Int × Int)) (l : ObjLay) : Bool := l.ws0.all blank && termsOk ts l.terms

def objBody (ts : List (Int × Int)) (l : ObjLay) : List Nat :=
  109 :: 105 :: 110 :: 58 :: (l.ws0 ++ termsBytes ts l.terms)

def objLineBytes (ts : List (Int × Int)) (l : ObjLay) : List Nat := objBody ts l ++ [59]

theorem objLine_lbyte (ts : List (Int × Int)) (l : ObjLay) (h : l.ok ts = true) :
    (objLineBytes ts l).all lbyte = true := by
  simp only [ObjLay.ok, Bool.and_eq_true] at h
  rw [objLineBytes, objBody, List.all_append]
  simp only [List.all_cons, List.all_append, all_mono (fun _ => lbyte_of_blank) h.1,
    all_mono (fun _ => lbyte_of_plain) (termsBytes_plain _ _ h.2)]
  rfl

theorem opbLineToks_obj (ts : List (Int × Int)) (l : ObjLay) (h : l.ok ts = true) (hr : termsInRange ts) :
    opbLineToks (objLineBytes ts l) = renderObjective ts (l.terms.map (·.om)) := by
  unfold objLineBytes
  have hf : fieldsOf (spaceOut (objBody ts l)) = [109, 105, 110, 58] :: termsFields ts l.terms := by
    simp only [ObjLay.ok, Bool.and_eq_true] at h
    have e : spaceOut (objBody ts l) = [109, 105, 110, 58] ++ 32 :: (l.ws0 ++ termsBytes ts l.terms) := rfl
    have := fields_terms ts l.terms [] h.2 (.inl rfl)
    rw [List.append_nil] at this
    unfold fieldsOf fields
    rw [e, fieldsAux_field _ ⟨List.cons_ne_nil _ _, rfl⟩ (.inr ⟨32, _, rfl, rfl⟩), fieldsAux_space_cons _ rfl,
      fieldsAux_spaces _ _ (blanks_spaces h.1), this]
    exact congrArg _ (List.append_nil _)
  rw [opbLineToks_body _ _ (by simp [objBody]) hf]
  · simp only [List.map_cons, toks_terms _ _ hr, renderObjective]
    rfl
  · intro f hf'
    simp only [List.head?_cons, Option.some.injEq] at hf'
    subst hf'; decide

theorem opbLineToks_empty : opbLineToks [] = [] := rfl

theorem opbLineToks_comment (junk : List Nat) : opbLineToks (42 :: junk) = [] := by
  simp [opbLineToks, startsWith]

/-- A line a reader skips: an empty line, or a comment character followed by any bytes: `*` for
    `ParseOPB` (`Skip.line`), `c` for `ParseWCNF` (`skipLineC`). -/
inductive Skip where
  | blank (cr : Bool)
  | comment (junk : List Nat) (cr : Bool)
deriving Repr, Inhabited

def Skip.line : Skip → TLine
  | .blank cr => ⟨[], cr⟩
  | .comment junk cr => ⟨42 :: junk, cr⟩

def Skip.ok : Skip → Bool
  | .blank _ => true
  | .comment junk _ => junk.all (· != 10) && junk.getLast? != some 13

structure OpbByteLayout where
  objSkips : List Skip := []
  obj : ObjLay := {}
  constrs : List (List Skip × ConstrLay) := []
  trailing : List Skip := []
  finalNewline : Bool := true
deriving Repr, Inhabited

def objTLines (obj : Option (List (Int × Int))) (lay : OpbByteLayout) : List TLine :=
  lay.objSkips.map Skip.line ++
    (match obj with
     | none => []
     | some ts => [⟨objLineBytes ts lay.obj, lay.obj.cr⟩])

def constrTLines : List OpbConstr → List (List Skip × ConstrLay) → List TLine
  | [], _ => []
  | c :: cs, ls =>
    (ls.headD ([], {})).1.map Skip.line ++
      ⟨constrLineBytes c (ls.headD ([], {})).2, (ls.headD ([], {})).2.cr⟩ :: constrTLines cs ls.tail

def opbTLines (o : Opb) (lay : OpbByteLayout) : List TLine :=
  objTLines o.objective lay ++ (constrTLines o.constrs lay.constrs ++ lay.trailing.map Skip.line)

def renderOpbBytes (o : Opb) (lay : OpbByteLayout) : List Nat := textBytes (opbTLines o lay) lay.finalNewline

def constrsOk : List OpbConstr → List (List Skip × ConstrLay) → Bool
  | [], _ => true
  | c :: cs, ls => (ls.headD ([], {})).1.all Skip.ok && (ls.headD ([], {})).2.ok c && constrsOk cs ls.tail

def OpbByteLayout.ok (o : Opb) (lay : OpbByteLayout) : Bool :=
  lay.objSkips.all Skip.ok &&
    (match o.objective with
     | none => true
     | some ts => lay.obj.ok ts) && constrsOk o.constrs lay.constrs && lay.trailing.all Skip.ok

/-- The token-level layout a byte-level layout amounts to: skipped lines reach the token level
    as empty lines. -/
def OpbByteLayout.toTok (lay : OpbByteLayout) : OpbLayout :=
  { objective := ⟨lay.objSkips.map (fun _ => none), lay.obj.terms.map (·.om)⟩,
    constrs := lay.constrs.map (fun p => ⟨p.1.map (fun _ => none), p.2.terms.map (·.om)⟩),
    trailing := lay.trailing.map (fun _ => none) }

def OpbInRange (o : Opb) : Prop :=
  (∀ ts, o.objective = some ts → termsInRange ts) ∧
    ∀ c ∈ o.constrs, termsInRange c.terms ∧ c.rhs.natAbs < 9223372036854775808

theorem opb_skips (ss : List Skip) (h : ss.all Skip.ok = true) :
    Reads opbLineToks (ss.map Skip.line) ((ss.map fun _ => none).map skipLine) :=
  .skips _ _ ss fun s hs => by
    have hs := List.all_eq_true.mp h s hs
    cases s with
    | blank cr => exact ⟨rfl, rfl⟩
    | comment junk cr => exact ⟨bodyOk_cons (by decide) (by decide) hs, opbLineToks_comment junk⟩

theorem constr_reads : ∀ (cs : List OpbConstr) (ls : List (List Skip × ConstrLay)), constrsOk cs ls = true →
    (∀ c ∈ cs, termsInRange c.terms ∧ c.rhs.natAbs < 9223372036854775808) →
    Reads opbLineToks (constrTLines cs ls)
      (renderConstrs cs (ls.map (fun p => ⟨p.1.map (fun _ => none), p.2.terms.map (·.om)⟩))) := by
  intro cs
  induction cs with
  | nil => intro _ _ _; exact ⟨rfl, rfl⟩
  | cons c cs ih =>
    intro ls hok hr
    simp only [constrsOk, Bool.and_eq_true] at hok
    have hc := hr c List.mem_cons_self
    have e1 : (ls.map (fun p : List Skip × ConstrLay =>
          (⟨p.1.map (fun _ => none), p.2.terms.map (·.om)⟩ : OpbLineLayout))).headD {} =
        ⟨(ls.headD ([], {})).1.map (fun _ => none), (ls.headD ([], {})).2.terms.map (·.om)⟩ := by
      cases ls <;> rfl
    simp only [constrTLines, renderConstrs, e1, ← List.map_tail]
    exact (opb_skips _ hok.1.1).append (.cons (bodyOk_of_all (constrLine_cbyte c _ hok.1.2) rfl rfl)
      (opbLineToks_constr c _ hok.1.2 hc.1 hc.2)
      (ih ls.tail hok.2 fun c' h' => hr c' (List.mem_cons_of_mem _ h')))

theorem opb_reads (o : Opb) (lay : OpbByteLayout) (hok : lay.ok o = true) (hr : OpbInRange o) :
    Reads opbLineToks (opbTLines o lay) (o.renderLines lay.toTok) := by
  simp only [OpbByteLayout.ok, Bool.and_eq_true] at hok
  obtain ⟨⟨⟨hs, hobj⟩, hcs⟩, htr⟩ := hok
  refine ((opb_skips _ hs).append ?_).append ((constr_reads _ _ hcs hr.2).append (opb_skips _ htr))
  cases ho : o.objective with
  | none => exact ⟨rfl, rfl⟩
  | some ts =>
    rw [ho] at hobj
    exact .cons (bodyOk_of_all (objLine_lbyte ts _ hobj) rfl rfl) (opbLineToks_obj ts lay.obj hobj (hr.1 ts ho))
      ⟨rfl, rfl⟩

/-- `Fits (opbTLines o lay) lay.finalNewline`. -/
def OpbFits (o : Opb) (lay : OpbByteLayout) : Prop :=
  (∀ l ∈ opbTLines o lay, l.raw.length < maxLine) ∧
    (lay.finalNewline || ((opbTLines o lay).getLast?.map (fun l => !l.raw.isEmpty)).getD true) = true

theorem opbTokens_render (o : Opb) (lay : OpbByteLayout) (hok : lay.ok o = true) (hr : OpbInRange o)
    (hfit : OpbFits o lay) : opbTokens (renderOpbBytes o lay) = o.renderLines lay.toTok :=
  (opb_reads o lay hok hr).tokens hfit

/-- **C13, OPB, at byte level.** `solver.ParseOPB` never fails (error or panic) on the bytes of a
    well-formed OPB file whose numbers fit 64 bits and whose lines fit the scanner's buffer,
    whatever the byte layout (blanks and tabs, `\r\n`, final newline or not, comment and empty
    lines, optional `+` and leading zeros, unit coefficients left out, `>=`, `=`, `min:` and `;`
    glued to their neighbours); conclusions as in `GS.Formats.parseOpb_render`. -/
theorem parseOpbBytes_render (o : Opb) (lay : OpbByteLayout) (hwf : o.wf = true) (hok : lay.ok o = true)
    (hr : OpbInRange o) (hfit : OpbFits o lay) :
    ∃ r, parseOpbBytes (renderOpbBytes o lay) = .ok r ∧
      r.obj = o.objective ∧ r.constrs = o.constrs.flatMap pbcsOf ∧
      (∀ c ∈ r.constrs, c.normal = true) ∧
      (∀ a, r.constrs.all (·.sem a) = o.sem a) ∧
      (∀ a, r.frontSem a = o.sem a) ∧
      (∀ a, cost (r.obj.getD []) a = o.cost a) := by
  unfold parseOpbBytes
  rw [opbTokens_render o lay hok hr hfit]
  exact parseOpb_render o lay.toTok hwf

/-- How a field is written (integers only) and the blanks after it. -/
structure FieldLay where
  num : IntLay := {}
  sep : List Nat := [32]
deriving Repr, Inhabited

def tokBytes (t : Tok) (l : IntLay) : List Nat :=
  match t with
  | .int i => intBytes l i
  | .word s => s.toList.map Char.toNat

/-- An integer within the 64-bit range; a word made of ASCII bytes other than white space,
    not empty, that `strconv.Atoi` rejects. -/
def tokOk : Tok → Bool
  | .int i => decide (i.natAbs < 9223372036854775808)
  | .word s =>
    !s.toList.isEmpty && (s.toList.map Char.toNat).all isWord && (CnfBytes.atoi (s.toList.map Char.toNat)).isNone

def toksBytes : Line → List FieldLay → List Nat
  | [], _ => []
  | t :: ts, ls => (tokBytes t (ls.headD {}).num ++ (ls.headD {}).sep) ++ toksBytes ts ls.tail

def toksLayOk : Line → List FieldLay → Bool
  | [], _ => true
  | _ :: ts, ls => (ls.headD {}).sep.all blank && (ts.isEmpty || !(ls.headD {}).sep.isEmpty) && toksLayOk ts ls.tail

theorem toksLayOk_cons {t : Tok} {ts : Line} {ls : List FieldLay} (h : toksLayOk (t :: ts) ls = true) :
    (ls.headD {}).sep.all blank = true ∧ (ts = [] ∨ (ls.headD {}).sep ≠ []) ∧ toksLayOk ts ls.tail = true := by
  simpa only [toksLayOk, Bool.and_eq_true, Bool.or_eq_true, Bool.not_eq_true', List.isEmpty_iff,
    List.isEmpty_eq_false_iff, and_assoc] using h

theorem tokBytes_field (t : Tok) (l : IntLay) (h : tokOk t = true) : IsField (tokBytes t l) := by
  cases t with
  | int i => exact intBytes_field l i
  | word s =>
    simp only [tokOk, Bool.and_eq_true, Bool.not_eq_true', List.isEmpty_eq_false_iff] at h
    exact ⟨fun e => h.1.1 (List.map_eq_nil_iff.mp e), h.1.2⟩

theorem tokOf_tokBytes (t : Tok) (l : IntLay) (h : tokOk t = true) : tokOf (tokBytes t l) = t := by
  cases t with
  | int i =>
    simp only [tokOk, decide_eq_true_eq] at h
    simp only [tokOf, tokBytes, atoi_intBytes l i h]
  | word s =>
    simp only [tokOk, Bool.and_eq_true, Option.isNone_iff_eq_none] at h
    simp only [tokOf, tokBytes, h.2, wordOf, map_ofNat_toNat, String.ofList_toList]

theorem fields_toks : ∀ (ts : Line) (ls : List FieldLay) (rest : List Nat),
    ts.all tokOk = true → toksLayOk ts ls = true → EndsField rest →
    (fieldsAux 0 [] (toksBytes ts ls ++ rest)).map tokOf = ts ++ (fieldsAux 0 [] rest).map tokOf := by
  intro ts
  induction ts with
  | nil => intro _ _ _ _ _; rfl
  | cons t ts ih =>
    intro ls rest hts hok hr
    rw [List.all_cons, Bool.and_eq_true] at hts
    obtain ⟨h2, h3, h4⟩ := toksLayOk_cons hok
    have hnext : (ls.headD {}).sep ≠ [] ∨ EndsField (toksBytes ts ls.tail ++ rest) :=
      h3.elim (fun e => .inr (by rw [e]; exact hr)) .inl
    rw [toksBytes, List.append_assoc, List.append_assoc,
      fieldsAux_sep _ (tokBytes_field t _ hts.1) (blanks_spaces h2) hnext, List.map_cons,
      ih ls.tail rest hts.2 h4 hr, tokOf_tokBytes _ _ hts.1]
    rfl

theorem lineToks_render (lead : List Nat) (ts : Line) (ls : List FieldLay) (hl : lead.all blank = true)
    (hts : ts.all tokOk = true) (hok : toksLayOk ts ls = true) :
    (fieldsOf (lead ++ toksBytes ts ls)).map tokOf = ts := by
  have := fields_toks ts ls [] hts hok (.inl rfl)
  rw [List.append_nil] at this
  unfold fieldsOf fields
  rw [fieldsAux_spaces _ _ (blanks_spaces hl), this]
  exact List.append_nil ts

theorem toksBytes_all {P : Nat → Bool} (hb : ∀ b, blank b = true → P b = true) :
    ∀ (ts : Line) (ls : List FieldLay), (∀ t ∈ ts, ∀ l, (tokBytes t l).all P = true) → toksLayOk ts ls = true →
    (toksBytes ts ls).all P = true
  | [], _, _, _ => rfl
  | t :: ts, ls, ht, hok => by
    obtain ⟨h2, _, h4⟩ := toksLayOk_cons hok
    rw [toksBytes, List.all_append, List.all_append, ht t List.mem_cons_self, all_mono hb h2,
      toksBytes_all hb ts ls.tail (fun t' h' => ht t' (List.mem_cons_of_mem _ h')) h4]
    rfl

theorem line_bodyOk (lead : List Nat) (ts : Line) (ls : List FieldLay) (hl : lead.all blank = true)
    (hts : ts.all tokOk = true) (hok : toksLayOk ts ls = true) : bodyOk (lead ++ toksBytes ts ls) = true := by
  refine bodyOk_of_all (P := lbyte) ?_ rfl rfl
  rw [List.all_append, all_mono (fun _ => lbyte_of_blank) hl, toksBytes_all (fun _ => lbyte_of_blank) ts ls
    (fun t ht l => all_mono (fun _ => lbyte_of_word) (tokBytes_field t l (List.all_eq_true.mp hts t ht)).2) hok]
  rfl

/-- The free choices for one line: blanks in front, how each field is written and the blanks after
    it (after the last field they may be missing), `\r\n` or `\n`. -/
structure LineDecor where
  lead : List Nat := []
  fields : List FieldLay := []
  cr : Bool := false
deriving Repr, Inhabited

def lineTL (ts : Line) (d : LineDecor) : TLine := ⟨d.lead ++ toksBytes ts d.fields, d.cr⟩

def linesTL : List Line → List LineDecor → List TLine
  | [], _ => []
  | l :: ls, ds => lineTL l (ds.headD {}) :: linesTL ls ds.tail

def decorOk : List Line → List LineDecor → Bool
  | [], _ => true
  | l :: ls, ds => (ds.headD {}).lead.all blank && toksLayOk l (ds.headD {}).fields && decorOk ls ds.tail

def renderLinesBytes (L : List Line) (ds : List LineDecor) (fin : Bool) : List Nat := textBytes (linesTL L ds) fin

/-- `Fits (linesTL L ds) fin`. -/
def LinesFit (L : List Line) (ds : List LineDecor) (fin : Bool) : Prop :=
  (∀ l ∈ linesTL L ds, l.raw.length < maxLine) ∧
    (fin || ((linesTL L ds).getLast?.map (fun l => !l.raw.isEmpty)).getD true) = true

theorem lines_reads : ∀ (L : List Line) (ds : List LineDecor), L.all (·.all tokOk) = true → decorOk L ds = true →
    Reads explainLineToks (linesTL L ds) L
  | [], _, _, _ => ⟨rfl, rfl⟩
  | x :: L, ds, hts, hok => by
    rw [List.all_cons, Bool.and_eq_true] at hts
    simp only [decorOk, Bool.and_eq_true] at hok
    exact .cons (line_bodyOk _ _ _ hok.1.1 hts.1 hok.1.2) (lineToks_render _ _ _ hok.1.1 hts.1 hok.1.2)
      (lines_reads L ds.tail hts.2 hok.2)

theorem explainTokens_render (L : List Line) (ds : List LineDecor) (fin : Bool) (hts : L.all (·.all tokOk) = true)
    (hok : decorOk L ds = true) (hfit : LinesFit L ds fin) :
    explainTokens (renderLinesBytes L ds fin) = L :=
  (lines_reads L ds hts hok).tokens hfit

/-- **C13, `explain.ParseCNF`, at byte level.** On the bytes of a rendered DIMACS file (token-level
    layout `lay`: comments, clauses over several lines, several clauses per line; byte-level layout
    `ds`, `fin`: blanks and tabs, `\r\n`, optional `+` and leading zeros, final newline or not)
    whose numbers fit 64 bits, whose comment words are ASCII and whose lines fit the scanner's
    buffer, the parser returns exactly the clauses of the file (as `explainParse_render`). -/
theorem explainParseBytes_render (d : Dimacs) (lay : CnfLayout) (ds : List LineDecor) (fin : Bool)
    (hcl : ∀ c ∈ d.clauses, exClauseOk d.nbVars c)
    (hts : (d.renderLines lay).all (·.all tokOk) = true) (hok : decorOk (d.renderLines lay) ds = true)
    (hfit : LinesFit (d.renderLines lay) ds fin) :
    explainParseBytes (renderLinesBytes (d.renderLines lay) ds fin) =
      .ok (d.nbVars, GS.Explain.mkPb d.nbVars d.clauses) := by
  unfold explainParseBytes
  rw [explainTokens_render _ ds fin hts hok hfit]
  exact explainParse_render d lay hcl

/-- `Skip.line` with the comment character of `ParseWCNF`. The empty line has no blank in it: a line
    of blanks makes `ParseWCNF` panic. -/
def skipLineC : Skip → TLine
  | .blank cr => ⟨[], cr⟩
  | .comment junk cr => ⟨99 :: junk, cr⟩

/-- The header line starts with `p` (its `lead` is not used: `ParseWCNF` looks at the first byte
    of the line); clause lines may start with blanks. -/
structure WcnfByteLayout where
  before : List Skip := []
  header : LineDecor := {}
  clauses : List (List Skip × LineDecor) := []
  finalNewline : Bool := true
deriving Repr, Inhabited

def wcnfClauseTLines : List (Int × List Int) → List (List Skip × LineDecor) → List TLine
  | [], _ => []
  | wc :: rest, ls =>
    (ls.headD ([], {})).1.map skipLineC ++
      lineTL (wcnfClauseLine wc) (ls.headD ([], {})).2 :: wcnfClauseTLines rest ls.tail

def wcnfTLines (w : Wcnf) (lay : WcnfByteLayout) : List TLine :=
  lay.before.map skipLineC ++
    ⟨toksBytes (wcnfHeaderLine w) lay.header.fields, lay.header.cr⟩ :: wcnfClauseTLines w.clauses lay.clauses

def renderWcnfBytes (w : Wcnf) (lay : WcnfByteLayout) : List Nat := textBytes (wcnfTLines w lay) lay.finalNewline

def wcnfClausesOk : List (Int × List Int) → List (List Skip × LineDecor) → Bool
  | [], _ => true
  | wc :: rest, ls =>
    (ls.headD ([], {})).1.all Skip.ok && (ls.headD ([], {})).2.lead.all blank &&
      toksLayOk (wcnfClauseLine wc) (ls.headD ([], {})).2.fields && wcnfClausesOk rest ls.tail

def WcnfByteLayout.ok (w : Wcnf) (lay : WcnfByteLayout) : Bool :=
  lay.before.all Skip.ok && toksLayOk (wcnfHeaderLine w) lay.header.fields && wcnfClausesOk w.clauses lay.clauses

/-- All numbers of the file fit a 64-bit `int`. -/
def wcnfInRange (w : Wcnf) : Bool :=
  (wcnfHeaderLine w).all tokOk && w.clauses.all (fun wc => (wcnfClauseLine wc).all tokOk)

theorem wcnfLineToks_header (w : Wcnf) (fl : List FieldLay) (hts : (wcnfHeaderLine w).all tokOk = true)
    (hok : toksLayOk (wcnfHeaderLine w) fl = true) :
    wcnfLineToks (toksBytes (wcnfHeaderLine w) fl) = wcnfHeaderLine w := by
  have h := lineToks_render [] (wcnfHeaderLine w) fl rfl hts hok
  rw [List.nil_append] at h
  have hp : toksBytes (wcnfHeaderLine w) fl = 112 :: ((fl.headD {}).sep ++ toksBytes (wcnfHeaderLine w).tail fl.tail) := by
    simp only [wcnfHeaderLine, toksBytes, List.cons_append, List.tail_cons]
    rfl
  unfold wcnfLineToks
  rw [h, hp]
  simp [startsWith]

theorem wcnfLineToks_ints {line : List Nat} {i : Int} {ts : Line} (hp : line.all plain = true)
    (h : (fieldsOf line).map tokOf = Tok.int i :: ts) : wcnfLineToks line = Tok.int i :: ts := by
  have hne : line.isEmpty = false := by
    cases line with
    | nil => cases h
    | cons _ _ => rfl
  have e99 : startsWith 99 line = false := beq_eq_false_iff_ne.mpr (head?_ne_of_all hp rfl)
  have e112 : startsWith 112 line = false := beq_eq_false_iff_ne.mpr (head?_ne_of_all hp rfl)
  simp only [wcnfLineToks, hne, e99, e112, Bool.or_self, Bool.false_eq_true, if_false, h]

theorem wcnfLineToks_clause (wc : Int × List Int) (d : LineDecor) (hl : d.lead.all blank = true)
    (hts : (wcnfClauseLine wc).all tokOk = true) (hok : toksLayOk (wcnfClauseLine wc) d.fields = true) :
    wcnfLineToks (lineTL (wcnfClauseLine wc) d).body = wcnfClauseLine wc := by
  refine wcnfLineToks_ints ?_ (lineToks_render d.lead (wcnfClauseLine wc) d.fields hl hts hok)
  rw [lineTL, List.all_append, all_mono (fun _ => plain_of_blank) hl,
    toksBytes_all (fun _ => plain_of_blank) _ _ (fun t ht l => ?_) hok]
  · rfl
  · obtain ⟨i, _, rfl⟩ := List.mem_map.mp ht
    exact intBytes_plain l i

theorem wcnf_skips (ss : List Skip) (h : ss.all Skip.ok = true) :
    Reads wcnfLineToks (ss.map skipLineC) ((ss.map fun _ => none).map wcnfSkipLine) :=
  .skips _ _ ss fun s hs => by
    have hs := List.all_eq_true.mp h s hs
    cases s with
    | blank cr => exact ⟨rfl, rfl⟩
    | comment junk cr =>
      exact ⟨bodyOk_cons (by decide) (by decide) hs, by simp [skipLineC, wcnfLineToks, startsWith, wcnfSkipLine]⟩

theorem wcnfClause_reads : ∀ (cls : List (Int × List Int)) (ls : List (List Skip × LineDecor)),
    wcnfClausesOk cls ls = true → cls.all (fun wc => (wcnfClauseLine wc).all tokOk) = true →
    Reads wcnfLineToks (wcnfClauseTLines cls ls) (wcnfRenderClauses cls (ls.map (fun p => p.1.map (fun _ => none)))) := by
  intro cls
  induction cls with
  | nil => intro _ _ _; exact ⟨rfl, rfl⟩
  | cons wc rest ih =>
    intro ls hok hr
    simp only [wcnfClausesOk, Bool.and_eq_true] at hok
    rw [List.all_cons, Bool.and_eq_true] at hr
    have e1 : (ls.map (fun p : List Skip × LineDecor => p.1.map (fun _ => (none : Option (List Tok))))).headD [] =
        (ls.headD ([], {})).1.map (fun _ => none) := by cases ls <;> rfl
    simp only [wcnfClauseTLines, wcnfRenderClauses, e1, ← List.map_tail]
    exact (wcnf_skips _ hok.1.1.1).append (.cons (line_bodyOk _ _ _ hok.1.1.2 hr.1 hok.1.2)
      (wcnfLineToks_clause wc _ hok.1.1.2 hr.1 hok.1.2) (ih ls.tail hok.2 hr.2))

theorem wcnf_reads (w : Wcnf) (lay : WcnfByteLayout) (hok : lay.ok w = true) (hr : wcnfInRange w = true) :
    Reads wcnfLineToks (wcnfTLines w lay)
      (wcnfRenderLines w (lay.before.map (fun _ => none)) (lay.clauses.map (fun p => p.1.map (fun _ => none)))) := by
  simp only [WcnfByteLayout.ok, Bool.and_eq_true] at hok
  simp only [wcnfInRange, Bool.and_eq_true] at hr
  exact (wcnf_skips _ hok.1.1).append (.cons (line_bodyOk [] _ _ rfl hr.1 hok.1.2)
    (wcnfLineToks_header w _ hr.1 hok.1.2) (wcnfClause_reads _ _ hok.2 hr.2))

/-- `Fits (wcnfTLines w lay) lay.finalNewline`. -/
def WcnfFits (w : Wcnf) (lay : WcnfByteLayout) : Prop :=
  (∀ l ∈ wcnfTLines w lay, l.raw.length < maxLine) ∧
    (lay.finalNewline || ((wcnfTLines w lay).getLast?.map (fun l => !l.raw.isEmpty)).getD true) = true

theorem wcnfTokens_render (w : Wcnf) (lay : WcnfByteLayout) (hok : lay.ok w = true) (hr : wcnfInRange w = true)
    (hfit : WcnfFits w lay) :
    wcnfTokens (renderWcnfBytes w lay) =
      wcnfRenderLines w (lay.before.map (fun _ => none)) (lay.clauses.map (fun p => p.1.map (fun _ => none))) :=
  (wcnf_reads w lay hok hr).tokens hfit

/-- **C13, WCNF, at byte level.** On the bytes of a rendered WCNF file (blanks and tabs, `\r\n`,
    final newline or not, empty and `c` lines before the header and between the clauses, optional
    `+` and leading zeros, blanks in front of clause lines) whose numbers fit 64 bits and whose lines
    fit the scanner's buffer, `maxsat.ParseWCNF` hands to the optimiser exactly `wcnfEncode` of the
    instance (as `parseWcnf_render`). -/
theorem parseWcnfBytes_render (w : Wcnf) (lay : WcnfByteLayout) (hok : lay.ok w = true) (hr : wcnfInRange w = true)
    (hfit : WcnfFits w lay) :
    parseWcnfBytes (renderWcnfBytes w lay) = .ok (GS.MaxSatEnc.wcnfEncode w.nbVars w.topVal w.clauses) := by
  unfold parseWcnfBytes
  rw [wcnfTokens_render w lay hok hr hfit]
  exact parseWcnf_render w _ _

/-- An instance of `ok_or_error`, as are the two statements after it: they record only that
    the mirrors are Lean functions (structural recursions on the bytes and on the token lines). That
    each reader always returns, with a value, an error or a panic (`Except.error "panic: …"`), rests
    on the mirrors following the Go code. What can panic in `ParseOPB`: `line[0]` (guarded by
    `line == ""`), `line[len(line)-1]` (same), `fields[0]` (guarded by `len(fields) == 0`),
    `fields[len-2]` (guarded by `len < 3`), `l[0]`, `l[1:]`, `l[2:]` (guarded by the prefix tests;
    `l[2:]` only when `l[0] == '~'` and the prefix is `~x`) — and `terms[i]` after `i++` (a
    coefficient as last field) and `terms[i*2]` in the error message: these two **do** panic
    (`"1 x1 1 >= 1;"`, `"1 x1 m >= 1;"`), as the token level says. -/
theorem parseOpbBytes_total (bs : List Nat) :
    (∃ r, parseOpbBytes bs = .ok r) ∨ (∃ e, parseOpbBytes bs = .error e) :=
  ok_or_error _

/-- What can panic in `ParseWCNF`: `line[0]` (guarded), `fields[1..4]` (guarded by `len(fields) < 4`,
    `== 5`), and `make([]int, len(fields)-1)` / `lits[len(lits)-1]`, which **do** panic on a line of
    blanks and on a line with one field; `make(…, nbClauses)` for a negative count; the `make` after
    the loop when there was no header. -/
theorem parseWcnfBytes_total (bs : List Nat) :
    (∃ r, parseWcnfBytes bs = .ok r) ∨ (∃ e, parseWcnfBytes bs = .error e) :=
  ok_or_error _

/-- What can panic in `explain.ParseCNF`: `fields[0]` (guarded), `fields[2]`, `fields[3]` (guarded by
    `len(fields) != 4`), `pb.units[v-1]` (guarded by `v > pb.NbVars`, except for `v = -2^63`, see
    `explainGuard`). -/
theorem explainParseBytes_total (bs : List Nat) :
    (∃ r, explainParseBytes bs = .ok r) ∨ (∃ e, explainParseBytes bs = .error e) :=
  ok_or_error _

theorem opbLines_errLine : ∀ (ls : List Line) (st : OpbState), ∃ e, opbLines st (ls ++ [errLine]) = .error e := by
  intro ls
  induction ls with
  | nil => intro st; exact ⟨_, by simp [opbLines, opbLine, errLine, isStarLine, firstChar]; rfl⟩
  | cons l ls ih =>
    intro st
    simp only [List.cons_append, opbLines]
    cases opbLine st l with
    | error e => exact ⟨e, rfl⟩
    | ok st' => exact ih st'

/-- **A line that does not fit the buffer is an error for `ParseOPB`** (unless an earlier line
    already was). -/
theorem parseOpbBytes_long (ls : List TLine) (long rest : List Nat) (h : textOk ls true = true)
    (hl : long.all (· != 10) = true) (hlen : maxLine ≤ long.length) :
    ∃ e, parseOpbBytes (textBytes ls true ++ (long ++ 10 :: rest)) = .error e := by
  unfold parseOpbBytes parseOpbLines
  rw [show opbTokens _ = _ from tokens_long opbLineToks ls long rest h hl hlen]
  exact opbLines_errLine _ _

/-- After a line that does not fit the buffer `ParseWCNF` sees `scanner.Err() != nil`: the token level
    gets `errLine` after the lines read so far, as for `ParseOPB`. /repo/maxsat/parser.go tests
    `scanner.Err()` and sets the limit to 2^30 bytes since commit 57a53db; with the default 64 KiB and
    no test, a long comment line turned an unsatisfiable instance into a satisfiable one. -/
theorem wcnfTokens_long (ls : List TLine) (long rest : List Nat) (h : textOk ls true = true)
    (hl : long.all (· != 10) = true) (hlen : maxLine ≤ long.length) :
    wcnfTokens (textBytes ls true ++ (long ++ 10 :: rest)) = wcnfTokens (textBytes ls true) ++ [errLine] :=
  tokens_long wcnfLineToks ls long rest h hl hlen

/-! ## Non-vacuity -/

/-- `min: x1 + 2 ~x2`, `x1 - 2 x2 >= -1`, `x3 + ~x1 = 1`. -/
def exOpb : Opb := ⟨some [(1, 1), (2, -2)], [⟨[(1, 1), (-2, 2)], .ge, -1⟩, ⟨[(1, 3), (1, -1)], .eq, 1⟩]⟩

/-- CRLF, tabs, `min:` glued to `+1`, `;` glued, `>=` glued on both sides, a coefficient left out,
    a leading zero, a comment, an empty line, a leading blank, no final newline. -/
def exOpbLay : OpbByteLayout :=
  { objSkips := [.comment [32, 99] true],
    obj := { ws0 := [], terms := [⟨false, ⟨true, 0⟩, [32], [32, 9]⟩, ⟨false, {}, [9], []⟩], cr := true },
    constrs := [([.blank true], { lead := [32], terms := [⟨true, {}, [32], [9]⟩, ⟨false, {}, [32, 32], []⟩], ws1 := [],
                                  rhs := ⟨false, 1⟩, ws2 := [], cr := true }),
                ([], { terms := [⟨false, ⟨true, 1⟩, [32], [32]⟩, ⟨true, {}, [32], [32]⟩], ws1 := [9], ws2 := [32] })],
    finalNewline := false }

/-- `"* c\r\nmin:+1 x1 \t2\t~x2;\r\n\r\n x1\t-2  x2>=-01;\r\n+01 x3 ~x1 =\t1 ;"` -/
example : renderOpbBytes exOpb exOpbLay = [42, 32, 99, 13, 10, 109, 105, 110, 58, 43, 49, 32, 120, 49, 32, 9, 50, 9, 126, 120, 50, 59, 13, 10, 13, 10, 32, 120, 49, 9, 45, 50, 32, 32, 120, 50, 62, 61, 45, 48, 49, 59, 13, 10, 43, 48, 49, 32, 120, 51, 32, 126, 120, 49, 32, 61, 9, 49, 32, 59] := by decide +kernel
example : exOpbLay.ok exOpb = true := by decide
example : exOpb.wf = true := by decide
example : OpbInRange exOpb := by
  refine ⟨fun ts h => ?_, ?_⟩
  · cases h
    unfold termsInRange
    decide
  · unfold exOpb termsInRange
    decide
example : OpbFits exOpb exOpbLay := ⟨by decide +kernel, by decide +kernel⟩

def exWcnf : Wcnf := ⟨2, some 5, [(5, [1, 2]), (1, [-1])]⟩

/-- `"c x\r\np\twcnf 2  +2 05\r\n\r\n 5 1\t2 0 \r\n1 -1 0\r"` -/
def exWcnfLay : WcnfByteLayout :=
  { before := [.comment [32, 120] true],
    header := { fields := [⟨{}, [9]⟩, ⟨{}, [32]⟩, ⟨{}, [32, 32]⟩, ⟨⟨true, 0⟩, [32]⟩, ⟨⟨false, 1⟩, []⟩], cr := true },
    clauses := [([.blank true], { lead := [32], fields := [⟨{}, [32]⟩, ⟨{}, [9]⟩, ⟨{}, [32]⟩, ⟨{}, [32]⟩], cr := true }),
                ([], { fields := [⟨{}, [32]⟩, ⟨{}, [32]⟩, ⟨{}, []⟩], cr := true })],
    finalNewline := false }

example : renderWcnfBytes exWcnf exWcnfLay = [99, 32, 120, 13, 10, 112, 9, 119, 99, 110, 102, 32, 50, 32, 32, 43, 50, 32, 48, 53, 13, 10, 13, 10, 32, 53, 32, 49, 9, 50, 32, 48, 32, 13, 10, 49, 32, 45, 49, 32, 48, 13] := by decide +kernel
example : exWcnfLay.ok exWcnf = true := by decide
example : wcnfInRange exWcnf = true := by decide +kernel
example : WcnfFits exWcnf exWcnfLay := ⟨by decide +kernel, by decide +kernel⟩

def exDimacs : Dimacs := ⟨3, [[1, -2], [3]]⟩
def exCnfLay : CnfLayout := { beforeHeader := [[Tok.word "hello", Tok.int 7]], clauses := [{ cuts := [1], join := true }, {}] }
def exDecor : List LineDecor :=
  [{ fields := [⟨{}, [9]⟩, ⟨{}, [32]⟩, ⟨{}, []⟩], cr := true }, { lead := [32], fields := [⟨{}, [32]⟩, ⟨{}, [9]⟩, ⟨⟨true, 1⟩, [32]⟩, ⟨{}, [32, 9]⟩], cr := true },
   { fields := [⟨{}, []⟩] }, { fields := [⟨{}, [32]⟩, ⟨{}, [32]⟩, ⟨{}, [32]⟩, ⟨{}, []⟩], cr := true }]

/-- `"c\thello 7\r\n p cnf\t+03 2 \t\r\n1\n-2 0 3 0\r"` -/
example : renderLinesBytes (exDimacs.renderLines exCnfLay) exDecor false = [99, 9, 104, 101, 108, 108, 111, 32, 55, 13, 10, 32, 112, 32, 99, 110, 102, 9, 43, 48, 51, 32, 50, 32, 9, 13, 10, 49, 10, 45, 50, 32, 48, 32, 51, 32, 48, 13] := by decide +kernel
example : (exDimacs.renderLines exCnfLay).all (·.all tokOk) = true := by decide +kernel
example : decorOk (exDimacs.renderLines exCnfLay) exDecor = true := by decide
example : LinesFit (exDimacs.renderLines exCnfLay) exDecor false := ⟨by decide +kernel, by decide +kernel⟩
example : ∀ c ∈ exDimacs.clauses, exClauseOk exDimacs.nbVars c := by
  intro c hc; simp [exDimacs] at hc
  rcases hc with rfl | rfl
  · exact ⟨by decide, by intro l h; simp at h⟩
  · exact ⟨by decide, by intro l h; simp at h; subst h; decide⟩


/-! ## What is rejected (witnesses replayed on the Go code) -/

/-- `"p wcnf 1 1\n \n1 1 0\n"`: a line of blanks makes `ParseWCNF` panic. -/
example : parseWcnfBytes [112, 32, 119, 99, 110, 102, 32, 49, 32, 49, 10, 32, 10, 49, 32, 49, 32, 48, 10] = .error "panic: index out of range [-1]" := by rfl
/-- The empty file makes `ParseWCNF` panic. -/
example : parseWcnfBytes [] =
    .error "panic: makeslice: len out of range / length of lits and of weights don't match" := by rfl
/-- `" p wcnf 1 1\n1 1 0\n"`: a blank in front of the header is an error. -/
example : parseWcnfBytes [32, 112, 32, 119, 99, 110, 102, 32, 49, 32, 49, 10, 49, 32, 49, 32, 48, 10] = .error "Invalid integer in WCNF clause" := by rfl
/-- `"1 x1 >= 1 ; \n"`: a blank after the `;` is an error. -/
example : parseOpbBytes [49, 32, 120, 49, 32, 62, 61, 32, 49, 32, 59, 32, 10] = .error "line does not end with semicolon" := by rfl
/-- `" min:+1 x1 ;\n"`: a blank in front of a glued `min:` is an error. -/
example : parseOpbBytes [32, 109, 105, 110, 58, 43, 49, 32, 120, 49, 32, 59, 10] = .error "invalid syntax" := by rfl
/-- `"1 x1 1 >= 1;"`: a coefficient as last term makes `ParseOPB` panic. -/
example : parseOpbBytes [49, 32, 120, 49, 32, 49, 32, 62, 61, 32, 49, 59] = .error "panic: index out of range" := by rfl
/-- `x99999999999999999999` is passed on as `x?`. -/
example : opbTok [120, 57, 57, 57, 57, 57, 57, 57, 57, 57, 57, 57, 57, 57, 57, 57, 57, 57, 57, 57, 57] = Tok.word "x?" := by decide

end GS.TextBytes

#print axioms GS.TextBytes.scanLines_text
#print axioms GS.TextBytes.opbTokens_render
#print axioms GS.TextBytes.parseOpbBytes_render
#print axioms GS.TextBytes.parseWcnfBytes_render
#print axioms GS.TextBytes.explainTokens_render
#print axioms GS.TextBytes.explainParseBytes_render
#print axioms GS.TextBytes.parseOpbBytes_total
#print axioms GS.TextBytes.parseWcnfBytes_total
#print axioms GS.TextBytes.explainParseBytes_total
#print axioms GS.TextBytes.scanLines_long
#print axioms GS.TextBytes.wcnfTokens_long
#print axioms GS.TextBytes.parseOpbBytes_long
