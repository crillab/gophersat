import GS.Generated.Facts
/-!
# GS.Props.Facts — expectations about the facts regenerated from /repo's source

`GS/Generated/Facts.lean` is rewritten by `/verif/facts` (a go/ast walk over the working tree
of /repo) on every run. The Lean protocol models (`GS.Model.Chan`), the non-interference
argument of C16 and the "certificate flag only guards output" argument of C01/C06 are
instantiated with the values below. Each theorem is closed by evaluation (`decide +kernel`): a source edit that
changes a fact breaks the build of this file, which the check reports as a broken obligation
(and then searches for a failing input). `Generated.consts` (the integer constants of package `solver`) has
no expectation here: a changed constant does not break the build.
-/
namespace GS.Facts
open GS.Generated

/-- C16: the library packages have no package-level variable that any function writes
    (`solver.bufLits`, a literal buffer that the conflict analysis of every solver shared, was in this
    list until `fix:` commit eb00572 of /repo). -/
theorem no_package_level_state : pkgVarWrites = [] := by decide +kernel

/-- The only package-level variables are constants in disguise. -/
theorem package_vars : pkgVars = ["bf.False", "bf.True", "explain.ErrNotUnsat"] := by decide +kernel

/-- C01/C06: the certificate flag is only read by the three emission points … -/
theorem cert_readers : certReaders = ["Solver.addLearned", "Solver.addLearnedUnit", "Solver.setUnsat"] := by decide +kernel

/-- … and always as the guard of an output statement: it cannot influence the search. -/
theorem cert_guarded : certAllGuarded = true := by decide +kernel

def expectedChanOps : List (String × List String) := [
  ("solver.Solver.Optimal", ["defer-close results", "send results", "send results", "send results"]),
  ("solver.Solver.Enumerate", ["defer-close models"]),
  ("solver.Solver.addCurrentModels", ["send ch"]),
  ("solver.Solver.addLearned", ["send s.CertChan"]),
  ("solver.Solver.addLearnedUnit", ["send s.CertChan"]),
  ("solver.Solver.setUnsat", ["send s.CertChan"]),
  ("solver.Solver.Minimize", []),
  ("maxsat.Solver.Optimal", ["make chan solver.Result cap 0", "defer-close results", "go s.solver.Optimal(localRes,stop)", "range localRes", "send results"]),
  ("explain.Problem.UnsatSubset", ["make chan string cap 0", "make chan solver.Status cap 1", "go func", "goroutine: close s.CertChan", "goroutine: send done", "range s.CertChan", "recv done"]),
  ("explain.Problem.UnsatChan", ["range ch"]),
  ("main.solve", ["make chan solver.Result cap 0", "go s.Optimal(results,nil)"]),
  ("main.countModels", ["make chan []bool cap 0", "go s.Enumerate(models,nil)", "range models"]),
  ("main.parseAndSolveWCNF", ["make chan solver.Result cap 0", "go s.Optimal(results,nil)"])
]

/-- C16/C20: who creates, sends on, closes and drains each channel, in program order: the
    producer closes by a deferred close and nobody else closes; the forwarder ranges over the
    inner channel and re-sends; UnsatSubset hands the status over `done` after closing the
    certificate channel and the caller drains before receiving it. -/
theorem chan_ops : chanOps = expectedChanOps := by decide +kernel

/-- C19: the flags and the suffix dispatch of the command line tool. -/
theorem cli_flags : cliFlags = ["certified", "count", "cp", "help", "mus", "verbose"] := by decide +kernel
theorem cli_suffixes : cliSuffixes = [".bf", ".cnf", ".opb", ".wcnf"] := by decide +kernel

end GS.Facts
