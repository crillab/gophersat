import GS.Model.Queue
/-!
# C01 — the variable order heap never loses an unbound variable and never panics

Theorems about the mirror `GS.Queue` of `/repo/solver/queue.go` (validated against the Go code by
the differential tie `harness/x_queue.go`).
-/
namespace GS.Queue

/-- `idx`: a non-negative index entry points at a slot of `content` that holds that variable.
    `content` may hold duplicates and elements whose index entry is `-1`: see
    `queue_nodup_statement_false`. -/
structure QInv (q : Q) : Prop where
  idx : ∀ (n : Nat) (k : Int), q.indices[n]? = some k → 0 ≤ k → q.content[k.toNat]? = some n
  bnd : ∀ y, y ∈ q.content → y < q.indices.length ∧ y < q.activity.length

/-- Invariant of the two percolate loops: position `i` is a hole (its content is stale), `x` is the
    element being moved (its index entry is arbitrary). -/
structure HInv (q : Q) (i x : Nat) : Prop where
  hi : i < q.content.length
  idx : ∀ (n : Nat) (k : Int), n ≠ x → q.indices[n]? = some k → 0 ≤ k →
          k.toNat ≠ i ∧ q.content[k.toNat]? = some n
  bnd : ∀ y, y ∈ q.content → y < q.indices.length ∧ y < q.activity.length
  xb : x < q.indices.length ∧ x < q.activity.length

/-- What an operation `q ↦ q'` guarantees: the invariant, activities and index size as before, and
    the content of `q'` a permutation of `c`. -/
structure Res (q : Q) (c : List Nat) (q' : Q) : Prop where
  inv : QInv q'
  act : q'.activity = q.activity
  len : q'.indices.length = q.indices.length
  perm : q'.content.Perm c

theorem pos_ne_of_val_ne {α} {l : List α} {i j : Nat} {a b : α} (hi : l[i]? = some a) (hj : l[j]? = some b)
    (hab : a ≠ b) : i ≠ j :=
  fun e => hab (Option.some.inj (hi.symm.trans (e ▸ hj)))

theorem hinv_of_qinv {q : Q} {i x : Nat} (h : QInv q) (hx : q.content[i]? = some x) : HInv q i x := by
  have hi : i < q.content.length := by
    rcases List.getElem?_eq_some_iff.mp hx with ⟨h1, _⟩; exact h1
  refine ⟨hi, ?_, h.bnd, h.bnd x (List.mem_of_getElem? hx)⟩
  intro n k hn hk h0
  have := h.idx n k hk h0
  exact ⟨pos_ne_of_val_ne this hx hn, this⟩

/-- writing `c` into the hole `i` and `x` over the old copy of `c` at `p` swaps two slots of `l.set i x` -/
theorem swap_perm {l : List Nat} {i p c x : Nat} (hi : i < l.length) (hp : l[p]? = some c)
    (hne : p ≠ i) : ((l.set i c).set p x).Perm (l.set i x) := by
  rcases List.getElem?_eq_some_iff.mp hp with ⟨hpl, hpc⟩
  have h := List.set_set_perm (as := l.set i x) (i := i) (j := p) (by simpa using hi) (by simpa using hpl)
  rwa [List.getElem_set_ne (Ne.symm hne), List.getElem_set_self, List.set_set, hpc] at h

theorem lt_some (q : Q) {i j : Nat} (hi : i < q.activity.length) (hj : j < q.activity.length) :
    ∃ b, lt q i j = some b := by
  unfold lt
  rw [List.getElem?_eq_getElem hi, List.getElem?_eq_getElem hj]
  exact ⟨_, rfl⟩

theorem getElem?_set_cases {α} {l : List α} {a n : Nat} {v k : α} (hk : (l.set a v)[n]? = some k) :
    (a = n ∧ k = v) ∨ (a ≠ n ∧ l[n]? = some k) := by
  rw [List.getElem?_set] at hk
  split at hk
  · split at hk
    · exact Or.inl ⟨‹a = n›, (Option.some.inj hk).symm⟩
    · cases hk
  · exact Or.inr ⟨‹¬a = n›, hk⟩

/-- the step both percolate loops make: the element at `j` moves into the hole `i`, the hole is at `j`
    afterwards, and what the rest of the loop guarantees from there is what it guarantees from here -/
theorem move_spec {q : Q} {i j x c : Nat} (h : HInv q i x) (hj : q.content[j]? = some c) (hne : j ≠ i) :
    ∃ q1, move q i j = some q1 ∧ HInv q1 j x ∧
      ∀ q', Res q1 (q1.content.set j x) q' → Res q (q.content.set i x) q' := by
  have hjl : j < q.content.length := (List.getElem?_eq_some_iff.mp hj).1
  have hc := h.bnd c (List.mem_of_getElem? hj)
  refine ⟨{ q with content := q.content.set i c, indices := q.indices.set c (i : Int) }, ?_, ?_, fun q' r =>
    ⟨r.inv, r.act, r.len.trans (List.length_set ..), r.perm.trans (swap_perm h.hi hj hne)⟩⟩
  · unfold move; rw [hj]; simp [h.hi, hc.1]
  · refine ⟨by simpa using hjl, ?_, ?_, by simpa using h.xb⟩
    · intro n k hn hk h0
      rcases getElem?_set_cases hk with ⟨rfl, rfl⟩ | ⟨hcn, hk⟩
      · exact ⟨fun e => hne e.symm, by simp [h.hi]⟩
      · have := h.idx n k hn hk h0
        exact ⟨pos_ne_of_val_ne this.2 hj fun e => hcn e.symm,
          (List.getElem?_set_ne fun e => this.1 e.symm).trans this.2⟩
    · intro y hy
      simp only [List.length_set]
      rcases List.mem_or_eq_of_mem_set hy with hy | hy
      · exact h.bnd y hy
      · exact hy ▸ hc

theorem place_spec {q : Q} {i x : Nat} (h : HInv q i x) :
    ∃ q', place q i x = some q' ∧ Res q (q.content.set i x) q' := by
  refine ⟨{ q with content := q.content.set i x, indices := q.indices.set x (i : Int) }, ?_, ?_, rfl, by simp, List.Perm.refl _⟩
  · unfold place; simp [h.hi, h.xb.1]
  · refine ⟨?_, ?_⟩
    · intro n k hk h0
      rcases getElem?_set_cases hk with ⟨rfl, rfl⟩ | ⟨hxn, hk⟩
      · simp [h.hi]
      · have := h.idx n k (fun e => hxn e.symm) hk h0
        exact (List.getElem?_set_ne fun e => this.1 e.symm).trans this.2
    · intro y hy
      simp only [List.length_set]
      rcases List.mem_or_eq_of_mem_set hy with hy | hy
      · exact h.bnd y hy
      · exact hy ▸ h.xb

/-- For any fuel: at fuel 0 the loop `place`s, which keeps the invariant. That the fuel
    `percolateUp` gives is never exhausted before the Go loop stops is `upLoop_fuel` (`downLoop_fuel`). -/
theorem upLoop_spec : ∀ (f : Nat) (q : Q) (x i : Nat), HInv q i x →
    ∃ q', upLoop f q x i = some q' ∧ Res q (q.content.set i x) q' := by
  intro f
  induction f with
  | zero => intro q x i h; exact place_spec h
  | succ f ih =>
    intro q x i h
    unfold upLoop
    by_cases hi0 : i = 0
    · rw [if_pos hi0]; exact place_spec h
    · rw [if_neg hi0]
      have hlt : (i - 1) / 2 < i := Nat.lt_of_le_of_lt (Nat.div_le_self _ 2) (Nat.sub_one_lt hi0)
      have hp : (i - 1) / 2 < q.content.length := Nat.lt_trans hlt h.hi
      have hcp : q.content[(i - 1) / 2]? = some (q.content[(i - 1) / 2]) := List.getElem?_eq_getElem hp
      rw [hcp]
      simp only []
      have hcb := h.bnd _ (List.getElem_mem hp)
      rcases lt_some q h.xb.2 hcb.2 with ⟨b, hb⟩
      rw [hb]
      cases b with
      | false => exact place_spec h
      | true =>
        rcases move_spec h hcp (Nat.ne_of_lt hlt) with ⟨q1, hm, hh, hres⟩
        rw [hm]
        rcases ih q1 x _ hh with ⟨q', hq', r⟩
        exact ⟨q', hq', hres q' r⟩

theorem percolateUp_spec {q : Q} {i : Nat} (h : QInv q) (hi : i < q.content.length) :
    ∃ q', percolateUp q i = some q' ∧ Res q q.content q' := by
  have hx : q.content[i]? = some q.content[i] := List.getElem?_eq_getElem hi
  unfold percolateUp
  rw [hx]
  rcases upLoop_spec i q _ i (hinv_of_qinv h hx) with ⟨q', hq', r⟩
  exact ⟨q', hq', r.inv, r.act, r.len, List.set_getElem_self hi ▸ r.perm⟩

/-- Any fuel `≥ i` gives the same result as the fuel `i` used by `percolateUp`: the fuel-exhausted
    branch is only ever taken with `i = 0`, where the Go loop stops too. -/
theorem upLoop_fuel : ∀ (f g : Nat) (q : Q) (x i : Nat), i ≤ f → i ≤ g → upLoop f q x i = upLoop g q x i := by
  intro f
  induction f with
  | zero =>
    intro g q x i hf _
    obtain rfl : i = 0 := by omega
    cases g <;> simp [upLoop]
  | succ f ih =>
    intro g q x i hf hg
    cases g with
    | zero =>
      obtain rfl : i = 0 := by omega
      simp [upLoop]
    | succ g =>
      -- the two sides differ only in the recursive call, which is at the parent position
      have hp : ∀ {n}, i ≤ n + 1 → (i - 1) / 2 ≤ n := fun h =>
        Nat.le_trans (Nat.div_le_self _ 2) (Nat.sub_le_of_le_add h)
      have key : ∀ q', upLoop f q' x ((i - 1) / 2) = upLoop g q' x ((i - 1) / 2) := fun q' =>
        ih g q' x _ (hp hf) (hp hg)
      simp only [upLoop, key]

theorem pickChild_gt {q : Q} {i c : Nat} (h : pickChild q i = some c) : i < c := by
  unfold pickChild at h
  split at h
  · split at h
    · split at h
      · cases h
      · rename_i b _
        cases h
        cases b <;> simp <;> omega
    · cases h
  · cases h; omega

theorem pickChild_spec {q : Q} {i : Nat}
    (hb : ∀ y, y ∈ q.content → y < q.indices.length ∧ y < q.activity.length)
    (hl : 2 * i + 1 < q.content.length) :
    ∃ child, pickChild q i = some child ∧ child < q.content.length := by
  unfold pickChild
  by_cases hr : 2 * i + 2 < q.content.length
  · rw [if_pos hr, List.getElem?_eq_getElem hr, List.getElem?_eq_getElem hl]
    simp only []
    rcases lt_some q (hb _ (List.getElem_mem hr)).2 (hb _ (List.getElem_mem hl)).2 with ⟨b, hb'⟩
    rw [hb']
    simp only []
    cases b
    · exact ⟨2 * i + 1, by simp, hl⟩
    · exact ⟨2 * i + 2, by simp, hr⟩
  · rw [if_neg hr]
    exact ⟨_, rfl, hl⟩

theorem downLoop_spec : ∀ (f : Nat) (q : Q) (x i : Nat), HInv q i x →
    ∃ q', downLoop f q x i = some q' ∧ Res q (q.content.set i x) q' := by
  intro f
  induction f with
  | zero => intro q x i h; exact place_spec h
  | succ f ih =>
    intro q x i h
    unfold downLoop
    by_cases hl : 2 * i + 1 < q.content.length
    · rw [if_pos hl]
      rcases pickChild_spec h.bnd hl with ⟨child, hpc, hcl⟩
      have hci := pickChild_gt hpc
      rw [hpc]
      simp only []
      have hcc : q.content[child]? = some (q.content[child]) := List.getElem?_eq_getElem hcl
      rw [hcc]
      simp only []
      have hcb := h.bnd _ (List.getElem_mem hcl)
      rcases lt_some q hcb.2 h.xb.2 with ⟨b, hb⟩
      rw [hb]
      cases b with
      | false => exact place_spec h
      | true =>
        have hne : child ≠ i := by omega
        rcases move_spec h hcc hne with ⟨q1, hm, hh, hres⟩
        rw [hm]
        rcases ih q1 x _ hh with ⟨q', hq', r⟩
        exact ⟨q', hq', hres q' r⟩
    · rw [if_neg hl]; exact place_spec h

theorem percolateDown_spec {q : Q} {i : Nat} (h : QInv q) (hi : i < q.content.length) :
    ∃ q', percolateDown q i = some q' ∧ Res q q.content q' := by
  have hx : q.content[i]? = some q.content[i] := List.getElem?_eq_getElem hi
  unfold percolateDown
  rw [hx]
  rcases downLoop_spec (q.content.length - i) q _ i (hinv_of_qinv h hx) with ⟨q', hq', r⟩
  exact ⟨q', hq', r.inv, r.act, r.len, List.set_getElem_self hi ▸ r.perm⟩

theorem move_length {q q' : Q} {i j : Nat} (h : move q i j = some q') : q'.content.length = q.content.length := by
  unfold move at h
  split at h
  · cases h
  · split at h
    · cases h; simp
    · cases h

theorem downLoop_leaf (f : Nat) {q : Q} (x : Nat) {i : Nat} (h : q.content.length - i ≤ 0) :
    downLoop f q x i = place q i x := by
  have hn : ¬ 2 * i + 1 < q.content.length := by omega
  cases f <;> simp [downLoop, hn]

/-- Any fuel `≥ len(content) - i` gives the same result as the fuel used by `percolateDown`: the
    fuel-exhausted branch is only ever taken with `left(i) ≥ len(content)`, where the Go loop stops too. -/
theorem downLoop_fuel : ∀ (f g : Nat) (q : Q) (x i : Nat), q.content.length - i ≤ f → q.content.length - i ≤ g →
    downLoop f q x i = downLoop g q x i := by
  intro f
  induction f with
  | zero => intro g q x i hf _; rw [downLoop_leaf 0 x hf, downLoop_leaf g x hf]
  | succ f ih =>
    intro g q x i hf hg
    cases g with
    | zero => rw [downLoop_leaf _ x hg, downLoop_leaf 0 x hg]
    | succ g =>
      unfold downLoop
      by_cases hl : 2 * i + 1 < q.content.length
      · simp only [if_pos hl]
        cases hpc : pickChild q i with
        | none => rfl
        | some child =>
          have hgt := pickChild_gt hpc
          simp only []
          cases q.content[child]? with
          | none => rfl
          | some cc =>
            simp only []
            cases lt q cc x with
            | none => rfl
            | some b =>
              cases b with
              | false => rfl
              | true =>
                simp only []
                cases hm : move q i child with
                | none => rfl
                | some q' =>
                  -- the recursive call is at a child, in a queue of the same length
                  have hc : ∀ {n}, q.content.length - i ≤ n + 1 → q'.content.length - child ≤ n := fun h =>
                    move_length hm ▸ Nat.le_trans (Nat.sub_le_sub_left hgt _) (Nat.pred_le_pred h)
                  exact ih g q' x _ (hc hf) (hc hg)
      · simp only [if_neg hl]

theorem contains_iff {q : Q} {n : Nat} : contains q n = true ↔ ∃ k, q.indices[n]? = some k ∧ 0 ≤ k := by
  unfold contains
  cases h : q.indices[n]? with
  | none => simp
  | some k => simp

/-- The converse fails (`mem_not_contains_reachable`): `removeMin` sets the index of the value it
    returns to `-1` even if another copy stays. -/
theorem contains_mem {q : Q} {n : Nat} (h : QInv q) (hc : contains q n = true) : n ∈ q.content := by
  rcases contains_iff.mp hc with ⟨k, hk, h0⟩
  exact List.mem_of_getElem? (h.idx n k hk h0)

theorem decrease_spec {q : Q} {n : Nat} (h : QInv q) (hc : contains q n = true) :
    ∃ q', decrease q n = some q' ∧ Res q q.content q' := by
  rcases contains_iff.mp hc with ⟨k, hk, h0⟩
  have hlt : k.toNat < q.content.length := (List.getElem?_eq_some_iff.mp (h.idx n k hk h0)).1
  unfold decrease
  rw [hk]
  simp only []
  rw [if_neg (by omega)]
  exact percolateUp_spec h hlt

theorem qinv_setActivity {q : Q} (h : QInv q) (n : Nat) (a : Int) :
    QInv { q with activity := q.activity.set n a } :=
  ⟨h.idx, fun y hy => by simpa using h.bnd y hy⟩

/-- The queue part of `varBumpActivity`, whatever the new activity. -/
theorem bump_spec {q : Q} {n : Nat} (a : Int) (h : QInv q) (hn : n < q.activity.length) :
    ∃ q', bump q n a = some q' ∧ QInv q' ∧ q'.activity = q.activity.set n a ∧
      q'.indices.length = q.indices.length ∧ q'.content.Perm q.content := by
  unfold bump
  rw [if_pos hn]
  simp only []
  split
  · rename_i hc
    rcases decrease_spec (qinv_setActivity h n a) hc with ⟨q', hq', r⟩
    exact ⟨q', hq', r.inv, r.act, r.len, r.perm⟩
  · exact ⟨_, rfl, qinv_setActivity h n a, rfl, rfl, List.Perm.refl _⟩

theorem grow_length (ind : List Int) (n : Nat) : (grow ind n).length = max ind.length (n + 1) := by
  unfold grow; simp; omega

theorem grow_get {ind : List Int} {n m : Nat} {k : Int} (h : (grow ind n)[m]? = some k) (h0 : 0 ≤ k) :
    ind[m]? = some k := by
  unfold grow at h
  by_cases hm : m < ind.length
  · rwa [List.getElem?_append_left hm] at h
  · rw [List.getElem?_append_right (by omega), List.getElem?_replicate] at h
    split at h
    · have := Option.some.inj h; omega
    · cases h

theorem insert_spec {q : Q} {n : Nat} (h : QInv q) (hn : n < q.activity.length) :
    ∃ q', insert q n = some q' ∧ QInv q' ∧ q'.activity = q.activity ∧
      q'.indices.length = max q.indices.length (n + 1) ∧ q'.content.Perm (q.content ++ [n]) := by
  have hgl := grow_length q.indices n
  have hq1 : QInv { q with indices := (grow q.indices n).set n (q.content.length : Int),
                           content := q.content ++ [n] } := by
    refine ⟨?_, ?_⟩
    · intro m k hk h0
      rcases getElem?_set_cases hk with ⟨rfl, rfl⟩ | ⟨hnm, hk⟩
      · simp
      · have := h.idx m k (grow_get hk h0) h0
        have hlt := (List.getElem?_eq_some_iff.mp this).1
        simp only []
        rw [List.getElem?_append_left hlt]
        exact this
    · simp only [List.length_set, hgl]
      exact List.forall_mem_append.2
        ⟨fun y hy => ⟨Nat.lt_of_lt_of_le (h.bnd y hy).1 (Nat.le_max_left ..), (h.bnd y hy).2⟩,
          List.forall_mem_singleton.2 ⟨Nat.le_max_right .., hn⟩⟩
  unfold insert
  rcases percolateUp_spec hq1 (i := q.content.length) (by simp) with ⟨q', hq', r⟩
  refine ⟨q', hq', r.inv, r.act, ?_, r.perm⟩
  rw [r.len]
  simp [hgl]

theorem foldl_max_range (k : Nat) : (List.range k).foldl (fun m n => max m (n + 1)) 0 = k := by
  induction k with
  | zero => rfl
  | succ k ih => rw [List.range_succ, List.foldl_append, ih]; exact Nat.max_eq_right (Nat.le_succ k)

theorem insertAll_spec : ∀ (ns : List Nat) (q : Q), QInv q → (∀ n ∈ ns, n < q.activity.length) →
    ∃ q', insertAll q ns = some q' ∧ QInv q' ∧ q'.activity = q.activity ∧
      q'.indices.length = ns.foldl (fun m n => max m (n + 1)) q.indices.length ∧ q'.content.Perm (q.content ++ ns) := by
  intro ns
  induction ns with
  | nil =>
    intro q h _
    exact ⟨q, rfl, h, rfl, rfl, by rw [List.append_nil]⟩
  | cons n ns ih =>
    intro q h hb
    rcases insert_spec h (hb n List.mem_cons_self) with ⟨q1, h1, i1, a1, l1, p1⟩
    rcases ih q1 i1 (fun m hm => a1 ▸ hb m (List.mem_cons_of_mem _ hm)) with ⟨q', h2, i2, a2, l2, p2⟩
    refine ⟨q', ?_, i2, a2.trans a1, by rw [l2, l1]; rfl, ?_⟩
    · unfold insertAll; rw [h1]; exact h2
    · refine p2.trans ?_
      have := p1.append_right ns
      simpa using this

theorem qinv_nil (acts : List Int) : QInv ⟨acts, [], []⟩ :=
  ⟨fun n k hk _ => by simp at hk, fun y hy => by simp at hy⟩

theorem newQueue_spec (acts : List Int) :
    ∃ q, newQueue acts = some q ∧ QInv q ∧ q.activity = acts ∧ q.indices.length = acts.length ∧
      q.content.Perm (List.range acts.length) := by
  rcases insertAll_spec (List.range acts.length) ⟨acts, [], []⟩ (qinv_nil acts)
    (fun n hn => List.mem_range.1 hn) with ⟨q, hq, hi, ha, hl, hp⟩
  exact ⟨q, hq, hi, ha, hl.trans (foldl_max_range _), by simpa using hp⟩

theorem take_set_perm {l : List Nat} {x y : Nat} (h0 : l[0]? = some x) (hl : l[l.length - 1]? = some y) :
    l.Perm (x :: (l.set 0 y).take (l.length - 1)) := by
  rcases List.getElem?_eq_some_iff.mp h0 with ⟨h0l, h0x⟩
  rcases List.getElem?_eq_some_iff.mp hl with ⟨hll, hly⟩
  -- swap root and last slot, then split off the last slot
  have h := List.set_set_perm (as := l) h0l hll
  rw [h0x, hly, List.set_eq_take_append_cons_drop, if_pos (by simpa using hll),
    List.drop_eq_nil_of_le (by simp; omega)] at h
  exact h.symm.trans (List.perm_append_singleton _ _)

/-- `removeMin` returns the root `x` of the heap and removes exactly ONE occurrence of `x` from the
    content. -/
theorem removeMin_spec {q : Q} (h : QInv q) (hne : q.content ≠ []) :
    ∃ q' x, removeMin q = some (q', x) ∧ q.content[0]? = some x ∧ QInv q' ∧ q'.activity = q.activity ∧
      q'.indices.length = q.indices.length ∧ q.content.Perm (x :: q'.content) := by
  have hL : 0 < q.content.length := List.length_pos_iff.mpr hne
  obtain ⟨x, hx⟩ : ∃ x, q.content[0]? = some x := ⟨_, List.getElem?_eq_getElem hL⟩
  obtain ⟨y, hy⟩ : ∃ y, q.content[q.content.length - 1]? = some y :=
    ⟨_, List.getElem?_eq_getElem (Nat.sub_one_lt_of_lt hL)⟩
  have hxb := h.bnd x (List.mem_of_getElem? hx)
  have hyb := h.bnd y (List.mem_of_getElem? hy)
  have hq2 : QInv { q with content := (q.content.set 0 y).take (q.content.length - 1),
                           indices := (q.indices.set y 0).set x (-1) } := by
    refine ⟨?_, ?_⟩
    · intro n k hk h0
      rcases getElem?_set_cases hk with ⟨_, rfl⟩ | ⟨hxn, hk⟩
      · omega
      · simp only [List.getElem?_take, List.getElem?_set]
        rcases getElem?_set_cases hk with ⟨hyn, rfl⟩ | ⟨hyn, hk⟩
        · -- `x ≠ y`, so the root is not the last position
          have := pos_ne_of_val_ne hy hx fun e => hxn (e ▸ hyn)
          simp [Nat.pos_of_ne_zero this, hL, hyn]
        · have hc := h.idx n k hk h0
          have hlt := (List.getElem?_eq_some_iff.mp hc).1
          have hk0 := pos_ne_of_val_ne hc hx fun e => hxn e.symm
          have hkl := pos_ne_of_val_ne hc hy fun e => hyn e.symm
          rw [if_pos (Nat.lt_of_le_of_ne (Nat.le_sub_one_of_lt hlt) hkl), if_neg (fun e => hk0 e.symm)]
          exact hc
    · intro z hz
      simp only [List.length_set]
      rcases List.mem_or_eq_of_mem_set (List.mem_of_mem_take hz) with hz | hz
      · exact h.bnd z hz
      · exact hz ▸ hyb
  have hperm := take_set_perm hx hy
  unfold removeMin
  rw [hx]
  simp only []
  rw [hy]
  simp only []
  rw [if_pos hyb.1, if_pos hxb.1]
  split
  · rename_i hgt
    rcases percolateDown_spec hq2 (i := 0) (Nat.lt_trans Nat.zero_lt_one hgt) with ⟨q3, hq3, r⟩
    refine ⟨q3, x, by rw [hq3]; rfl, rfl, r.inv, r.act, ?_, ?_⟩
    · rw [r.len]; simp
    · exact hperm.trans (List.Perm.cons _ r.perm.symm)
  · exact ⟨_, x, rfl, rfl, hq2, rfl, by simp, hperm⟩

theorem chooseLoop_nil (f : Nat) {q : Q} (model : List Int) (h : q.content = []) :
    chooseLoop f q model = some (q, none) := by
  cases f <;> simp [chooseLoop, empty, h]

/-- The loop pops a run `d` of bound variables and then either an unbound one (the answer) or nothing
    because the queue is empty. -/
theorem chooseLoop_spec : ∀ (f : Nat) (q : Q) (model : List Int), QInv q → q.content.length ≤ f →
    (∀ x ∈ q.content, x < model.length) →
    ∃ q' r d, chooseLoop f q model = some (q', r) ∧ QInv q' ∧ q'.activity = q.activity ∧
      q'.indices.length = q.indices.length ∧ q.content.Perm (d ++ (r.toList ++ q'.content)) ∧
      (∀ u ∈ d, model[u]? ≠ some 0) ∧ (∀ v, r = some v → model[v]? = some 0) ∧
      (r = none → q'.content = []) := by
  intro f
  induction f with
  | zero =>
    intro q model h hl _
    have he : q.content = [] := List.length_eq_zero_iff.mp (by omega)
    exact ⟨q, none, [], chooseLoop_nil _ _ he, h, rfl, rfl, .refl _, nofun, nofun, fun _ => he⟩
  | succ f ih =>
    intro q model h hl hm
    by_cases he : q.content = []
    · exact ⟨q, none, [], chooseLoop_nil _ _ he, h, rfl, rfl, .refl _, nofun, nofun, fun _ => he⟩
    · rcases removeMin_spec h he with ⟨q1, x, hr, hx0, hi1, ha1, hl1, hp1⟩
      have hxm := hm x (List.mem_of_getElem? hx0)
      have hmx : model[x]? = some model[x] := List.getElem?_eq_getElem hxm
      unfold chooseLoop
      rw [if_neg (by simpa [empty] using he), hr]
      simp only []
      rw [hmx]
      simp only []
      by_cases hz : model[x] = 0
      · rw [if_pos hz]
        exact ⟨q1, some x, [], rfl, hi1, ha1, hl1, hp1, nofun, fun v hv => by cases hv; rw [hmx, hz], nofun⟩
      · rw [if_neg hz]
        have hlen : q1.content.length ≤ f := by
          have := hp1.length_eq; rw [List.length_cons] at this; omega
        rcases ih q1 model hi1 hlen (fun u hu => hm u (hp1.symm.subset (List.mem_cons_of_mem _ hu)))
          with ⟨q', r, d, hc, hi', ha', hl', hp', hd, hsome, hnone⟩
        exact ⟨q', r, x :: d, hc, hi', ha'.trans ha1, hl'.trans hl1, hp1.trans (hp'.cons x),
          List.forall_mem_cons.mpr ⟨fun e => hz (Option.some.inj (hmx ▸ e)), hd⟩, hsome, hnone⟩

/-- Every unbound variable occurs in content. -/
def Covers (q : Q) (nbVars : Nat) (model : List Int) : Prop :=
  ∀ v, v < nbVars → model[v]? = some 0 → v ∈ q.content

/-- The loop of `chooseLit` never panics; it answers a variable only if that variable is
    unbound, and answers "no variable" (`-1`) only if every variable `< nbVars` is bound; every unbound
    variable other than the chosen one still occurs in the queue it leaves. -/
theorem chooseLit_complete (q : Q) (nbVars : Nat) (model : List Int) (h : QInv q)
    (hm : ∀ x ∈ q.content, x < model.length) (hcov : Covers q nbVars model) :
    ∃ q' r, chooseLit q model = some (q', r) ∧ QInv q' ∧ q'.activity = q.activity ∧
      q'.indices.length = q.indices.length ∧ (∀ x ∈ q'.content, x < model.length) ∧
      (∀ v, r = some v → model[v]? = some 0 ∧
          ∀ u, u < nbVars → model[u]? = some 0 → u ≠ v → u ∈ q'.content) ∧
      (r = none → q'.content = [] ∧ ∀ u, u < nbVars → model[u]? ≠ some 0) ∧
      ((∃ u, u < nbVars ∧ model[u]? = some 0) → ∃ v, r = some v) := by
  rcases chooseLoop_spec q.content.length q model h (Nat.le_refl _) hm with ⟨q', r, d, hc, hi, ha, hl, hp, hd, hsome, hnone⟩
  -- an unbound variable is not among the discarded ones: it is the answer or still queued
  have hrest : ∀ u, u < nbVars → model[u]? = some 0 → r = some u ∨ u ∈ q'.content := by
    intro u hu hu0
    rcases List.mem_append.mp (hp.subset (hcov u hu hu0)) with e | e
    · exact absurd hu0 (hd u e)
    · exact (List.mem_append.mp e).imp_left Option.mem_toList.mp
  refine ⟨q', r, hc, hi, ha, hl, fun x hx => hm x (hp.symm.subset (by simp [hx])), ?_, ?_, ?_⟩
  · intro v hv
    exact ⟨hsome v hv, fun u hu hu0 huv => (hrest u hu hu0).resolve_left fun e => huv (Option.some.inj (e.symm.trans hv))⟩
  · intro hr
    refine ⟨hnone hr, fun u hu hu0 => ?_⟩
    simpa [hr, hnone hr] using hrest u hu hu0
  · rintro ⟨u, hu, hu0⟩
    cases r with
    | some v => exact ⟨v, rfl⟩
    | none => simpa [hnone rfl] using hrest u hu hu0

/-- Once the chosen variable is bound `Covers` holds again: it is the loop invariant of the search. -/
theorem chooseLit_covers_after {q' : Q} {nbVars : Nat} {model : List Int} {v : Nat} {lvl : Int}
    (hafter : ∀ u, u < nbVars → model[u]? = some 0 → u ≠ v → u ∈ q'.content) (hl : lvl ≠ 0) :
    Covers q' nbVars (model.set v lvl) := by
  intro u hu hu0
  rcases getElem?_set_cases hu0 with ⟨_, h0⟩ | ⟨e, hu0⟩
  · exact absurd h0.symm hl
  · exact hafter u hu hu0 fun e' => e e'.symm

theorem cleanupLoop_spec : ∀ (vs : List Nat) (q : Q) (toIns : List Nat), QInv q →
    (∀ v ∈ vs, v < q.activity.length) →
    ∃ q' t, cleanupLoop q vs toIns = some (q', toIns ++ t) ∧ QInv q' ∧ q'.activity = q.activity ∧
      q'.content.Perm (q.content ++ t) ∧
      (∀ v ∈ t, v ∈ vs) ∧ (∀ v ∈ vs, v ∈ q'.content) := by
  intro vs
  induction vs with
  | nil =>
    intro q toIns h _
    exact ⟨q, [], by simp [cleanupLoop], h, rfl, by simp, by simp, by simp⟩
  | cons v vs ih =>
    intro q toIns h hb
    rcases List.forall_mem_cons.mp hb with ⟨hbv, hbs⟩
    unfold cleanupLoop
    by_cases hc : contains q v = true
    · rw [if_pos hc]
      rcases ih q toIns h hbs with ⟨q', t, he, hi, ha, hp, ht, hv⟩
      exact ⟨q', t, he, hi, ha, hp, List.subset_cons_of_subset v ht,
        List.cons_subset.mpr ⟨hp.symm.subset (List.mem_append_left _ (contains_mem h hc)), hv⟩⟩
    · rw [if_neg hc]
      rcases insert_spec h hbv with ⟨q1, h1, i1, a1, _, p1⟩
      rw [h1]
      simp only []
      rcases ih q1 (toIns ++ [v]) i1 (a1 ▸ hbs) with ⟨q', t, he, hi, ha, hp, ht, hv⟩
      have hp' : q'.content.Perm (q.content ++ v :: t) := by simpa using hp.trans (p1.append_right t)
      exact ⟨q', v :: t, by simpa using he, hi, ha.trans a1, hp', List.cons_subset_cons v ht,
        List.cons_subset.mpr ⟨hp'.symm.subset (by simp), hv⟩⟩

/-- Both loops of `cleanupBindings`: every variable that was not contained is inserted TWICE
    (`t ++ t.reverse`); all trail variables occur in content afterwards and nothing is lost. -/
theorem cleanup_spec {q : Q} {vs : List Nat} (h : QInv q) (hb : ∀ v ∈ vs, v < q.activity.length) :
    ∃ q' t, cleanup q vs = some q' ∧ QInv q' ∧ q'.activity = q.activity ∧
      q'.content.Perm (q.content ++ (t ++ t.reverse)) ∧ (∀ v ∈ t, v ∈ vs) ∧
      (∀ v ∈ vs, v ∈ q'.content) ∧ (∀ x ∈ q.content, x ∈ q'.content) := by
  rcases cleanupLoop_spec vs q [] h hb with ⟨q1, t, he, h1, a1, p1, ht, hv⟩
  rcases insertAll_spec t.reverse q1 h1 (fun n hn => a1 ▸ hb n (ht n (by simpa using hn)))
    with ⟨q', h2, i2, a2, _, p2⟩
  have hp : q'.content.Perm (q.content ++ (t ++ t.reverse)) := by
    refine p2.trans ?_
    have := p1.append_right t.reverse
    simpa [List.append_assoc] using this
  refine ⟨q', t, ?_, i2, a2.trans a1, hp, ht, ?_, ?_⟩
  · unfold cleanup; rw [he]; simpa using h2
  · intro v hv'
    exact p2.mem_iff.mpr (List.mem_append_left _ (hv v hv'))
  · intro x hx
    exact hp.mem_iff.mpr (List.mem_append_left _ hx)

/-- `hmod`: the variables that become unbound are among the trail variables `vs` given to the loop. -/
theorem cleanup_covers {q : Q} {vs : List Nat} {nbVars : Nat} {model model' : List Int}
    (h : QInv q) (hb : ∀ v ∈ vs, v < q.activity.length) (hcov : Covers q nbVars model)
    (hmod : ∀ u, model'[u]? = some 0 → model[u]? = some 0 ∨ u ∈ vs) :
    ∃ q', cleanup q vs = some q' ∧ QInv q' ∧ q'.activity = q.activity ∧ Covers q' nbVars model' := by
  rcases cleanup_spec h hb with ⟨q', t, he, hi, ha, _, _, hv, hx⟩
  refine ⟨q', he, hi, ha, ?_⟩
  intro u hu hu0
  rcases hmod u hu0 with e | e
  · exact hx u (hcov u hu e)
  · exact hv u e

theorem clearLoop_spec : ∀ (cs : List Nat) (ind : List Int), (∀ c ∈ cs, c < ind.length) →
    ∃ ind', clearLoop cs ind = some ind' ∧ ind'.length = ind.length ∧
      ∀ (m : Nat) (k : Int), ind'[m]? = some k → 0 ≤ k → ind[m]? = some k ∧ m ∉ cs := by
  intro cs
  induction cs with
  | nil => intro ind _; exact ⟨ind, rfl, rfl, fun m k hk _ => ⟨hk, by simp⟩⟩
  | cons c cs ih =>
    intro ind hb
    have hc := hb c (by simp)
    rcases ih (ind.set c (-1)) (fun d hd => by simpa using hb d (by simp [hd])) with ⟨ind', he, hl, hg⟩
    refine ⟨ind', ?_, by simpa using hl, ?_⟩
    · unfold clearLoop; rw [if_pos hc]; exact he
    · intro m k hk h0
      rcases hg m k hk h0 with ⟨h1, h2⟩
      rcases getElem?_set_cases h1 with ⟨_, rfl⟩ | ⟨e, h1⟩
      · omega
      · refine ⟨h1, ?_⟩
        intro hm
        rcases List.mem_cons.mp hm with e' | e'
        · exact e e'.symm
        · exact h2 e'

theorem fillLoop_spec : ∀ (vs pre : List Nat) (ind : List Int), (∀ v ∈ vs, v < ind.length) →
    (∀ (m : Nat) (k : Int), ind[m]? = some k → 0 ≤ k → (pre ++ vs)[k.toNat]? = some m) →
    ∃ ind', fillLoop vs pre.length ind = some ind' ∧ ind'.length = ind.length ∧
      ∀ (m : Nat) (k : Int), ind'[m]? = some k → 0 ≤ k → (pre ++ vs)[k.toNat]? = some m := by
  intro vs
  induction vs with
  | nil => intro pre ind _ h; exact ⟨ind, rfl, rfl, h⟩
  | cons v vs ih =>
    intro pre ind hb h
    have hpre : pre ++ v :: vs = (pre ++ [v]) ++ vs := by simp
    have hset : ∀ (m : Nat) (k : Int), (ind.set v (pre.length : Int))[m]? = some k → 0 ≤ k →
        ((pre ++ [v]) ++ vs)[k.toNat]? = some m := by
      intro m k hk h0
      rw [← hpre]
      rcases getElem?_set_cases hk with ⟨rfl, rfl⟩ | ⟨_, hk⟩
      · simp
      · exact h m k hk h0
    rcases ih (pre ++ [v]) _ (fun d hd => by simpa using hb d (by simp [hd])) hset with ⟨ind', he, hl, hg⟩
    rw [List.length_append] at he
    refine ⟨ind', ?_, by simpa using hl, hpre ▸ hg⟩
    unfold fillLoop; rw [if_pos (hb v (by simp))]; exact he

theorem heapify_spec : ∀ (k : Nat) (q : Q), QInv q → k ≤ q.content.length →
    ∃ q', heapify k q = some q' ∧ Res q q.content q' := by
  intro k
  induction k with
  | zero => intro q h _; exact ⟨q, rfl, h, rfl, rfl, List.Perm.refl _⟩
  | succ k ih =>
    intro q h hk
    rcases percolateDown_spec h (i := k) (by omega) with ⟨q1, h1, r1⟩
    rcases ih q1 r1.inv (by have := r1.perm.length_eq; omega) with ⟨q', h2, r2⟩
    refine ⟨q', ?_, r2.inv, r2.act.trans r1.act, r2.len.trans r1.len, r2.perm.trans r1.perm⟩
    unfold heapify; rw [h1]; exact h2

theorem build_spec {q : Q} {ns : List Nat} (h : QInv q)
    (hb : ∀ v ∈ ns, v < q.indices.length ∧ v < q.activity.length) :
    ∃ q', build q ns = some q' ∧ Res q ns q' := by
  rcases clearLoop_spec q.content q.indices (fun c hc => (h.bnd c hc).1) with ⟨i1, h1, l1, g1⟩
  rcases fillLoop_spec ns [] i1 (fun v hv => l1 ▸ (hb v hv).1) (by
    intro m k hk h0
    rcases g1 m k hk h0 with ⟨h2, h3⟩
    exact absurd (List.mem_of_getElem? (h.idx m k h2 h0)) h3) with ⟨i2, h2, l2, g2⟩
  have hq1 : QInv { q with content := ns, indices := i2 } :=
    ⟨g2, fun y hy => ⟨(l2.trans l1) ▸ (hb y hy).1, (hb y hy).2⟩⟩
  rcases heapify_spec (ns.length / 2) _ hq1 (Nat.div_le_self _ _) with ⟨q', h3, r⟩
  refine ⟨q', ?_, r.inv, r.act, r.len.trans (l2.trans l1), r.perm⟩
  unfold build; rw [h1]; simp only []
  have : fillLoop ns 0 i1 = some i2 := h2
  rw [this]; exact h3

theorem rebuildLoop_spec : ∀ (vs : List Nat) (model : List Int) (acc : List Nat),
    (∀ v ∈ vs, v < model.length) →
    rebuildLoop vs model acc = some (acc ++ vs.filter (fun v => model[v]? == some 0)) := by
  intro vs
  induction vs with
  | nil => intro model acc _; simp [rebuildLoop]
  | cons v vs ih =>
    intro model acc hb
    have hv := hb v (by simp)
    unfold rebuildLoop
    rw [List.getElem?_eq_getElem hv]
    simp only []
    rw [ih model _ (fun u hu => hb u (by simp [hu]))]
    by_cases hz : model[v] = 0
    · simp [hz, List.getElem?_eq_getElem hv]
    · simp [hz, List.getElem?_eq_getElem hv]

/-- The content is a permutation of `nbVars` zeros followed by the unbound variables (sic:
    `ints := make([]int, s.nbVars)`, then `append`), so every unbound variable occurs in content. -/
theorem rebuildOrderHeap_spec {q : Q} {nbVars : Nat} {model : List Int} (h : QInv q)
    (hm : nbVars ≤ model.length) (hi : nbVars ≤ q.indices.length) (ha : nbVars ≤ q.activity.length) :
    ∃ q', rebuildOrderHeap q nbVars model = some q' ∧
      Res q (List.replicate nbVars 0 ++ (List.range nbVars).filter (fun v => model[v]? == some 0)) q' ∧
      Covers q' nbVars model := by
  have hl := rebuildLoop_spec (List.range nbVars) model (List.replicate nbVars 0)
    (fun v hv => by have := List.mem_range.mp hv; omega)
  have hb : ∀ v ∈ List.replicate nbVars 0 ++ (List.range nbVars).filter (fun v => model[v]? == some 0),
      v < q.indices.length ∧ v < q.activity.length := by
    intro v hv
    rcases List.mem_append.mp hv with e | e
    · rcases List.mem_replicate.mp e with ⟨e1, e2⟩
      subst e2; omega
    · have := List.mem_range.mp (List.mem_filter.mp e).1; omega
  rcases build_spec h hb with ⟨q', hq', r⟩
  refine ⟨q', ?_, r, ?_⟩
  · unfold rebuildOrderHeap; rw [hl]; exact hq'
  · intro v hv hv0
    refine r.perm.mem_iff.mpr (List.mem_append_right _ (List.mem_filter.mpr ⟨List.mem_range.mpr hv, ?_⟩))
    simp [hv0]

/-- States the solver can reach: `newQueue`, then any operation under its precondition. -/
inductive Reach : Q → Prop
  | new {acts q} : newQueue acts = some q → Reach q
  | insert {q n q'} : Reach q → n < q.activity.length → insert q n = some q' → Reach q'
  | removeMin {q q' x} : Reach q → q.content ≠ [] → removeMin q = some (q', x) → Reach q'
  | bump {q n a q'} : Reach q → n < q.activity.length → bump q n a = some q' → Reach q'
  | build {q ns q'} : Reach q → (∀ v ∈ ns, v < q.indices.length ∧ v < q.activity.length) →
      build q ns = some q' → Reach q'
  | choose {q model q' r} : Reach q → (∀ x ∈ q.content, x < model.length) →
      chooseLit q model = some (q', r) → Reach q'
  | cleanup {q vs q'} : Reach q → (∀ v ∈ vs, v < q.activity.length) → cleanup q vs = some q' → Reach q'

theorem reach_qinv {q : Q} (h : Reach q) : QInv q := by
  induction h with
  | new he =>
    rcases newQueue_spec _ with ⟨q1, h1, i1, _⟩
    rw [h1] at he; cases he; exact i1
  | insert _ hn he ih =>
    rcases insert_spec ih hn with ⟨q1, h1, i1, _⟩
    rw [h1] at he; cases he; exact i1
  | removeMin _ hn he ih =>
    rcases removeMin_spec ih hn with ⟨q1, x1, h1, _, i1, _⟩
    rw [h1] at he; cases he; exact i1
  | bump _ hn he ih =>
    rcases bump_spec _ ih hn with ⟨q1, h1, i1, _⟩
    rw [h1] at he; cases he; exact i1
  | build _ hb he ih =>
    rcases build_spec ih hb with ⟨q1, h1, r⟩
    rw [h1] at he; cases he; exact r.inv
  | choose _ hm he ih =>
    rcases chooseLoop_spec _ _ _ ih (Nat.le_refl _) hm with ⟨q1, r1, _, h1, i1, _⟩
    unfold chooseLit at he
    rw [h1] at he; cases he; exact i1
  | cleanup _ hb he ih =>
    rcases cleanup_spec ih hb with ⟨q1, t, h1, i1, _⟩
    rw [h1] at he; cases he; exact i1

/-- No operation panics on a reachable state under its precondition (each `_spec` theorem gives the
    `some`); written out here for the operations of the decision loop. For `build`
    (`rebuildOrderHeap`, at every restart) it is `build_spec` with `reach_qinv`. -/
theorem reach_no_panic {q : Q} (h : Reach q) :
    (∀ n, n < q.activity.length → (insert q n).isSome) ∧
    (q.content ≠ [] → (removeMin q).isSome) ∧
    (∀ n a, n < q.activity.length → (bump q n a).isSome) ∧
    (∀ model, (∀ x ∈ q.content, x < model.length) → (chooseLit q model).isSome) ∧
    (∀ vs, (∀ v ∈ vs, v < q.activity.length) → (cleanup q vs).isSome) := by
  have hi := reach_qinv h
  refine ⟨?_, ?_, ?_, ?_, ?_⟩
  · intro n hn; rcases insert_spec hi hn with ⟨_, e, _⟩; simp [e]
  · intro hn; rcases removeMin_spec hi hn with ⟨_, _, e, _⟩; simp [e]
  · intro n a hn; rcases bump_spec a hi hn with ⟨_, e, _⟩; simp [e]
  · intro model hm
    rcases chooseLoop_spec _ _ _ hi (Nat.le_refl _) hm with ⟨_, _, _, e, _⟩
    simp [chooseLit, e]
  · intro vs hb; rcases cleanup_spec hi hb with ⟨_, _, e, _⟩; simp [e]

theorem reach_dup : Reach ⟨[0], [0, 0], [1]⟩ := by
  have h0 : Reach ⟨[0], [0], [0]⟩ := Reach.new (acts := [0]) (by decide +kernel)
  have h1 : Reach ⟨[0], [], [-1]⟩ := Reach.removeMin (x := 0) h0 (by decide +kernel) (by decide +kernel)
  exact Reach.cleanup (vs := [0]) h1 (by decide +kernel) (by decide +kernel)

def queue_nodup_statement : Prop := ∀ q, Reach q → q.content.Nodup

/-- One variable, decided and then unbound again by `cleanupBindings`: `content = [0, 0]`.
    (Replayed on the Go code: `queue 0 | 2 ; 9 0` answers `ok 0 0 | 1 | 0`.) -/
theorem queue_nodup_statement_false : ¬ queue_nodup_statement :=
  fun h => absurd (h _ reach_dup) (by decide +kernel)

/-- The converse of `contains_mem` fails on a reachable state: after `removeMin`, the value returned has index
    `-1` although another copy of it is still in `content`. -/
theorem mem_not_contains_reachable : ∃ q n, Reach q ∧ n ∈ q.content ∧ contains q n = false := by
  refine ⟨⟨[0], [0], [-1]⟩, 0, ?_, by decide +kernel, by decide +kernel⟩
  exact Reach.removeMin (x := 0) reach_dup (by decide +kernel) (by decide +kernel)

/-- Non-vacuity: a reachable state with 4 variables (activities 1 3 2 3) meets the hypotheses of `chooseLit_complete`
    against the model "variables 1 and 3 bound", and the loop picks variable 2. -/
example : ∃ q, newQueue [1, 3, 2, 3] = some q ∧ QInv q ∧ (∀ x ∈ q.content, x < [0, 1, 0, -2].length) ∧
    Covers q 4 [0, 1, 0, -2] ∧ (chooseLit q [0, 1, 0, -2]).map Prod.snd = some (some 2) := by
  rcases newQueue_spec [1, 3, 2, 3] with ⟨q, hq, hi, _, _, hp⟩
  refine ⟨q, hq, hi, ?_, ?_, ?_⟩
  · intro x hx; have := List.mem_range.mp (hp.mem_iff.mp hx); simpa using this
  · intro v hv _; exact hp.mem_iff.mpr (List.mem_range.mpr hv)
  · have e : newQueue [1, 3, 2, 3] = some ⟨[1, 3, 2, 3], [1, 3, 2, 0], [3, 0, 2, 1]⟩ := by decide +kernel
    cases hq.symm.trans e
    decide +kernel

example : QInv ⟨[5, 5], [0, 1, 1], [0, 2]⟩ :=
  reach_qinv (Reach.cleanup (vs := [1]) (q := ⟨[5, 5], [0], [0, -1]⟩)
    (Reach.removeMin (x := 0) (q := ⟨[5, 5], [0, 1], [0, 1]⟩) (Reach.new (acts := [5, 5]) (by decide +kernel)) (by decide +kernel) (by decide +kernel)
      |> fun h => Reach.removeMin (x := 1) (q := ⟨[5, 5], [1], [-1, 0]⟩) h (by decide +kernel) (by decide +kernel)
      |> fun h => Reach.insert (n := 0) (q := ⟨[5, 5], [], [-1, -1]⟩) h (by decide +kernel) (by decide +kernel))
    (by decide +kernel) (by decide +kernel))

example : rebuildOrderHeap ⟨[1, 2, 3], [2, 0, 1], [1, 2, 0]⟩ 3 [0, 1, 0]
    = some ⟨[1, 2, 3], [2, 0, 0, 0, 0], [1, -1, 0]⟩ := by decide +kernel

/-! ## HEURISTIC PART (never affects answers): heap order. Only `heapOrd_root_max` is proved; the
preservation statements are kept as `def … _statement : Prop` and are NOT proved. They assume
`Nodup`, which fails on reachable states (`queue_nodup_statement_false`; `rebuildOrderHeap` hands
`build` a list that starts with `nbVars` zeros), so as stated they do not chain along `Reach`. -/

/-- Parent not `lt`-after child: `activity[content[parent(j)]] ≥ activity[content[j]]`. -/
def HeapOrd (q : Q) : Prop :=
  ∀ (j c p : Nat), 0 < j → q.content[j]? = some c → q.content[(j - 1) / 2]? = some p → lt q c p = some false

theorem lt_false_iff {q : Q} {i j : Nat} :
    lt q i j = some false ↔ ∃ x y, q.activity[i]? = some x ∧ q.activity[j]? = some y ∧ x ≤ y := by
  unfold lt
  cases q.activity[i]? <;> cases q.activity[j]? <;> simp [Int.not_lt]

theorem lt_false_trans {q : Q} {a b c : Nat} (h1 : lt q a b = some false) (h2 : lt q b c = some false) :
    lt q a c = some false := by
  obtain ⟨x, y, hx, hy, hxy⟩ := lt_false_iff.1 h1
  obtain ⟨y', z, hy', hz, hyz⟩ := lt_false_iff.1 h2
  cases hy.symm.trans hy'
  exact lt_false_iff.2 ⟨x, z, hx, hz, Int.le_trans hxy hyz⟩

/-- Under the heap order the root (the value `removeMin` returns, see `removeMin_spec`) has a maximal activity. -/
theorem heapOrd_root_max {q : Q} {x : Nat} (hb : ∀ y ∈ q.content, y < q.activity.length) (ho : HeapOrd q)
    (hx : q.content[0]? = some x) : ∀ y ∈ q.content, lt q y x = some false := by
  have key : ∀ (j : Nat) (y : Nat), q.content[j]? = some y → lt q y x = some false := by
    intro j
    induction j using Nat.strongRecOn with
    | _ j ih =>
      intro y hy
      by_cases hj : j = 0
      · subst hj
        rw [hx] at hy; cases hy
        have hxa := hb x (List.mem_of_getElem? hx)
        exact lt_false_iff.2 ⟨_, _, List.getElem?_eq_getElem hxa, List.getElem?_eq_getElem hxa, Int.le_refl _⟩
      · have hjl := (List.getElem?_eq_some_iff.mp hy).1
        have hp : (j - 1) / 2 < q.content.length := by omega
        have hpe := List.getElem?_eq_getElem hp
        exact lt_false_trans (ho j y _ (by omega) hy hpe) (ih _ (by omega) _ hpe)
  intro y hy
  rcases List.mem_iff_getElem?.mp hy with ⟨j, hj⟩
  exact key j y hj

def insert_heap_statement : Prop := ∀ q n q', QInv q → q.content.Nodup → n ∉ q.content → HeapOrd q →
  n < q.activity.length → insert q n = some q' → HeapOrd q'
def removeMin_heap_statement : Prop := ∀ q q' x, QInv q → q.content.Nodup → HeapOrd q →
  removeMin q = some (q', x) → HeapOrd q'
def bump_heap_statement : Prop := ∀ q n a a0 q', QInv q → q.content.Nodup → HeapOrd q →
  q.activity[n]? = some a0 → a0 ≤ a → bump q n a = some q' → HeapOrd q'
def build_heap_statement : Prop := ∀ q ns q', QInv q → ns.Nodup →
  (∀ v ∈ ns, v < q.indices.length ∧ v < q.activity.length) → build q ns = some q' → HeapOrd q'

section Axioms
#print axioms heapOrd_root_max
#print axioms percolateUp_spec
#print axioms percolateDown_spec
#print axioms decrease_spec
#print axioms bump_spec
#print axioms insert_spec
#print axioms newQueue_spec
#print axioms removeMin_spec
#print axioms chooseLit_complete
#print axioms chooseLit_covers_after
#print axioms cleanup_spec
#print axioms cleanup_covers
#print axioms build_spec
#print axioms rebuildOrderHeap_spec
#print axioms upLoop_fuel
#print axioms downLoop_fuel
#print axioms reach_qinv
#print axioms reach_no_panic
#print axioms queue_nodup_statement_false
#print axioms mem_not_contains_reachable
end Axioms

end GS.Queue
