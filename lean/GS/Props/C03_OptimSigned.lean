import GS.Model.OptimSigned
import GS.Props.C03_Optim
/-!
# C03 (signed) — the repaired optimisation loop of `Optimal` / `Minimize` returns the true minimum
for integer cost weights of EITHER sign

Model: `GS/Model/OptimSigned.lean` (mirror of the Go code since the fix cd6dcdb). No hypothesis on the
weights anywhere below (negative, zero, positive, repeated variables, `l` and `¬l` both present):
the only hypothesis on the cost function is `LitsNZ f` (literals are non-zero, always true for Go
`Lit`s). It is asked of all terms, although only those of weight `≥ 0` need it
(`boundS_sem_needs_nz` and the example after it).

`minCost ≤ cost ≤ maxCost` for every assignment (`negSum_le_cost`, `cost_le_posSum`), so the
degree given to `NewPBClause` is always `≥ 1` and the panic branch is dead for any oracle
(`loopS_no_panic`), and leaving at `cost == minCost` is right. The loop is `Optim.loopG` with
`lo = minCost`, `hi = maxCost`; the main theorem is `minimizeS_optimal`. On non-negative weights
the repaired loop is the loop of `GS/Model/Optim.lean` (`loopS_eq_loop_of_nonneg`). `Minimize() == -1` does not
distinguish Unsat from an optimum of −1 (`minimizeResult_ambiguous`).
-/
namespace GS.OptimS
open GS GS.Optim

theorem termVal_normTerm (a : Asg) (t : Int × Int) (h : t.2 ≠ 0) :
    termVal a (normTerm t) = (if t.1 < 0 then 0 else t.1) - termVal a t := by
  unfold normTerm
  split
  · simp only [termVal]; split <;> omega
  · exact termVal_neg a t h

theorem lhs_normTerms (a : Asg) : ∀ f : List (Int × Int), LitsNZ f →
    lhs a (normTerms f) = posSum f - cost f a
  | [], _ => rfl
  | t :: ts, h => by
    have ih := lhs_normTerms a ts h.tail
    unfold cost at ih ⊢
    simp only [normTerms, List.map_cons, lhs, posSum] at ih ⊢
    rw [ih, termVal_normTerm a t (h t List.mem_cons_self)]
    omega

theorem boundConstrS_sem (f : List (Int × Int)) (c : Int) (a : Asg) (hnz : LitsNZ f) :
    (boundConstrS f c).holds a = true ↔ cost f a ≤ c - 1 := by
  unfold Lin.holds boundConstrS
  simp only [decide_eq_true_eq, lhs_normTerms a f hnz]
  omega

theorem goBoundS_holds (f : List (Int × Int)) (c : Int) (a : Asg) :
    (goBoundS f c).holds a = (boundConstrS f c).holds a := by
  unfold Lin.holds goBoundS boundConstrS hypothesisS
  simp only [lhs_stripZeros, lhs_sortDesc]

theorem boundS_sem (f : List (Int × Int)) (c : Int) (a : Asg) (hnz : LitsNZ f) :
    (goBoundS f c).holds a = true ↔ cost f a ≤ c - 1 := by
  rw [goBoundS_holds, boundConstrS_sem f c a hnz]

theorem boundS_sem_lt (f : List (Int × Int)) (c : Int) (a : Asg) (hnz : LitsNZ f) :
    (goBoundS f c).holds a = true ↔ cost f a < c := by
  rw [boundS_sem f c a hnz]; omega

example : LitsNZ [(3, 1), (-2, -1), (0, 2), (-5, 2), (-1, 3), (4, -3)] := by decide

/-- The constraint appended for `3·x1 − 2·¬x1 + 0·x2 − 5·x2` at cost 1:
    `maxCost = 3`, sign-normalised, sorted, degree `3 − 1 + 1`. -/
example : goBoundS [(3, 1), (-2, -1), (0, 2), (-5, 2)] 1 = ⟨[(5, 2), (3, -1), (2, -1)], 3⟩ ∧
    posSum [(3, 1), (-2, -1), (0, 2), (-5, 2)] = 3 ∧ negSum [(3, 1), (-2, -1), (0, 2), (-5, 2)] = -7 := by
  decide +kernel

/-- The non-zero-literal hypothesis is needed for a term of weight `≥ 0`
    (for the "literal" `0`, `[¬0] = [0]`) … -/
theorem boundS_sem_needs_nz : ¬ ((goBoundS [(1, 0)] 1).holds (fun _ => true) = true ↔
    cost [(1, 0)] (fun _ => true) ≤ 1 - 1) := by decide

/-- … but not for a term of negative weight (the literal is negated twice, i.e. not at all). -/
example : ∀ b : Bool, ((goBoundS [(-1, 0)] 0).holds (fun _ => b) = true ↔
    cost [(-1, 0)] (fun _ => b) ≤ 0 - 1) := by decide

/-- `minCost ≤ cost ≤ maxCost`, whatever the weights. -/
theorem cost_boundsS (f : List (Int × Int)) (a : Asg) : negSum f ≤ cost f a ∧ cost f a ≤ posSum f := by
  unfold cost
  induction f with
  | nil => exact ⟨Int.le_refl 0, Int.le_refl 0⟩
  | cons t ts ih =>
    simp only [lhs, termVal, negSum, posSum]
    split <;> split <;> omega

theorem negSum_le_cost (f : List (Int × Int)) (a : Asg) : negSum f ≤ cost f a := (cost_boundsS f a).1

theorem cost_le_posSum (f : List (Int × Int)) (a : Asg) : cost f a ≤ posSum f := (cost_boundsS f a).2

theorem negSum_le_posSum (f : List (Int × Int)) : negSum f ≤ posSum f :=
  Int.le_trans (negSum_le_cost f (fun _ => true)) (cost_le_posSum f _)

/-- The `if cost == minCost { break }` exit is correct. -/
theorem minimizeS_early_exit (p : Problem) (f : List (Int × Int)) (a : Asg)
    (ha : Problem.holds a p = true) (h0 : cost f a = negSum f) : IsOptimum p f a :=
  ⟨ha, fun b _ => by have := negSum_le_cost f b; omega⟩

/-- So `NewPBClause` cannot panic with "Invalid cardinality value", whatever the weights. -/
theorem goBoundS_degree_pos (f : List (Int × Int)) (a : Asg) :
    1 ≤ (goBoundS f (cost f a)).degree := by
  have := cost_le_posSum f a
  unfold goBoundS
  simp only
  omega

example : (goBoundS [(-1, 1), (1, 2)] (cost [(-1, 1), (1, 2)] (asgOf [false, true]))).degree = 1 := by
  decide

theorem loopS_eq_loopG (solveFn : Problem → Option Asg) (f : List (Int × Int)) :
    ∀ k p a, loopS solveFn f k p a = loopG solveFn f (negSum f) (posSum f) (goBoundS f) k p a := by
  intro k
  induction k with
  | zero => intro p a; rfl
  | succ k ih => intro p a; simp only [loopS, loopG, ih]; rfl

theorem optimalS_eq_optimalG (solveFn : Problem → Option Asg) (p : Problem) (f : List (Int × Int))
    (fuel : Nat) :
    optimalS solveFn p f fuel = optimalG solveFn f (negSum f) (posSum f) (goBoundS f) p fuel := by
  simp only [optimalS, optimalG, loopS_eq_loopG]
  rfl

theorem loopS_no_panic (solveFn : Problem → Option Asg) (f : List (Int × Int)) :
    ∀ (k : Nat) (q : Problem) (a : Asg), (loopS solveFn f k q a).stop ≠ .panic := by
  intro k q a h
  obtain ⟨h2, _, h5, _⟩ := loopG_shape solveFn f (negSum f) (posSum f) (goBoundS f) k q a _
    (loopS_eq_loopG solveFn f k q a).symm
  have := h5 h
  have := cost_le_posSum f (loopS solveFn f k q a).last.1
  omega

theorem loopS_last (solveFn : Problem → Option Asg) (f : List (Int × Int)) :
    ∀ (k : Nat) (q : Problem) (a : Asg),
    (loopS solveFn f k q a).stop ≠ .fuel →
    (loopS solveFn f k q a).stream.getLast? = some (loopS solveFn f k q a).last := fun k q a =>
  (loopG_shape solveFn f (negSum f) (posSum f) (goBoundS f) k q a _
    (loopS_eq_loopG solveFn f k q a).symm).2.2.2

section
variable (solveFn : Problem → Option Asg) (f : List (Int × Int)) (Q : Problem → Prop)
variable (hQ : ∀ q c, Q q → Q (q ++ [goBoundS f c]))
include hQ

/-- Both exits, Unsat and `cost == minCost`, yield a true optimum. -/
theorem loopS_result (hc : Contract Q solveFn) (hnz : LitsNZ f) :
    ∀ (k : Nat) (q : Problem) (a : Asg), Q q → Problem.holds a q = true →
    Problem.holds (loopS solveFn f k q a).last.1 q = true ∧
    (loopS solveFn f k q a).last.2 = cost f (loopS solveFn f k q a).last.1 ∧
    ((loopS solveFn f k q a).stop = .unsat → IsOptimum q f (loopS solveFn f k q a).last.1) ∧
    ((loopS solveFn f k q a).stop = .exit0 → (loopS solveFn f k q a).last.2 = negSum f ∧
        IsOptimum q f (loopS solveFn f k q a).last.1) := fun k q a hq ha =>
  have e := (loopS_eq_loopG solveFn f k q a).symm
  have ⟨_, _, h1, h3, _⟩ := loopG_spec solveFn f (negSum f) (posSum f) (goBoundS f) Q hQ
    (fun c a => boundS_sem f c a hnz) hc.sound k q a _ e hq ha
  have ⟨h2, h4, _⟩ := loopG_shape solveFn f (negSum f) (posSum f) (goBoundS f) k q a _ e
  ⟨h1, h2, fun hu => h3 hu hc.complete, fun h => ⟨h4 h, minimizeS_early_exit q f _ h1 (h2 ▸ h4 h)⟩⟩

theorem loopS_fuel (hs : ∀ q a, Q q → solveFn q = some a → Problem.holds a q = true)
    (hnz : LitsNZ f) :
    ∀ (k : Nat) (q : Problem) (a : Asg), Q q → Problem.holds a q = true →
    (cost f a - negSum f).toNat < k → (loopS solveFn f k q a).stop ≠ .fuel := fun k q a hq ha =>
  have ⟨_, _, _, _, h⟩ := loopG_spec solveFn f (negSum f) (posSum f) (goBoundS f) Q hQ
    (fun c a => boundS_sem f c a hnz) hs k q a _ (loopS_eq_loopG solveFn f k q a).symm hq ha
  h (negSum_le_cost f)

/-- `minimizeS_optimal` with the contract restricted to the problems satisfying `Q`
    (`Q := (·.wf n = true)` for the exhaustive oracle). -/
theorem optimalS_spec (hc : Contract Q solveFn) (hnz : LitsNZ f)
    (p : Problem) (hp : Q p) (fuel : Nat) (hfuel : enoughFuelS f ≤ fuel) (hsat : Satisfiable p) :
    ∃ a c s, optimalS solveFn p f fuel = .ok a c s ∧ IsOptimum p f a ∧ c = cost f a ∧
      s.getLast? = some (a, c) ∧ (s.map (·.2)).Pairwise (· > ·) ∧
      ∀ x ∈ s, Problem.holds x.1 p = true ∧ x.2 = cost f x.1 := by
  rw [optimalS_eq_optimalG]
  exact optimalG_spec solveFn f (negSum f) (posSum f) (goBoundS f) Q hQ
    (fun c a => boundS_sem f c a hnz) hc (negSum_le_cost f) (cost_le_posSum f) p hp fuel hfuel hsat

end

theorem optimalS_unsat_iff (solveFn : Problem → Option Asg) (f : List (Int × Int)) (Q : Problem → Prop)
    (hc : Contract Q solveFn) (p : Problem) (hp : Q p) (fuel : Nat) :
    optimalS solveFn p f fuel = .unsat ↔ ¬ Satisfiable p :=
  optimalS_eq_optimalG solveFn p f fuel ▸ optimalG_unsat_iff solveFn f _ _ _ Q hc p hp fuel

/-- C03 for the Go code since cd6dcdb: any integer weights, an oracle meeting `Contract` on every
    problem, fuel `≥ enoughFuelS f = maxCost − minCost + 2`. -/
theorem minimizeS_optimal (solveFn : Problem → Option Asg) (p : Problem) (f : List (Int × Int))
    (fuel : Nat) (hc : Contract (fun _ => True) solveFn) (hnz : LitsNZ f)
    (hfuel : enoughFuelS f ≤ fuel) :
    (optimalS solveFn p f fuel = .unsat ↔ ¬ Satisfiable p) ∧
    (Satisfiable p →
      ∃ a c s, optimalS solveFn p f fuel = .ok a c s ∧
        Problem.holds a p = true ∧ c = cost f a ∧ (∀ b, Problem.holds b p = true → c ≤ cost f b) ∧
        IsOptimum p f a ∧
        s.getLast? = some (a, c) ∧ (s.map (·.2)).Pairwise (· > ·) ∧
        ∀ x ∈ s, Problem.holds x.1 p = true ∧ x.2 = cost f x.1) ∧
    (∀ s, optimalS solveFn p f fuel ≠ .panic s) ∧
    (∀ s, optimalS solveFn p f fuel ≠ .fuel s) := by
  have hiff := optimalS_unsat_iff solveFn f _ hc p trivial fuel
  -- the outcome is `unsat` or `ok`, hence neither `panic` nor `fuel`
  by_cases hsat : Satisfiable p
  · obtain ⟨a, c, s, h, hopt, hcost, hl, hdec, hall⟩ :=
      optimalS_spec solveFn f (fun _ => True) (fun _ _ _ => trivial) hc hnz p trivial fuel hfuel hsat
    refine ⟨hiff, fun _ => ⟨a, c, s, h, hopt.1, hcost, fun b hb => hcost ▸ hopt.2 b hb,
      hopt, hl, hdec, hall⟩, ?_, ?_⟩ <;> rw [h] <;> exact fun _ => nofun
  · refine ⟨hiff, fun h => absurd h hsat, ?_, ?_⟩ <;> rw [hiff.2 hsat] <;> exact fun _ => nofun

theorem minimizeS_optimal' (solveFn : Problem → Option Asg) (p : Problem) (f : List (Int × Int))
    (fuel : Nat) (hc : Contract (fun _ => True) solveFn) (hnz : LitsNZ f)
    (hfuel : enoughFuelS f ≤ fuel) (hsat : Satisfiable p) :
    ∃ a c, minimizeS solveFn p f fuel = some (a, c) ∧ minimizeIntS solveFn p f fuel = some c ∧
      Problem.holds a p = true ∧ c = cost f a ∧
      (∀ b, Problem.holds b p = true → c ≤ cost f b) ∧ IsOptimum p f a := by
  obtain ⟨a, c, s, h, hm, hcost, hmin, hopt, _⟩ :=
    (minimizeS_optimal solveFn p f fuel hc hnz hfuel).2.1 hsat
  refine ⟨a, c, ?_, ?_, hm, hcost, hmin, hopt⟩
  · unfold minimizeS; rw [h]
  · unfold minimizeIntS; rw [h]; rfl

/-- On an unsatisfiable problem `Minimize()` returns −1. -/
theorem minimizeS_unsat (solveFn : Problem → Option Asg) (p : Problem) (f : List (Int × Int))
    (fuel : Nat) (hc : Contract (fun _ => True) solveFn) (hun : ¬ Satisfiable p) :
    optimalS solveFn p f fuel = .unsat ∧ minimizeS solveFn p f fuel = none ∧
      minimizeIntS solveFn p f fuel = some (-1) := by
  have h := (optimalS_unsat_iff solveFn f _ hc p trivial fuel).2 hun
  refine ⟨h, ?_, ?_⟩
  · unfold minimizeS; rw [h]
  · unfold minimizeIntS; rw [h]; rfl

/-- C20: the costs sent on the `results` channel are strictly decreasing — any integer weights,
    any fuel, an oracle that is merely sound. -/
theorem streamS_strictly_decreasing (solveFn : Problem → Option Asg) (p : Problem)
    (f : List (Int × Int)) (fuel : Nat)
    (hs : ∀ q a, solveFn q = some a → Problem.holds a q = true) (hnz : LitsNZ f) :
    (optimalS solveFn p f fuel).costs.Pairwise (· > ·) := by
  rw [optimalS_eq_optimalG]
  exact optimalG_costs solveFn f _ _ _ (fun _ => True) (fun _ _ _ => trivial)
    (fun c a => boundS_sem f c a hnz) (fun q a _ => hs q a) p trivial fuel

/-- No cost function (`s.minLits == nil`, or an empty one): the first model, cost 0. -/
theorem loopS_nil (solveFn : Problem → Option Asg) (k : Nat) (p : Problem) (a : Asg) :
    (loopS solveFn [] (k + 1) p a).last = (a, 0) ∧ (loopS solveFn [] (k + 1) p a).stop = .exit0 := by
  simp [loopS, cost, lhs, negSum]

theorem goBoundS_wf (n : Nat) (f : List (Int × Int)) (c : Int) (hf : termsWf n f = true) :
    (goBoundS f c).wf n = true := by
  refine List.all_eq_true.2 fun x hx => ?_
  obtain ⟨t, ht, rfl⟩ := List.mem_map.1 (mem_sortDesc x _ ((stripZeros_sublist _).subset hx))
  have := (termsWf_iff n f).1 hf t ht
  unfold normTerm
  split
  · exact this
  · rw [litOk_neg]; exact this

/-- The loop as the driver runs it (exhaustive oracle over `1..n`) agrees with the verified oracle
    `bruteOpt` on all well-formed inputs, whatever the weights. -/
theorem minimizeBruteS_eq_bruteOpt (n : Nat) (p : Problem) (f : List (Int × Int))
    (hp : p.wf n = true) (hf : termsWf n f = true) :
    minimizeBruteCostS n p f = bruteOpt n p f := by
  refine eq_bruteOpt n p f hp hf _ (fun hsat => ?_) (fun hun => ?_)
  · obtain ⟨a, c, s, h, hopt, hc, _⟩ := optimalS_spec (bruteSolve n) f (fun q => q.wf n = true)
      (fun q c hq => Problem.wf_append_one n q _ hq (goBoundS_wf n f c hf))
      (bruteSolve_contract n) (litsNZ_of_wf n f hf) p hp _ (Nat.le_refl (enoughFuelS f)) hsat
    refine ⟨a, hopt, ?_⟩
    unfold minimizeBruteCostS minimizeBruteS minimizeS
    rw [h, hc]; rfl
  · unfold minimizeBruteCostS minimizeBruteS minimizeS
    rw [(optimalS_unsat_iff (bruteSolve n) f _ (bruteSolve_contract n) p hp _).2 hun]
    rfl

theorem normTerms_of_nonneg : ∀ f : List (Int × Int), NonNeg f → normTerms f = negTerms f
  | [], _ => rfl
  | t :: ts, h => by
    have ih := normTerms_of_nonneg ts h.tail
    have : ¬ t.1 < 0 := Int.not_lt.2 (h t List.mem_cons_self)
    unfold normTerms negTerms at ih ⊢
    simp only [List.map_cons, ih, normTerm, this, if_false]

theorem posSum_of_nonneg : ∀ f : List (Int × Int), NonNeg f → posSum f = sumW f
  | [], _ => rfl
  | t :: ts, h => by
    have : ¬ t.1 < 0 := Int.not_lt.2 (h t List.mem_cons_self)
    simp only [posSum, sumW, posSum_of_nonneg ts h.tail, this, if_false]

theorem negSum_of_nonneg : ∀ f : List (Int × Int), NonNeg f → negSum f = 0
  | [], _ => rfl
  | t :: ts, h => by
    have : ¬ t.1 < 0 := Int.not_lt.2 (h t List.mem_cons_self)
    simp only [negSum, negSum_of_nonneg ts h.tail, this, if_false]
    rfl

theorem goBoundS_of_nonneg (f : List (Int × Int)) (h : NonNeg f) : goBoundS f = goBound f := by
  funext c
  unfold goBoundS goBound hypothesisS hypothesis
  rw [normTerms_of_nonneg f h, posSum_of_nonneg f h]

/-- So the theorems of `C03_Optim.lean` are statements about the repaired Go code when every weight
    is `≥ 0`. -/
theorem loopS_eq_loop_of_nonneg (solveFn : Problem → Option Asg) (f : List (Int × Int))
    (h : NonNeg f) : ∀ (k : Nat) (q : Problem) (a : Asg),
    loopS solveFn f k q a = loop solveFn f k q a := by
  intro k q a
  rw [loopS_eq_loopG, loop_eq_loopG, negSum_of_nonneg f h, posSum_of_nonneg f h,
    goBoundS_of_nonneg f h]

theorem optimalS_eq_optimal_of_nonneg (solveFn : Problem → Option Asg) (p : Problem)
    (f : List (Int × Int)) (fuel : Nat) (h : NonNeg f) :
    optimalS solveFn p f fuel = optimal solveFn p f fuel := by
  rw [optimalS_eq_optimalG, optimal_eq_optimalG, negSum_of_nonneg f h, posSum_of_nonneg f h,
    goBoundS_of_nonneg f h]

theorem enoughFuelS_of_nonneg (f : List (Int × Int)) (h : NonNeg f) : enoughFuelS f = enoughFuel f := by
  unfold enoughFuelS enoughFuel
  rw [negSum_of_nonneg f h, posSum_of_nonneg f h, Int.sub_zero]

example : NonNeg [(3, 1), (2, 2), (0, 3), (2, -3)] := by decide

theorem hypothesisS_sorted (f : List (Int × Int)) :
    (hypothesisS f).Pairwise (fun x y => x.1 ≥ y.1) :=
  List.Pairwise.sublist (stripZeros_sublist _) (sortDesc_sorted _)

/-- After the sign normalisation every weight is `≥ 0`, so the zero-stripping removes all zero
    weights, as `NewPBClause` expects (not so before the fix with negative weights: last example
    of `C03_Optim.lean`). -/
theorem hypothesisS_pos (f : List (Int × Int)) : ∀ x ∈ hypothesisS f, 0 < x.1 := by
  apply stripZeros_pos _ (sortDesc_sorted _)
  intro t ht
  obtain ⟨u, hu, rfl⟩ := List.mem_map.1 (mem_sortDesc t _ ht)
  unfold normTerm
  split <;> simp only <;> omega

example : hypothesisS [(0, 1), (-1, 2)] = [(1, 2)] := by decide

/-- `Minimize()` returns −1 both for an unsatisfiable problem
    (`x1 ∧ ¬x1`, cost `−1·x1`) and for a satisfiable one whose optimum is −1 (no constraint, cost
    `−1·x1`): the integer result alone does not tell them apart (the doc comment of `Minimize` says
    "If no model can be found, it will return a cost of -1"). `Optimal` is not affected
    (`Status` is reported separately). -/
theorem minimizeResult_ambiguous :
    minimizeBruteIntS 1 [Lin.ofClause [1], Lin.ofClause [-1]] [(-1, 1)] = some (-1) ∧
    bruteOpt 1 [Lin.ofClause [1], Lin.ofClause [-1]] [(-1, 1)] = none ∧
    minimizeBruteIntS 1 [] [(-1, 1)] = some (-1) ∧
    bruteOpt 1 [] [(-1, 1)] = some (-1) := by decide

/-- Hypotheses of `minimizeS_optimal` / `minimizeBruteS_eq_bruteOpt` on a non-trivial input:
    `x1 ∨ x2`, `¬x1 ∨ x3`, cost `3·x1 − 2·x2 + 0·x3 − 4·¬x3 + 1·x2`. -/
example : Problem.wf 3 [Lin.ofClause [1, 2], Lin.ofClause [-1, 3]] = true ∧
    termsWf 3 [(3, 1), (-2, 2), (0, 3), (-4, -3), (1, 2)] = true ∧
    LitsNZ [(3, 1), (-2, 2), (0, 3), (-4, -3), (1, 2)] ∧
    enoughFuelS [(3, 1), (-2, 2), (0, 3), (-4, -3), (1, 2)] = 12 := by decide +kernel

example : minimizeBruteCostS 3 [Lin.ofClause [1, 2], Lin.ofClause [-1, 3]]
      [(3, 1), (-2, 2), (0, 3), (-4, -3), (1, 2)] = some (-5) ∧
    (optimalBruteS 3 [Lin.ofClause [1, 2], Lin.ofClause [-1, 3]]
      [(3, 1), (-2, 2), (0, 3), (-4, -3), (1, 2)]).costs = [-5] ∧
    bruteOpt 3 [Lin.ofClause [1, 2], Lin.ofClause [-1, 3]]
      [(3, 1), (-2, 2), (0, 3), (-4, -3), (1, 2)] = some (-5) := by
  decide +kernel

/-- The input of `negative_weight_counterexample` (cost `−1·x1`, no constraint): the repaired loop
    streams `0, −1` and returns the true optimum −1 (the loop before the fix returned 0). -/
example : minimizeBruteCostS 1 [] [(-1, 1)] = some (-1) ∧
    (optimalBruteS 1 [] [(-1, 1)]).costs = [0, -1] ∧
    bruteOpt 1 [] [(-1, 1)] = some (-1) ∧
    minimizeBruteCost 1 [] [(-1, 1)] = some 0 := by decide +kernel

/-- The input of `negative_weight_panic` (cost `−1·x1 + 1·x2` under the clause `x2`): no panic,
    the degree at cost 1 is `1 − 1 + 1 = 1`, the result is the true optimum 0. -/
example : (optimalBruteS 2 [Lin.ofClause [2]] [(-1, 1), (1, 2)]).minimizeResult = some 0 ∧
    (optimalBruteS 2 [Lin.ofClause [2]] [(-1, 1), (1, 2)]).costs = [1, 0] ∧
    goBoundS [(-1, 1), (1, 2)] 1 = ⟨[(1, 1), (1, -2)], 1⟩ ∧
    bruteOpt 2 [Lin.ofClause [2]] [(-1, 1), (1, 2)] = some 0 := by decide +kernel

/-- Mixed signs, a repeated variable with both polarities, a cardinality constraint:
    `x1 + x2 + x3 ≥ 2`, cost `−3·x1 + 2·x2 − 1·¬x2 + 4·x3 + 2·¬x1`. -/
example : minimizeBruteCostS 3 [Lin.ofCard [1, 2, 3] 2] [(-3, 1), (2, 2), (-1, -2), (4, 3), (2, -1)]
      = some (-1) ∧
    bruteOpt 3 [Lin.ofCard [1, 2, 3] 2] [(-3, 1), (2, 2), (-1, -2), (4, 3), (2, -1)] = some (-1) ∧
    (optimalBruteS 3 [Lin.ofCard [1, 2, 3] 2] [(-3, 1), (2, 2), (-1, -2), (4, 3), (2, -1)]).costs
      = [8, 0, -1] := by
  decide +kernel

/-- All weights negative, constraint `¬x1 ∨ ¬x2`: the loop leaves through Unsat (cost −3 ≠ minCost −5). -/
example : minimizeBruteCostS 2 [Lin.ofClause [-1, -2]] [(-2, 1), (-3, 2)] = some (-3) ∧
    negSum [(-2, 1), (-3, 2)] = -5 ∧
    (optimalBruteS 2 [Lin.ofClause [-1, -2]] [(-2, 1), (-3, 2)]).costs = [0, -3] := by
  decide +kernel

#print axioms boundS_sem
#print axioms goBoundS_holds
#print axioms negSum_le_cost
#print axioms cost_le_posSum
#print axioms goBoundS_degree_pos
#print axioms loopS_no_panic
#print axioms loopS_result
#print axioms loopS_fuel
#print axioms minimizeS_optimal
#print axioms minimizeS_optimal'
#print axioms minimizeS_unsat
#print axioms streamS_strictly_decreasing
#print axioms loopS_last
#print axioms minimizeBruteS_eq_bruteOpt
#print axioms loopS_eq_loop_of_nonneg
#print axioms hypothesisS_pos
#print axioms minimizeResult_ambiguous

end GS.OptimS
