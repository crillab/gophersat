import GS.Model.CnfBytes
import GS.Model.Formats
import GS.Props.C01_Simplify
/-!
# C13 — DIMACS texts, byte level: `solver.ParseCNF` reads every layout of a well-formed file

`GS.Formats.parseCnf_render` is stated on lines of tokens (lexing trusted). Here the
same property is proved for the byte-level mirror `GS.CnfBytes.parseCnfBytes` of
`/repo/solver/parser.go` (`ParseCNF`, `readInt`, `parseHeader`, `isSpace`, and `strings.Fields`,
`strconv.Atoi`, `ReadString` on byte strings).

## The byte layouts covered (`renderBytes d lay`, `lay.ok`)

    <fillers> p <ws0> cnf <ws1> [+]0*<nbVars> <ws2> [+]0*<nbClauses> <ws3> \n <fillers>
    <clause> … <clause> <end>

* a *filler* is a blank (any string over `' ' \t \n \r`) or a comment `c<any bytes but \n>\n`;
  fillers are legal exactly where the reader is *between* two clauses: at the start of the text,
  after the header line, and after the byte that follows the terminating `0` of a clause — so
  also on the line of that `0` (`1 2 0 c note`), and before a clause on its line. They are **not**
  legal between the literals of a clause (`readInt` then meets `c`: "not a digit", see
  `parse_comment_inside_clause`), and a `c` glued to the `0` is an error too;
* `ws0 ws1 ws2`: non-empty strings over `' '` and `\t` (for `ws0` this is the layout's choice, not
  a need: `pcnf 3 2` is read as well); `ws3`: any string over `' ' \t \r` (so `\r\n` line ends
  are covered);
* numbers of the header: optional `+`, any number of leading zeros (`strconv.Atoi` accepts both);
* a *clause* is `lit sep lit sep … 0 t fillers`: a literal is `[-]0*digits` (leading zeros are
  accepted, a `+` is **not**: `parse_plus_literal`), `sep` any non-empty string over
  `' ' \t \n \r` (a clause may span lines, clauses may share a line, `\r\n` inside), `t` one byte
  of `' ' \t \n \r`;
* the *end*: `full tail` (everything terminated; `tail` an optional last comment without `\n`),
  `bare` (the text stops right after the last `0`, resp. after the header line when there is no
  clause: no final newline), `noZero ws` (the last clause, if it has a literal, lacks its `0`;
  it is followed by the blanks `ws`).

`parseBytes_render_sem` composes `parseBytes_render` with `GS.Simplify.simplify2_spec`: the
`*Problem` returned by `ParseCNF` has the models of the text.
-/
namespace GS.CnfBytes
open GS GS.Formats

def decBytes (n : Nat) : List Nat := (Nat.toDigits 10 n).map Char.toNat

inductive Filler where
  | blank (ws : List Nat)
  | comment (body : List Nat)
deriving Repr, Inhabited

def Filler.bytes : Filler → List Nat
  | .blank ws => ws
  | .comment body => 99 :: (body ++ [10])

def Filler.ok : Filler → Bool
  | .blank ws => ws.all isSpace
  | .comment body => body.all (fun b => b != 10)

def fillersBytes : List Filler → List Nat
  | [] => []
  | f :: fs => f.bytes ++ fillersBytes fs

structure NumLayout where
  plus : Bool := false
  zeros : Nat := 0
deriving Repr, Inhabited

def NumLayout.bytes (l : NumLayout) (n : Nat) : List Nat :=
  (if l.plus then [43] else []) ++ (List.replicate l.zeros 48 ++ decBytes n)

structure LitLayout where
  zeros : Nat := 0
  sep : List Nat := [32]
deriving Repr, Inhabited

def LitLayout.ok (l : LitLayout) : Bool := !l.sep.isEmpty && l.sep.all isSpace

def litBytes (v : Int) (zeros : Nat) : List Nat :=
  (if v < 0 then [45] else []) ++ (List.replicate zeros 48 ++ decBytes v.natAbs)

def litsBytes : List Int → List LitLayout → List Nat
  | [], _ => []
  | v :: vs, ls => litBytes v (ls.headD {}).zeros ++ ((ls.headD {}).sep ++ litsBytes vs ls.tail)

/-- The literals of a clause whose terminating `0` is left out: `tr` follows the last one. -/
def litsBytesOpen (tr : List Nat) : List Int → List LitLayout → List Nat
  | [], _ => []
  | [v], ls => litBytes v (ls.headD {}).zeros ++ tr
  | v :: v' :: vs, ls =>
    litBytes v (ls.headD {}).zeros ++ ((ls.headD {}).sep ++ litsBytesOpen tr (v' :: vs) ls.tail)

structure ClauseLay where
  lits : List LitLayout := []
  zeros : Nat := 0
  term : Nat := 10
  after : List Filler := []
deriving Repr, Inhabited

def ClauseLay.ok (l : ClauseLay) : Bool := l.lits.all (·.ok) && isSpace l.term && l.after.all (·.ok)

def zeroBytes (zeros : Nat) : List Nat := List.replicate zeros 48 ++ [48]

def clauseBytes (c : List Int) (l : ClauseLay) : List Nat :=
  litsBytes c l.lits ++ (zeroBytes l.zeros ++ l.term :: fillersBytes l.after)

inductive Ending where
  | full (tail : Option (List Nat))
  | bare
  | noZero (trailing : List Nat)
deriving Repr, Inhabited

def Ending.ok : Ending → Bool
  | .full none => true
  | .full (some body) => body.all (fun b => b != 10)
  | .bare => true
  | .noZero tr => tr.all isSpace

def tailBytes : Option (List Nat) → List Nat
  | none => []
  | some body => 99 :: body

def lastClauseBytes (c : List Int) (l : ClauseLay) : Ending → List Nat
  | .full tail => clauseBytes c l ++ tailBytes tail
  | .bare => litsBytes c l.lits ++ zeroBytes l.zeros
  | .noZero tr => if c.isEmpty then clauseBytes c l else litsBytesOpen tr c l.lits

def clausesBytes : List (List Int) → List ClauseLay → Ending → List Nat
  | [], _, _ => []
  | [c], ls, e => lastClauseBytes c (ls.headD {}) e
  | c :: c' :: cs, ls, e => clauseBytes c (ls.headD {}) ++ clausesBytes (c' :: cs) ls.tail e

structure ByteLayout where
  before : List Filler := []
  ws0 : List Nat := [32]
  ws1 : List Nat := [32]
  ws2 : List Nat := [32]
  ws3 : List Nat := []
  vars : NumLayout := {}
  cls : NumLayout := {}
  afterHeader : List Filler := []
  clauses : List ClauseLay := []
  ending : Ending := .full none
deriving Repr, Inhabited

def hws (ws : List Nat) : Bool := !ws.isEmpty && ws.all (fun b => b == 32 || b == 9)

def ByteLayout.ok (lay : ByteLayout) : Bool :=
  lay.before.all (·.ok) && hws lay.ws0 && hws lay.ws1 && hws lay.ws2 &&
    lay.ws3.all (fun b => b == 32 || b == 9 || b == 13) &&
    lay.afterHeader.all (·.ok) && lay.clauses.all (·.ok) && lay.ending.ok

/-- The header line without its `p` and without its line end. -/
def headerLine (d : Dimacs) (lay : ByteLayout) : List Nat :=
  lay.ws0 ++ ([99, 110, 102] ++ (lay.ws1 ++ (lay.vars.bytes d.nbVars ++ (lay.ws2 ++
    (lay.cls.bytes d.clauses.length ++ lay.ws3)))))

def bodyBytes (d : Dimacs) (lay : ByteLayout) : List Nat :=
  match d.clauses, lay.ending with
  | [], .bare => []
  | [], .full tail => 10 :: (fillersBytes lay.afterHeader ++ tailBytes tail)
  | [], .noZero tr => 10 :: (fillersBytes lay.afterHeader ++ tr)
  | c :: cs, e => 10 :: (fillersBytes lay.afterHeader ++ clausesBytes (c :: cs) lay.clauses e)

def renderBytes (d : Dimacs) (lay : ByteLayout) : List Nat :=
  fillersBytes lay.before ++ (112 :: (headerLine d lay ++ bodyBytes d lay))

theorem all_mono {α : Type} {P Q : α → Bool} (h : ∀ a, P a = true → Q a = true) {l : List α}
    (hl : l.all P = true) : l.all Q = true :=
  all_imp_mem (fun a _ => h a) hl

theorem ne_of_class {P : Nat → Bool} {b k : Nat} (hb : P b = true) (hk : P k = false) : b ≠ k := by
  intro e
  rw [e, hk] at hb
  cases hb

theorem all_ne_of_all {P : Nat → Bool} {l : List Nat} (hl : l.all P = true) {k : Nat} (hk : P k = false) :
    l.all (· != k) = true := by
  rw [List.all_eq_true] at hl ⊢
  exact fun b hb => bne_iff_ne.mpr (ne_of_class (hl b hb) hk)

theorem head?_ne_of_all {P : Nat → Bool} {l : List Nat} (hl : l.all P = true) {k : Nat} (hk : P k = false) :
    l.head? ≠ some k := by
  intro e
  exact ne_of_class (List.all_eq_true.mp hl k (List.mem_of_head? e)) hk rfl

theorem isDigit_iff {b : Nat} : isDigit b = true ↔ 48 ≤ b ∧ b ≤ 57 := by
  simp [isDigit]

theorem not_space_of_digit {b : Nat} (h : isDigit b = true) : isSpace b = false := by
  rw [isDigit_iff] at h
  simp only [isSpace, Bool.or_eq_false_iff, beq_eq_false_iff_ne]
  omega

theorem run_append {st st' : St} {xs : List Nat} (ys : List Nat) (h : run st xs = .ok st') :
    run st (xs ++ ys) = run st' ys := by
  induction xs generalizing st with
  | nil => simp only [run, Except.ok.injEq] at h; subst h; rfl
  | cons x xs ih =>
    simp only [run, List.cons_append] at h ⊢
    cases hs : step st x with
    | error e => rw [hs] at h; cases h
    | ok s1 => rw [hs] at h; simp only; exact ih h

theorem run_cons_ok {st st' : St} {b : Nat} (bs : List Nat) (h : step st b = .ok st') :
    run st (b :: bs) = run st' bs := by
  simp only [run, h]

theorem run_stay {st : St} {P : Nat → Bool} (hP : ∀ b, P b = true → step st b = .ok st) :
    ∀ l : List Nat, l.all P = true → run st l = .ok st
  | [], _ => rfl
  | b :: l, h => by
    rw [List.all_cons, Bool.and_eq_true] at h
    rw [run_cons_ok l (hP b h.1)]
    exact run_stay hP l h.2

/-- The state at another program point. -/
def St.at (st : St) (m : Mode) : St := { st with mode := m }

def St.push (st : St) (cs : List (List Int)) : St := { st with clauses := st.clauses ++ cs }

theorem St.push_push (st : St) (xs ys : List (List Int)) : (st.push xs).push ys = st.push (xs ++ ys) := by
  simp only [St.push, List.append_assoc]

section
variable {st : St}

theorem run_blank (ws : List Nat) (h : ws.all isSpace = true) :
    run (st.at .top) ws = .ok (st.at .top) := by
  refine run_stay (fun b hb => ?_) ws h
  have h1 : b ≠ 99 := ne_of_class hb rfl
  have h2 : b ≠ 112 := ne_of_class hb rfl
  simp only [step, St.at, h1, h2, if_false, hb, if_true]

theorem run_comment_body (body : List Nat) (h : body.all (· != 10) = true) :
    run (st.at .comment) body = .ok (st.at .comment) := by
  refine run_stay (fun b hb => ?_) body h
  simp only [step, St.at, bne_iff_ne.mp hb, if_false]

theorem run_filler (f : Filler) (hf : f.ok = true) :
    run (st.at .top) f.bytes = .ok (st.at .top) := by
  cases f with
  | blank ws => exact run_blank ws hf
  | comment body =>
    rw [Filler.bytes, run_cons_ok (st' := (st.at .comment)) _ rfl, run_append [10] (run_comment_body body hf)]
    rfl

theorem run_fillers : ∀ fs : List Filler, fs.all (·.ok) = true →
    run (st.at .top) (fillersBytes fs) = .ok (st.at .top)
  | [], _ => rfl
  | f :: fs, h => by
    rw [List.all_cons, Bool.and_eq_true] at h
    rw [fillersBytes, run_append _ (run_filler f h.1)]
    exact run_fillers fs h.2

end

def dval (acc : Nat) (ds : List Nat) : Nat := ds.foldl (fun a b => 10 * a + (b - 48)) acc

theorem digitsVal_eq (ds : List Nat) : digitsVal ds = dval 0 ds := rfl

theorem dval_append (acc : Nat) (xs ys : List Nat) : dval acc (xs ++ ys) = dval (dval acc xs) ys :=
  List.foldl_append

theorem dval_zeros (z : Nat) : dval 0 (List.replicate z 48) = 0 := by
  induction z with
  | zero => rfl
  | succ z ih => rw [List.replicate_succ]; exact ih

theorem dval_decBytes (n : Nat) : dval 0 (decBytes n) = n := by
  have h := @Nat.ofDigitChars_ten_toDigits n
  rw [Nat.ofDigitChars_eq_foldl] at h
  unfold dval decBytes
  rw [List.foldl_map]
  exact h

theorem dval_num (z n : Nat) : dval 0 (List.replicate z 48 ++ decBytes n) = n := by
  rw [dval_append, dval_zeros, dval_decBytes]

theorem le_dval : ∀ (ds : List Nat) (acc : Nat), acc ≤ dval acc ds
  | [], _ => Nat.le_refl _
  | d :: ds, acc => Nat.le_trans (by omega) (le_dval ds (10 * acc + (d - 48)))

def IsDigits (ds : List Nat) : Prop := ds ≠ [] ∧ ds.all isDigit = true

theorem IsDigits.cons {ds : List Nat} (h : IsDigits ds) : ∃ d r, ds = d :: r ∧ isDigit d = true ∧ r.all isDigit = true := by
  cases ds with
  | nil => exact absurd rfl h.1
  | cons d r => exact ⟨d, r, rfl, by simpa using h.2⟩

theorem decBytes_digit {n b : Nat} (h : b ∈ decBytes n) : isDigit b = true := by
  simp only [decBytes, List.mem_map] at h
  obtain ⟨c, hc, rfl⟩ := h
  have hd : c.isDigit = true := Nat.isDigit_of_mem_toDigits (by decide) (by decide) hc
  simp only [Char.isDigit, Bool.and_eq_true, decide_eq_true_eq] at hd
  exact isDigit_iff.mpr ⟨UInt32.le_iff_toNat_le.mp hd.1, UInt32.le_iff_toNat_le.mp hd.2⟩

theorem decBytes_ne_nil (n : Nat) : decBytes n ≠ [] := by
  simp [decBytes, Nat.toDigits_ne_nil]

theorem isDigits_num (z n : Nat) : IsDigits (List.replicate z 48 ++ decBytes n) := by
  refine ⟨fun h => decBytes_ne_nil n (List.append_eq_nil_iff.mp h).2, ?_⟩
  rw [List.all_append, List.all_replicate, List.all_eq_true.mpr fun b => decBytes_digit]
  split <;> rfl

theorem atoi_digits {ds : List Nat} {n : Nat} (h : IsDigits ds) (hn : dval 0 ds = n) (hv : n < 9223372036854775808) :
    atoi ds = some (n : Int) := by
  obtain ⟨d, r, rfl, hd, hr⟩ := h.cons
  have h1 : d ≠ 45 := ne_of_class hd rfl
  have h2 : d ≠ 43 := ne_of_class hd rfl
  simp [atoi, splitSign, h1, h2, hd, hr, digitsVal_eq, hn, hv]

theorem atoi_plus_digits {ds : List Nat} {n : Nat} (h : IsDigits ds) (hn : dval 0 ds = n)
    (hv : n < 9223372036854775808) : atoi (43 :: ds) = some (n : Int) := by
  simp [atoi, splitSign, h.1, h.2, digitsVal_eq, hn, hv]

theorem atoi_minus_digits {ds : List Nat} {n : Nat} (h : IsDigits ds) (hn : dval 0 ds = n)
    (hv : n ≤ 9223372036854775808) : atoi (45 :: ds) = some (-(n : Int)) := by
  simp [atoi, splitSign, h.1, h.2, digitsVal_eq, hn, hv]

theorem atoi_num (l : NumLayout) (n : Nat) (hn : n < 9223372036854775808) :
    atoi (l.bytes n) = some (n : Int) := by
  unfold NumLayout.bytes
  cases l.plus with
  | false => exact atoi_digits (isDigits_num _ n) (dval_num _ n) hn
  | true => exact atoi_plus_digits (isDigits_num _ n) (dval_num _ n) hn

def isWord (b : Nat) : Bool := decide (b < 128) && !asciiSpace b

def IsField (w : List Nat) : Prop := w ≠ [] ∧ w.all isWord = true

theorem fieldsAux_space {b : Nat} (cur rest : List Nat) (h : asciiSpace b = true) :
    fieldsAux 0 cur (b :: rest) = flush cur ++ fieldsAux 0 [] rest := by
  simp [fieldsAux, spaceLen, h]

theorem fieldsAux_word {b : Nat} (cur rest : List Nat) (h : isWord b = true) :
    fieldsAux 0 cur (b :: rest) = fieldsAux 0 (cur ++ [b]) rest := by
  simp only [isWord, Bool.and_eq_true, decide_eq_true_eq, Bool.not_eq_true'] at h
  simp [fieldsAux, spaceLen, h.1, h.2]

theorem fieldsAux_spaces (rest : List Nat) : ∀ ws : List Nat, ws.all asciiSpace = true →
    fieldsAux 0 [] (ws ++ rest) = fieldsAux 0 [] rest
  | [], _ => rfl
  | b :: ws, h => by
    rw [List.all_cons, Bool.and_eq_true] at h
    rw [List.cons_append, fieldsAux_space _ _ h.1, fieldsAux_spaces rest ws h.2]
    rfl

theorem fieldsAux_words (rest : List Nat) : ∀ (w cur : List Nat), w.all isWord = true →
    fieldsAux 0 cur (w ++ rest) = fieldsAux 0 (cur ++ w) rest
  | [], cur, _ => by rw [List.append_nil]; rfl
  | b :: w, cur, h => by
    rw [List.all_cons, Bool.and_eq_true] at h
    rw [List.cons_append, fieldsAux_word _ _ h.1, fieldsAux_words rest w _ h.2, List.append_assoc]
    rfl

def EndsField (rest : List Nat) : Prop := rest = [] ∨ ∃ b r, rest = b :: r ∧ asciiSpace b = true

theorem endsField_append {ws : List Nat} (rest : List Nat) (h : ws.all asciiSpace = true)
    (hr : ws ≠ [] ∨ EndsField rest) : EndsField (ws ++ rest) := by
  cases ws with
  | nil => exact hr.resolve_left (fun h => h rfl)
  | cons b ws =>
    rw [List.all_cons, Bool.and_eq_true] at h
    exact Or.inr ⟨b, ws ++ rest, rfl, h.1⟩

theorem fieldsAux_field {w : List Nat} (rest : List Nat) (hw : IsField w) (hr : EndsField rest) :
    fieldsAux 0 [] (w ++ rest) = w :: fieldsAux 0 [] rest := by
  have hf : flush w = [w] := by
    cases w with
    | nil => exact absurd rfl hw.1
    | cons _ _ => rfl
  rw [fieldsAux_words rest w [] hw.2, List.nil_append]
  rcases hr with rfl | ⟨b, r, rfl, hb⟩
  · exact hf
  · rw [fieldsAux_space w r hb, fieldsAux_space [] r hb, hf]
    rfl

theorem fieldsAux_sep {w sep : List Nat} (rest : List Nat) (hw : IsField w) (hs : sep.all asciiSpace = true)
    (hr : sep ≠ [] ∨ EndsField rest) : fieldsAux 0 [] (w ++ (sep ++ rest)) = w :: fieldsAux 0 [] rest := by
  rw [fieldsAux_field _ hw (endsField_append rest hs hr), fieldsAux_spaces rest sep hs]

theorem isWord_of_digit {b : Nat} (h : isDigit b = true) : isWord b = true := by
  rw [isDigit_iff] at h
  have h2 : b ≠ 32 := by omega
  have h3 : b < 128 := by omega
  have h4 : 13 < b := by omega
  simp [isWord, asciiSpace, h2, h3, h4]

theorem IsDigits.isField {ds : List Nat} (h : IsDigits ds) : IsField ds :=
  ⟨h.1, all_mono (fun _ => isWord_of_digit) h.2⟩

theorem IsField.append {s w : List Nat} (hs : s.all isWord = true) (hw : IsField w) : IsField (s ++ w) :=
  ⟨fun h => hw.1 (List.append_eq_nil_iff.mp h).2, by rw [List.all_append, hs, hw.2]; rfl⟩

theorem num_field (l : NumLayout) (n : Nat) : IsField (l.bytes n) :=
  IsField.append (by cases l.plus <;> rfl) (isDigits_num l.zeros n).isField

theorem endsField_spaces {ws : List Nat} (h : ws.all asciiSpace = true) : EndsField ws := by
  have := endsField_append [] h (.inr (.inl rfl))
  rwa [List.append_nil] at this

theorem fieldsAux_only_spaces {ws : List Nat} (h : ws.all asciiSpace = true) : fieldsAux 0 [] ws = [] := by
  have := fieldsAux_spaces [] ws h
  rwa [List.append_nil] at this

theorem hws_spec {ws : List Nat} (h : hws ws = true) :
    ws ≠ [] ∧ ws.all asciiSpace = true ∧ ws.all (· != 10) = true := by
  simp only [hws, Bool.and_eq_true, Bool.not_eq_true', List.isEmpty_eq_false_iff] at h
  refine ⟨h.1, all_mono (fun b hb => ?_) h.2, all_ne_of_all h.2 rfl⟩
  simp only [Bool.or_eq_true, beq_iff_eq] at hb
  rcases hb with rfl | rfl <;> rfl

theorem ws3_spec {ws : List Nat} (h : ws.all (fun b => b == 32 || b == 9 || b == 13) = true) :
    ws.all asciiSpace = true ∧ ws.all (· != 10) = true := by
  refine ⟨all_mono (fun b hb => ?_) h, all_ne_of_all h rfl⟩
  simp only [Bool.or_eq_true, beq_iff_eq] at hb
  rcases hb with (rfl | rfl) | rfl <;> rfl

structure HdrOk (lay : ByteLayout) : Prop where
  w0 : hws lay.ws0 = true
  w1 : hws lay.ws1 = true
  w2 : hws lay.ws2 = true
  w3 : lay.ws3.all (fun b => b == 32 || b == 9 || b == 13) = true

theorem headerLine_no_nl (d : Dimacs) (lay : ByteLayout) (h : HdrOk lay) :
    (headerLine d lay).all (· != 10) = true := by
  simp only [headerLine, List.all_append, Bool.and_eq_true]
  exact ⟨(hws_spec h.w0).2.2, by decide, (hws_spec h.w1).2.2, all_ne_of_all (num_field _ _).2 rfl,
    (hws_spec h.w2).2.2, all_ne_of_all (num_field _ _).2 rfl, (ws3_spec h.w3).2⟩

theorem headerLine_ne_nil (d : Dimacs) (lay : ByteLayout) (h : HdrOk lay) : (headerLine d lay).isEmpty = false := by
  have := (hws_spec h.w0).1
  unfold headerLine
  cases h0 : lay.ws0 with
  | nil => exact absurd h0 this
  | cons _ _ => rfl

/-- `parseHeader` on the header line of a rendering, with or without its line end. -/
theorem doHeader_render (st : St) (d : Dimacs) (lay : ByteLayout) (tail : List Nat) (h : HdrOk lay)
    (ht : tail.all asciiSpace = true) (hv : d.nbVars ≤ 35184372088832) (hc : d.clauses.length ≤ 35184372088832) :
    doHeader st (headerLine d lay ++ tail) =
      .ok ⟨d.nbVars, d.clauses.length, [], max st.peak (max d.nbVars d.clauses.length), .top⟩ := by
  obtain ⟨_, s0, _⟩ := hws_spec h.w0
  obtain ⟨n1, s1, _⟩ := hws_spec h.w1
  obtain ⟨n2, s2, _⟩ := hws_spec h.w2
  have hf : fields (headerLine d lay ++ tail) =
      [[99, 110, 102], lay.vars.bytes d.nbVars, lay.cls.bytes d.clauses.length] := by
    simp only [headerLine, fields, List.append_assoc]
    rw [fieldsAux_spaces _ _ s0, fieldsAux_sep _ ⟨by decide, by decide⟩ s1 (.inl n1),
      fieldsAux_sep _ (num_field _ _) s2 (.inl n2),
      fieldsAux_sep _ (num_field _ _) (ws3_spec h.w3).1 (.inr (endsField_spaces ht)), fieldsAux_only_spaces ht]
  have a1 := atoi_num lay.vars d.nbVars (by omega)
  have a2 := atoi_num lay.cls d.clauses.length (by omega)
  have c1 : ¬ ((d.nbVars : Int) < 0 ∨ (d.nbVars : Int) > makeLimit) := by unfold makeLimit; omega
  have c2 : ¬ ((d.clauses.length : Int) < 0 ∨ (d.clauses.length : Int) > makeLimit) := by unfold makeLimit; omega
  unfold doHeader
  rw [hf]
  simp only [a1, a2, c1, c2, if_false, Int.toNat_natCast]

section
variable {st : St}

theorem run_header_acc : ∀ (line acc : List Nat), line.all (· != 10) = true →
    run (st.at (.header acc)) line = .ok (st.at (.header (acc ++ line)))
  | [], acc, _ => by rw [List.append_nil]; rfl
  | b :: line, acc, h => by
    rw [List.all_cons, Bool.and_eq_true] at h
    have hb : step (st.at (.header acc)) b = .ok (st.at (.header (acc ++ [b]))) := by
      simp only [step, St.at, bne_iff_ne.mp h.1, if_false]
    rw [run_cons_ok line hb, run_header_acc line _ h.2, List.append_assoc]
    rfl

theorem run_header_line (line X : List Nat) (hl : line.all (· != 10) = true) (st' : St)
    (hd : doHeader (st.at (.header line)) (line ++ [10]) = .ok st') :
    run (st.at .top) (112 :: (line ++ 10 :: X)) = run st' X := by
  rw [run_cons_ok (st' := (st.at (.header []))) _ rfl, run_append _ (run_header_acc line [] hl)]
  refine run_cons_ok X ?_
  rw [← hd]
  simp only [step, St.at, if_true, List.nil_append]

theorem wrap64_small {x : Int} (h0 : -9223372036854775808 ≤ x) (h1 : x < 9223372036854775808) :
    wrap64 x = x := by
  unfold wrap64; omega

theorem step_dig_digit (lits : List Int) (s : Int) (acc : Nat) {d : Nat} (hd : isDigit d = true)
    (hv : 10 * acc + (d - 48) < 9223372036854775808) :
    step (st.at (.dig lits s (acc : Int))) d =
      .ok (st.at (.dig lits s ((10 * acc + (d - 48) : Nat) : Int))) := by
  have hdd := isDigit_iff.mp hd
  have e : wrap64 (10 * (acc : Int) + ((d : Int) - 48)) = ((10 * acc + (d - 48) : Nat) : Int) := by
    rw [wrap64_small] <;> omega
  simp only [step, St.at, not_space_of_digit hd, hd, if_true, Bool.false_eq_true, if_false, e]

theorem run_digits (lits : List Int) (s : Int) : ∀ (ds : List Nat) (acc : Nat), ds.all isDigit = true →
    dval acc ds < 9223372036854775808 →
    run (st.at (.dig lits s (acc : Int))) ds = .ok (st.at (.dig lits s (dval acc ds : Nat)))
  | [], _, _, _ => rfl
  | d :: ds, acc, hd, hv => by
    rw [List.all_cons, Bool.and_eq_true] at hd
    rw [run_cons_ok ds (step_dig_digit lits s acc hd.1 (Nat.lt_of_le_of_lt (le_dval ds _) hv))]
    exact run_digits lits s ds _ hd.2 hv

/-- A number read from a program point `m` where a digit is stepped as at `.dig lits s 0`: `.num lits`
    with `s = 1`, and `.neg lits` (after the `-`) with `s = -1`. -/
theorem run_number (lits : List Int) (s : Int) {m : Mode}
    (hm : ∀ d, isDigit d = true → step (st.at m) d = .ok (st.at (.dig lits s ((d : Int) - 48))))
    {ds : List Nat} (h : IsDigits ds) (hv : dval 0 ds < 9223372036854775808) :
    run (st.at m) ds = .ok (st.at (.dig lits s (dval 0 ds : Nat))) := by
  obtain ⟨d, r, rfl, hd, _⟩ := h.cons
  have hdd := isDigit_iff.mp hd
  have e : (d : Int) - 48 = ((10 * 0 + (d - 48) : Nat) : Int) := by omega
  rw [← run_digits lits s (d :: r) 0 h.2 hv]
  simp only [run, hm d hd, e, step_dig_digit lits s 0 hd (by omega)]

/-- Sign of a literal as `readInt` keeps it. -/
def sgn (v : Int) : Int := if v < 0 then -1 else 1

theorem run_lit (lits : List Int) (v : Int) (z : Nat) (hb : v.natAbs < 9223372036854775808) :
    run (st.at (.num lits)) (litBytes v z) = .ok (st.at (.dig lits (sgn v) (v.natAbs : Nat))) := by
  have hv : dval 0 (List.replicate z 48 ++ decBytes v.natAbs) < 9223372036854775808 := by rw [dval_num]; exact hb
  unfold litBytes sgn
  by_cases hneg : v < 0
  · simp only [hneg, if_true, List.singleton_append]
    rw [run_cons_ok (st' := st.at (.neg lits)) _ rfl,
      run_number lits (-1) (fun d hd => by simp only [step, St.at, hd, if_true]) (isDigits_num _ _) hv, dval_num]
  · simp only [hneg, if_false, List.nil_append]
    rw [run_number lits 1 (fun d hd => ?_) (isDigits_num _ _) hv, dval_num]
    have h45 : d ≠ 45 := ne_of_class hd rfl
    simp only [step, St.at, stepNum, not_space_of_digit hd, Bool.false_eq_true, if_false, h45, hd, if_true]

theorem run_num_spaces (lits : List Int) (ws : List Nat) (h : ws.all isSpace = true) :
    run (st.at (.num lits)) ws = .ok (st.at (.num lits)) :=
  run_stay (fun b hb => by simp only [step, St.at, stepNum, hb, if_true]) ws h

theorem sgn_mul (v : Int) (hb : v.natAbs < 9223372036854775808) : wrap64 ((v.natAbs : Int) * sgn v) = v := by
  have e : (v.natAbs : Int) * sgn v = v := by
    unfold sgn
    split <;> omega
  rw [e, wrap64_small] <;> omega

theorem run_int (lits : List Int) (v : Int) (z : Nat) (hb : v.natAbs < 9223372036854775808) {sp : Nat}
    (hs : isSpace sp = true) (rest : List Nat) :
    run (st.at (.num lits)) (litBytes v z ++ sp :: rest) =
      match addVal st lits v with
      | .error e => .error e
      | .ok st' => run st' rest := by
  rw [run_append _ (run_lit lits v z hb)]
  simp only [run, step, St.at, hs, if_true, sgn_mul v hb]
  rfl

theorem addVal_lit {n : Nat} (hst : st.nbVars = n) (hn : n < 2147483648) (lits : List Int) {v : Int}
    (h0 : v ≠ 0) (hle : v.natAbs ≤ n) : addVal st lits v = .ok (st.at (.num (lits ++ [v]))) := by
  have c1 : ¬ (v > st.nbVars ∨ wrap64 (-v) > st.nbVars) := by
    rw [hst, wrap64_small] <;> omega
  have c2 : ¬ (v < -2147483648 ∨ v > 2147483647) := by omega
  simp only [addVal, h0, if_false, c1, c2, St.at]

theorem run_lit_sep {n : Nat} (hst : st.nbVars = n) (hn : n < 2147483648) (lits : List Int) {v : Int} (z : Nat)
    {sep : List Nat} (rest : List Nat) (h0 : v ≠ 0) (hle : v.natAbs ≤ n) (hs : sep.all isSpace = true) (hne : sep ≠ []) :
    run (st.at (.num lits)) (litBytes v z ++ (sep ++ rest)) =
      run (st.at (.num (lits ++ [v]))) rest := by
  obtain ⟨sp, ws, rfl⟩ := List.exists_cons_of_ne_nil hne
  rw [List.all_cons, Bool.and_eq_true] at hs
  rw [List.cons_append, run_int lits v z (by omega) hs.1, addVal_lit hst hn lits h0 hle]
  exact run_append rest (run_num_spaces _ ws hs.2)

/-- The first byte is a digit or `-`: the main loop hands it to `readInt`. -/
def Starts (bs : List Nat) : Prop := ∃ b r, bs = b :: r ∧ (isDigit b = true ∨ b = 45)

theorem starts_append {xs : List Nat} (ys : List Nat) (h : Starts xs) : Starts (xs ++ ys) := by
  obtain ⟨b, r, e, hb⟩ := h
  exact ⟨b, r ++ ys, by rw [e]; rfl, hb⟩

theorem starts_litBytes (v : Int) (z : Nat) : Starts (litBytes v z) := by
  unfold litBytes
  by_cases h : v < 0
  · simp only [h, if_true]; exact ⟨45, _, rfl, Or.inr rfl⟩
  · obtain ⟨d, r, e, hd, _⟩ := (isDigits_num z v.natAbs).cons
    simp only [h, if_false, List.nil_append, e]
    exact ⟨d, r, rfl, Or.inl hd⟩

theorem run_top_num (bs : List Nat) (h : Starts bs) :
    run (st.at .top) bs = run (st.at (.num [])) bs := by
  obtain ⟨b, r, rfl, hb⟩ := h
  have hcl : (isDigit b || b == 45) = true := by
    rcases hb with hb | rfl
    · rw [hb]; rfl
    · rfl
  have h1 : b ≠ 99 := ne_of_class (P := fun b => isDigit b || b == 45) hcl rfl
  have h2 : b ≠ 112 := ne_of_class (P := fun b => isDigit b || b == 45) hcl rfl
  have h3 : isSpace b = false := by
    rcases hb with hb | rfl
    · exact not_space_of_digit hb
    · rfl
  simp only [run, step, St.at, stepNum, h1, h2, h3, if_false, Bool.false_eq_true]

theorem litLayout_head (ls : List LitLayout) (h : ls.all (·.ok) = true) :
    (ls.headD {}).sep.all isSpace = true ∧ (ls.headD {}).sep ≠ [] ∧ ls.tail.all (·.ok) = true := by
  cases ls with
  | nil => exact ⟨by decide, by decide, rfl⟩
  | cons l ls =>
    simp only [List.all_cons, Bool.and_eq_true, LitLayout.ok, Bool.not_eq_true', List.isEmpty_eq_false_iff] at h
    exact ⟨h.1.2, h.1.1, h.2⟩

theorem clauseWf_cons {n : Nat} {v : Int} {vs : List Int} (h : clauseWf n (v :: vs) = true) :
    v ≠ 0 ∧ v.natAbs ≤ n ∧ clauseWf n vs = true := by
  simp only [clauseWf, List.all_cons, Bool.and_eq_true, litOk, bne_iff_ne, ne_eq, decide_eq_true_eq] at h
  exact ⟨h.1.1, h.1.2, by simpa [clauseWf] using h.2⟩

theorem run_lits {n : Nat} (hst : st.nbVars = n) (hn : n < 2147483648) :
    ∀ (c : List Int) (ls : List LitLayout) (lits : List Int) (rest : List Nat),
      clauseWf n c = true → ls.all (·.ok) = true →
      run (st.at (.num lits)) (litsBytes c ls ++ rest) = run (st.at (.num (lits ++ c))) rest := by
  intro c
  induction c with
  | nil => intro _ lits rest _ _; rw [List.append_nil]; rfl
  | cons v vs ih =>
    intro ls lits rest hwf hok
    obtain ⟨h0, hle, hrest⟩ := clauseWf_cons hwf
    obtain ⟨hs, hne, htl⟩ := litLayout_head ls hok
    rw [litsBytes, List.append_assoc, List.append_assoc, run_lit_sep hst hn lits _ _ h0 hle hs hne,
      ih ls.tail (lits ++ [v]) rest hrest htl, List.append_assoc]
    rfl

theorem zeroBytes_eq (z : Nat) : zeroBytes z = litBytes 0 z := rfl

theorem run_zero (lits : List Int) (z term : Nat) (rest : List Nat) (ht : isSpace term = true) :
    run (st.at (.num lits)) (zeroBytes z ++ term :: rest) = run ((st.push [lits]).at .top) rest := by
  rw [zeroBytes_eq, run_int lits 0 z (by decide) ht]
  rfl

theorem clauseLay_head (ls : List ClauseLay) (h : ls.all (·.ok) = true) :
    (ls.headD {}).ok = true ∧ ls.tail.all (·.ok) = true := by
  cases ls with
  | nil => exact ⟨by decide, rfl⟩
  | cons l ls => simpa using h

theorem starts_clause (c : List Int) (ls : List LitLayout) (z : Nat) (rest : List Nat) :
    Starts (litsBytes c ls ++ (zeroBytes z ++ rest)) := by
  cases c with
  | nil => exact starts_append rest (starts_litBytes 0 z)
  | cons v vs =>
    simp only [litsBytes, List.append_assoc]
    exact starts_append _ (starts_litBytes v _)

theorem run_clause {n : Nat} (hst : st.nbVars = n) (hn : n < 2147483648)
    (c : List Int) (l : ClauseLay) (rest : List Nat) (hwf : clauseWf n c = true) (hok : l.ok = true) :
    run (st.at .top) (clauseBytes c l ++ rest) = run ((st.push [c]).at .top) rest := by
  simp only [ClauseLay.ok, Bool.and_eq_true] at hok
  have e : clauseBytes c l ++ rest =
      litsBytes c l.lits ++ (zeroBytes l.zeros ++ l.term :: (fillersBytes l.after ++ rest)) := by
    simp [clauseBytes]
  rw [e, run_top_num _ (starts_clause c l.lits l.zeros _), run_lits hst hn c l.lits [] _ hwf hok.1.1,
    List.nil_append, run_zero _ _ _ _ hok.1.2]
  exact run_append rest (run_fillers l.after hok.2)

end

/-- `run`, then `io.EOF`. -/
def parseFrom (st : St) (bs : List Nat) : Except String St :=
  match run st bs with
  | .error e => .error e
  | .ok st' => finish st'

theorem parseCore_eq (bs : List Nat) : parseCore bs = parseFrom {} bs := rfl

theorem parseFrom_congr {st st' : St} {bs bs' : List Nat} (h : run st bs = run st' bs') :
    parseFrom st bs = parseFrom st' bs' := by
  unfold parseFrom; rw [h]

theorem parseFrom_ok {st st' : St} {xs : List Nat} (h : run st xs = .ok st') :
    parseFrom st xs = finish st' := by
  unfold parseFrom; rw [h]

section
variable {st : St}

theorem closeClause_snoc (m : Mode) (lits : List Int) (v : Int) :
    closeClause (st.at m) (lits ++ [v]) = (st.push [lits ++ [v]]).at .top := by
  rw [closeClause, if_neg (by simp)]
  rfl

theorem parse_tail (tail : Option (List Nat)) (h : (Ending.full tail).ok = true) :
    parseFrom (st.at .top) (tailBytes tail) = .ok (st.at .top) := by
  cases tail with
  | none => rfl
  | some body =>
    rw [tailBytes, parseFrom_congr (run_cons_ok (st' := (st.at .comment)) body rfl),
      parseFrom_ok (run_comment_body body h)]
    rfl

theorem parse_open {n : Nat} (hst : st.nbVars = n) (hn : n < 2147483648) (tr : List Nat) (htr : tr.all isSpace = true) :
    ∀ (c : List Int) (ls : List LitLayout) (lits : List Int), c ≠ [] → clauseWf n c = true →
      ls.all (·.ok) = true →
      parseFrom (st.at (.num lits)) (litsBytesOpen tr c ls) = .ok ((st.push [lits ++ c]).at .top) := by
  intro c
  induction c with
  | nil => intro _ _ h _ _; exact absurd rfl h
  | cons v c ih =>
  cases c with
  | nil =>
    intro ls lits _ hwf _
    obtain ⟨h0, hle, _⟩ := clauseWf_cons hwf
    have hb : v.natAbs < 9223372036854775808 := by omega
    rw [litsBytesOpen]
    by_cases hne : tr = []
    · subst hne
      rw [List.append_nil, parseFrom_ok (run_lit lits v _ hb)]
      have ha := addVal_lit (st := st.at (.dig lits (sgn v) (v.natAbs : Nat))) hst hn lits h0 hle
      simp only [St.at] at ha
      simp only [finish, St.at, sgn_mul v hb, ha]
      exact congrArg _ (closeClause_snoc _ lits v)
    · have := run_lit_sep hst hn lits (ls.headD {}).zeros [] h0 hle htr hne
      rw [List.append_nil] at this
      rw [parseFrom_congr this]
      exact congrArg _ (closeClause_snoc _ lits v)
  | cons v' vs =>
    intro ls lits _ hwf hok
    obtain ⟨h0, hle, hrest⟩ := clauseWf_cons hwf
    obtain ⟨hs, hne, htl⟩ := litLayout_head ls hok
    rw [litsBytesOpen, parseFrom_congr (run_lit_sep hst hn lits _ _ h0 hle hs hne),
      ih ls.tail (lits ++ [v]) (List.cons_ne_nil _ _) hrest htl, List.append_assoc]
    rfl

theorem starts_open (tr : List Nat) (c : List Int) (ls : List LitLayout) (h : c ≠ []) :
    Starts (litsBytesOpen tr c ls) := by
  match c, h with
  | [v], _ => exact starts_append _ (starts_litBytes v _)
  | v :: _ :: _, _ => exact starts_append _ (starts_litBytes v _)

theorem parse_last {n : Nat} (hst : st.nbVars = n) (hn : n < 2147483648)
    (c : List Int) (l : ClauseLay) (e : Ending) (hwf : clauseWf n c = true) (hok : l.ok = true)
    (he : e.ok = true) :
    parseFrom (st.at .top) (lastClauseBytes c l e) = .ok ((st.push [c]).at .top) := by
  have hok' := hok
  simp only [ClauseLay.ok, Bool.and_eq_true] at hok'
  cases e with
  | full tail =>
    rw [lastClauseBytes, parseFrom_congr (run_clause hst hn c l _ hwf hok)]
    exact parse_tail tail he
  | bare =>
    have hsta : Starts (litsBytes c l.lits ++ zeroBytes l.zeros) := by
      have := starts_clause c l.lits l.zeros []
      rwa [List.append_nil] at this
    rw [lastClauseBytes, parseFrom_congr (run_top_num _ hsta),
      parseFrom_congr (run_lits hst hn c l.lits [] _ hwf hok'.1.1), List.nil_append, zeroBytes_eq,
      parseFrom_ok (run_lit c 0 l.zeros (by decide))]
    -- `finish` at `.dig c 1 0`: the value 0 closes the clause `c` (`addVal`), then `io.EOF` at `.top`
    rfl
  | noZero tr =>
    rw [lastClauseBytes]
    by_cases hc : c = []
    · subst hc
      have := run_clause hst hn [] l [] hwf hok
      rw [List.append_nil] at this
      rw [List.isEmpty_nil, if_pos rfl, parseFrom_congr this]
      rfl
    · rw [if_neg (by rwa [List.isEmpty_iff]), parseFrom_congr (run_top_num _ (starts_open tr c l.lits hc)),
        parse_open hst hn tr he c l.lits [] hc hwf hok'.1.1, List.nil_append]

theorem parse_clauses {n : Nat} (hn : n < 2147483648) (e : Ending) (he : e.ok = true) :
    ∀ (cs : List (List Int)) (ls : List ClauseLay) (st : St), st.nbVars = n → cs ≠ [] → cnfWf n cs = true →
      ls.all (·.ok) = true →
      parseFrom (st.at .top) (clausesBytes cs ls e) = .ok ((st.push cs).at .top) := by
  intro cs
  induction cs with
  | nil => intro _ _ _ h _ _; exact absurd rfl h
  | cons c cs ih =>
  cases cs with
  | nil =>
    intro ls st hst _ hwf hok
    simp only [cnfWf, List.all_cons, Bool.and_eq_true] at hwf
    rw [clausesBytes]
    exact parse_last hst hn c _ e hwf.1 (clauseLay_head ls hok).1 he
  | cons c' cs =>
    intro ls st hst _ hwf hok
    simp only [cnfWf, List.all_cons, Bool.and_eq_true] at hwf
    obtain ⟨hl, htl⟩ := clauseLay_head ls hok
    rw [clausesBytes, parseFrom_congr (run_clause hst hn c _ _ hwf.1 hl),
      ih ls.tail (st.push [c]) hst (List.cons_ne_nil _ _)
        (by simpa [cnfWf] using hwf.2) htl, St.push_push]
    rfl

end

theorem parseCore_render (d : Dimacs) (lay : ByteLayout) (hwf : d.wf = true) (hok : lay.ok = true)
    (hv : d.nbVars < 2147483648) (hc : d.clauses.length ≤ 35184372088832) :
    parseCore (renderBytes d lay) =
      .ok ⟨d.nbVars, d.clauses.length, d.clauses, max d.nbVars d.clauses.length, .top⟩ := by
  simp only [ByteLayout.ok, Bool.and_eq_true] at hok
  obtain ⟨⟨⟨⟨⟨⟨⟨hb, h0⟩, h1⟩, h2⟩, h3⟩, ha⟩, hcl⟩, he⟩ := hok
  have H : HdrOk lay := ⟨h0, h1, h2, h3⟩
  have hnl := headerLine_no_nl d lay H
  -- the state after the header line
  let S : St := ⟨d.nbVars, d.clauses.length, [], max d.nbVars d.clauses.length, .top⟩
  have hdr : ∀ tail : List Nat, tail.all asciiSpace = true →
      doHeader (St.at {} (.header (headerLine d lay))) (headerLine d lay ++ tail) = .ok (S.at .top) := by
    intro tail ht
    have := doHeader_render (St.at {} (.header (headerLine d lay))) d lay tail H ht (by omega) hc
    simpa only [St.at, Nat.zero_max] using this
  rw [parseCore_eq]
  show parseFrom (St.at {} .top) _ = .ok ((S.push d.clauses).at .top)
  unfold renderBytes
  rw [parseFrom_congr (run_append _ (run_fillers lay.before hb))]
  -- every shape but "header at EOF"
  have main : ∀ X : List Nat, parseFrom (S.at .top) X = .ok ((S.push d.clauses).at .top) →
      parseFrom (St.at {} .top) (112 :: (headerLine d lay ++ 10 :: (fillersBytes lay.afterHeader ++ X))) =
        .ok ((S.push d.clauses).at .top) := by
    intro X hX
    rw [parseFrom_congr (run_header_line (headerLine d lay) _ hnl _ (hdr [10] (by decide))),
      parseFrom_congr (run_append _ (run_fillers lay.afterHeader ha))]
    exact hX
  unfold bodyBytes
  cases hcs : d.clauses with
  | nil =>
    rw [hcs] at main
    cases hen : lay.ending with
    | bare =>
      have hr : run (St.at {} .top) (112 :: headerLine d lay) = .ok (St.at {} (.header (headerLine d lay))) := by
        rw [run_cons_ok (st' := St.at {} (.header [])) _ rfl]
        exact run_header_acc (headerLine d lay) [] hnl
      have hd0 := hdr [] rfl
      rw [List.append_nil] at hd0
      simp only [List.append_nil]
      rw [parseFrom_ok hr]
      simp only [finish, St.at, headerLine_ne_nil d lay H, Bool.false_eq_true, if_false]
      simp only [St.at] at hd0
      rw [hd0]
      rfl
    | full tail =>
      rw [hen] at he
      exact main _ (parse_tail tail he)
    | noZero tr =>
      rw [hen] at he
      exact main _ ((parseFrom_ok (run_blank tr he)).trans rfl)
  | cons c cs =>
    rw [hcs] at main
    apply main
    have hw : cnfWf d.nbVars (c :: cs) = true := by
      have := hwf; unfold Dimacs.wf at this; rw [hcs] at this; exact this
    exact parse_clauses hv lay.ending he (c :: cs) lay.clauses S rfl (List.cons_ne_nil _ _) hw hcl

/-- **C13, DIMACS CNF, byte level.** `solver.ParseCNF` never fails on a rendering of a well-formed
    file (fewer than `2^31` variables, at most `makeLimit` clauses), whatever the byte layout, and
    hands to `simplify2` exactly the declared number of variables and the clauses of the file, in
    order (`nbClauses` is the declared count). -/
theorem parseBytes_render (d : Dimacs) (lay : ByteLayout) (hwf : d.wf = true) (hok : lay.ok = true)
    (hv : d.nbVars < 2147483648) (hc : d.clauses.length ≤ 35184372088832) :
    parseCnfBytes (renderBytes d lay) = .ok (d.nbVars, d.clauses.length, d.clauses) := by
  unfold parseCnfBytes
  rw [parseCore_render d lay hwf hok hv hc]
  simp

theorem sem_initPb (a : Asg) (cs : List (List Int)) :
    GS.Simplify.Sem a [] (cs.map (fun c => (⟨c, none, 1⟩ : GS.Simplify.Cl))) ↔ cnfTrue a cs = true := by
  unfold GS.Simplify.Sem cnfTrue
  simp [List.all_eq_true]

/-- **C13 end to end, byte level.** On every byte layout of a well-formed DIMACS file (same bounds)
    `ParseCNF` returns (no error) a problem over the declared variables which, after `simplify2`, is either
    `Unsat` — and then the file has no model — or whose units and clauses have exactly the models
    of the file (`Sat` iff no clause is left). -/
theorem parseBytes_render_sem (d : Dimacs) (lay : ByteLayout) (hwf : d.wf = true) (hok : lay.ok = true)
    (hv : d.nbVars < 2147483648) (hc : d.clauses.length ≤ 35184372088832) :
    ∃ pb, parseCnfFull (renderBytes d lay) = .ok pb ∧ pb.nbVars = d.nbVars ∧
      (pb.status = .unsat → ∀ a, d.sem a = false) ∧
      (pb.status ≠ .unsat → (∀ a, d.sem a = true ↔ GS.Simplify.Sem a pb.units pb.clauses) ∧
        (pb.status = .sat ↔ pb.clauses = [])) := by
  refine ⟨GS.Simplify.simplify2 (initPb d.nbVars d.clauses), ?_, ?_⟩
  · unfold parseCnfFull; rw [parseBytes_render d lay hwf hok hv hc]
  · have hl : ∀ c ∈ (initPb d.nbVars d.clauses).clauses,
        GS.Simplify.LitsOk (initPb d.nbVars d.clauses).model.length c := by
      intro c hcm l hlm
      obtain ⟨c0, hc0, rfl⟩ := List.mem_map.mp hcm
      have h2 := List.all_eq_true.mp (List.all_eq_true.mp hwf c0 hc0) l hlm
      simpa [initPb, litOk] using h2
    have S := GS.Simplify.simplify2_spec (initPb d.nbVars d.clauses) rfl (GS.Simplify.MInv.init d.nbVars) hl
    refine ⟨S.nbVars, ?_, ?_⟩
    · intro hu a
      have := S.unsat hu a
      cases hs : d.sem a with
      | false => rfl
      | true => exact absurd ((sem_initPb a d.clauses).mpr hs) this
    · intro hn
      obtain ⟨_, h2, _, h4⟩ := S.ok hn
      exact ⟨fun a => (sem_initPb a d.clauses).symm.trans (h2 a), h4⟩

theorem ok_or_error {ε α : Type} (r : Except ε α) : (∃ a, r = .ok a) ∨ (∃ e, r = .error e) := by
  cases r with
  | ok a => exact Or.inl ⟨a, rfl⟩
  | error e => exact Or.inr ⟨e, rfl⟩

/-- An instance of `ok_or_error`: it records only that the mirror is a Lean function (a
    structural recursion on the bytes). That `ParseCNF` always returns, with one of these two, rests
    on the mirror following the Go code, where the candidates for a panic are: `fields[1]`,
    `fields[2]` (guarded by `len(fields) < 3`); `int(*b - '0')` and `IntToLit(int32(val))` (pure
    arithmetic); `append`; reading after `io.EOF` (`ReadByte` keeps returning `io.EOF`); and the two
    `make` calls after the header, which **do** panic for a negative or huge count: these are the only
    `panic:` results of the mirror (`parseBytes_errors`). -/
theorem parseBytes_total (bs : List Nat) :
    (∃ r, parseCnfBytes bs = .ok r) ∨ (∃ e, parseCnfBytes bs = .error e) :=
  ok_or_error _

def errorMessages : List String :=
  ["cannot parse CNF header: nbvars not an int", "cannot parse CNF header: nbClauses not an int",
   "panic: makeslice: len out of range", "panic: makeslice: cap out of range",
   "cannot parse CNF header: invalid syntax in header",
   "invalid literal for problem with that many vars only", "unmodelled: literal does not fit int32",
   "cannot parse clause: cannot read int: not a digit",
   "cannot parse CNF header: cannot read header: EOF", "cannot parse clause: cannot read int: EOF"]

def ErrIn {α : Type} (M : List String) (r : Except String α) : Prop := ∀ e, r = .error e → e ∈ M

theorem ErrIn.ok {α : Type} {M : List String} {a : α} : ErrIn M (.ok a) := fun _ h => nomatch h

theorem ErrIn.error {α : Type} {M : List String} {e : String} (h : e ∈ M) :
    ErrIn M (.error e : Except String α) := fun _ h' => by cases h'; exact h

theorem ErrIn.ite {α : Type} {M : List String} {c : Prop} [Decidable c] {a b : Except String α}
    (ha : ErrIn M a) (hb : ErrIn M b) : ErrIn M (if c then a else b) := by
  split
  · exact ha
  · exact hb

theorem ErrIn.msg {α : Type} {e : String} (i : Nat) (h : errorMessages[i]? = some e) :
    ErrIn errorMessages (.error e : Except String α) := .error (List.mem_of_getElem? h)

theorem doHeader_errors (st : St) (line : List Nat) : ErrIn errorMessages (doHeader st line) := by
  unfold doHeader
  split
  · split
    · exact .msg 0 rfl
    · split
      · exact .msg 1 rfl
      · exact .ite (.msg 2 rfl) (.ite (.msg 3 rfl) .ok)
  · exact .msg 4 rfl

theorem addVal_errors (st : St) (lits : List Int) (v : Int) : ErrIn errorMessages (addVal st lits v) :=
  .ite .ok (.ite (.msg 5 rfl) (.ite (.msg 6 rfl) .ok))

theorem stepNum_errors (st : St) (lits : List Int) (b : Nat) : ErrIn errorMessages (stepNum st lits b) :=
  .ite .ok (.ite .ok (.ite .ok (.msg 7 rfl)))

theorem step_errors (st : St) (b : Nat) : ErrIn errorMessages (step st b) := by
  unfold step
  split
  · exact .ite .ok (.ite .ok (.ite .ok (stepNum_errors st [] b)))
  · exact .ite .ok .ok
  · exact .ite (doHeader_errors st _) .ok
  · exact stepNum_errors st _ b
  · exact .ite .ok (.msg 7 rfl)
  · exact .ite (addVal_errors st _ _) (.ite .ok (.msg 7 rfl))

theorem run_errors : ∀ (bs : List Nat) (st : St), ErrIn errorMessages (run st bs)
  | [], _ => .ok
  | b :: bs, st => by
    unfold run
    split
    · next e he => exact .error (step_errors st b e he)
    · exact run_errors bs _

theorem finish_errors (st : St) : ErrIn errorMessages (finish st) := by
  unfold finish
  split
  · exact .ok
  · exact .ok
  · exact .ite (.msg 8 rfl) (doHeader_errors st _)
  · exact .ok
  · exact .msg 9 rfl
  · split
    · next e he => exact .error (addVal_errors st _ _ e he)
    · split <;> exact .ok

theorem parseCore_errors (bs : List Nat) : ErrIn errorMessages (parseCore bs) := by
  unfold parseCore
  split
  · next e he => exact .error (run_errors bs _ e he)
  · exact finish_errors _

/-- Every failure of the mirror is one of `errorMessages`: the only panics are the two
    `makeslice` panics of the header (`p cnf -1 0`), the only unmodelled case the literal that
    does not fit `int32`. -/
theorem parseBytes_errors {bs : List Nat} {e : String} (h : parseCnfBytes bs = .error e) :
    e ∈ errorMessages := by
  unfold parseCnfBytes at h
  split at h
  · next e' he => cases h; exact parseCore_errors bs e he
  · cases h

/-- `-` followed by anything but a digit (a space, `-`, a letter) is an error. -/
theorem reject_minus_nondigit (nv nc : Int) (cls : List (List Int)) (pk : Nat) (lits : List Int)
    (b : Nat) (rest : List Nat) (hb : isDigit b = false) :
    run ⟨nv, nc, cls, pk, .num lits⟩ (45 :: b :: rest) =
      .error "cannot parse clause: cannot read int: not a digit" := by
  have hs : isSpace 45 = false := by decide
  simp [run, step, stepNum, hs, hb]

/-- A digit followed by a byte that is neither a digit nor one of the four spaces (`1-2`, `1c`,
    `1\v`, `1\x00`) is an error. -/
theorem reject_glued (nv nc : Int) (cls : List (List Int)) (pk : Nat) (lits : List Int) (s res : Int)
    (b : Nat) (rest : List Nat) (hb : isDigit b = false) (hs : isSpace b = false) :
    run ⟨nv, nc, cls, pk, .dig lits s res⟩ (b :: rest) =
      .error "cannot parse clause: cannot read int: not a digit" := by
  simp [run, step, hs, hb]

/-- Inside a clause (after a literal) a `c`, a `p`, a `+` or any other byte that is not a
    digit, `-` or a space is an error: no comment between the literals of a clause. -/
theorem reject_inside_clause (nv nc : Int) (cls : List (List Int)) (pk : Nat) (lits : List Int)
    (b : Nat) (rest : List Nat) (hb : isDigit b = false) (hs : isSpace b = false) (hm : b ≠ 45) :
    run ⟨nv, nc, cls, pk, .num lits⟩ (b :: rest) =
      .error "cannot parse clause: cannot read int: not a digit" := by
  simp [run, step, stepNum, hs, hb, hm]

theorem reject_out_of_range (nv nc : Int) (cls : List (List Int)) (pk : Nat) (lits : List Int) (v : Int)
    (h0 : v ≠ 0) (h : v > nv ∨ wrap64 (-v) > nv) :
    addVal ⟨nv, nc, cls, pk, .num lits⟩ lits v = .error "invalid literal for problem with that many vars only" := by
  simp [addVal, h0, h]

/-- For the examples below, checked by kernel evaluation. -/
local instance instDecEqExcept {ε α : Type} [DecidableEq ε] [DecidableEq α] : DecidableEq (Except ε α)
  | .ok a, .ok b => if h : a = b then isTrue (h ▸ rfl) else isFalse (fun e => by cases e; exact h rfl)
  | .error a, .error b => if h : a = b then isTrue (h ▸ rfl) else isFalse (fun e => by cases e; exact h rfl)
  | .ok _, .error _ => isFalse (fun e => by cases e)
  | .error _, .ok _ => isFalse (fun e => by cases e)

/-- Bytes of an ASCII string. -/
def ofString (s : String) : List Nat := s.toList.map Char.toNat

/-- On a string literal (for the kernel `String.ofList` of its characters) `ofString` needs no UTF-8
    decoding: the texts below are rewritten with this before they are evaluated. -/
theorem ofString_ofList (l : List Char) : ofString (String.ofList l) = l.map Char.toNat := by
  simp [ofString]

/-- CRLF line ends, a clause over three lines, a comment between two clauses, a comment on the
    line of a `0`, clauses sharing a line, leading zeros, `+` in the header, no final newline. -/
example :
    let d : Dimacs := ⟨3, [[1, -2], [3], [], [2, 3, -1]]⟩
    let lay : ByteLayout :=
      { before := [.comment (ofString " hi\r")], ws1 := [32, 9], ws3 := [13], vars := { plus := true },
        cls := { zeros := 1 },
        afterHeader := [.blank [13, 10]],
        clauses := [{ lits := [{ sep := [13, 10] }, { zeros := 2, sep := [32, 13, 10, 9] }], term := 32,
                      after := [.comment (ofString " first\r")] },
                    { term := 32 }, { term := 13, after := [.blank [10], .comment (ofString "x"), .blank [32, 32]] }],
        ending := .bare }
    d.wf = true ∧ lay.ok = true ∧
    renderBytes d lay = ofString "c hi\r\np cnf \t+3 04\r\n\r\n1\r\n-002 \r\n\t0 c first\r\n3 0 0\r\ncx\n  2 3 -1 0" ∧
    parseCnfBytes (renderBytes d lay) = .ok (3, 4, [[1, -2], [3], [], [2, 3, -1]]) := by
  repeat rw [ofString_ofList]
  decide +kernel

/-- The last clause without its `0`; a header at the very end of the text. -/
example : parseCnfBytes (renderBytes ⟨2, [[1], [-2, 1]]⟩ { ending := .noZero [] }) = .ok (2, 2, [[1], [-2, 1]]) ∧
    renderBytes ⟨2, [[1], [-2, 1]]⟩ { ending := .noZero [] } = ofString "p cnf 2 2\n1 0\n-2 1" ∧
    renderBytes ⟨7, []⟩ { ending := .bare } = ofString "p cnf 7 0" ∧
    parseCnfBytes (ofString "p cnf 7 0") = .ok (7, 0, []) := by
  repeat rw [ofString_ofList]
  decide +kernel

example : parseCnfBytes (ofString "p cnf 2 1\n1 3 0\n") =
    .error "invalid literal for problem with that many vars only" := by rw [ofString_ofList]; rfl
example : parseCnfBytes (ofString "p cnf 2 1\n1 - 2 0\n") =
    .error "cannot parse clause: cannot read int: not a digit" := by rw [ofString_ofList]; rfl
example : parseCnfBytes (ofString "p cnf 2 1\n1-2 0\n") =
    .error "cannot parse clause: cannot read int: not a digit" := by rw [ofString_ofList]; rfl
theorem parse_plus_literal : parseCnfBytes (ofString "p cnf 2 1\n+1 2 0\n") =
    .error "cannot parse clause: cannot read int: not a digit" := by rw [ofString_ofList]; rfl
theorem parse_comment_inside_clause : parseCnfBytes (ofString "p cnf 2 1\n1\nc note\n2 0\n") =
    .error "cannot parse clause: cannot read int: not a digit" := by rw [ofString_ofList]; rfl
example : parseCnfBytes (ofString "1 0\n") = .error "invalid literal for problem with that many vars only" := by rw [ofString_ofList]; rfl
example : parseCnfBytes (ofString "p cnf -1 0\n") = .error "panic: makeslice: len out of range" := by rw [ofString_ofList]; rfl
example : parseCnfBytes (ofString "p cnf 1 -1\n") = .error "panic: makeslice: cap out of range" := by rw [ofString_ofList]; rfl
example : parseCnfBytes (ofString "9223372036854775808 0") = .error "unmodelled: literal does not fit int32" := by rw [ofString_ofList]; decide +kernel
/-- 64-bit wrap-around: `2^64 + 1` is read as the literal 1. -/
example : parseCnfBytes (ofString "p cnf 1 1\n18446744073709551617 0\n") = .ok (1, 1, [[1]]) := by rw [ofString_ofList]; decide +kernel
/-- A second header drops the clauses read so far; `-0` ends a clause; fields after the third are ignored. -/
example : parseCnfBytes (ofString "p cnf 3 1\n1 0\npxx 2 2 junk\n2 -0") = .ok (2, 2, [[2]]) := by rw [ofString_ofList]; decide +kernel
/-- U+00A0 and U+0085 separate the fields of the header (`strings.Fields`), an isolated `A0` byte does not. -/
example : parseCnfBytes ([112, 32, 99, 110, 102, 194, 160, 50, 194, 133, 49]) = .ok (2, 1, []) := by decide +kernel
example : parseCnfBytes ([112, 32, 99, 110, 102, 32, 50, 160, 49, 32, 49]) =
    .error "cannot parse CNF header: nbvars not an int" := by rfl

end GS.CnfBytes

#print axioms GS.CnfBytes.parseBytes_render
#print axioms GS.CnfBytes.parseBytes_render_sem
#print axioms GS.CnfBytes.parseBytes_total
#print axioms GS.CnfBytes.parseBytes_errors
#print axioms GS.CnfBytes.reject_minus_nondigit
#print axioms GS.CnfBytes.reject_glued
#print axioms GS.CnfBytes.reject_inside_clause
#print axioms GS.CnfBytes.reject_out_of_range
