import GS.Props.C01_WatchDyn
/-!
# C01 (support) — the loop of `simplifyPropClauses` preserves `WatchInv`

`Mid` is the invariant of the `for i, w := range wl` loop of `simplifyPropClauses`: the state in which
`wlist[lit]` is read as `wl[:j] ++ wl[i:]` (`virt`) satisfies `WatchInv` at `ptr`, where the trail holds
`lit`; the watchers already kept, and the binary watchers of `lit`, satisfy the semantic condition of a
processed literal, so that `ptr` advances at the end (`Mid.done`); and every literal pushed since trail
position `n0` is `Forced`, i.e. has an antecedent clause (what `C01_WatchTrail` turns into the guard of the
abstract trail machine).  `simpLoop_spec`: the loop keeps `Mid` and ends as `Post` says.
-/
namespace GS.Watch

theorem findFree_spec {m : List Int} (r : List Int) (k0 : Nat) :
    (∀ l ∈ r, ∃ s, litStatus m l = some s) →
    (findFree m r k0 = .ok none ∧ ∀ l ∈ r, litFalseB m l = true) ∨
    (∃ j litK, findFree m r k0 = .ok (some (k0 + j, litK)) ∧ r[j]? = some litK ∧
      litStatus m litK ≠ some .unsat) := by
  fun_induction findFree m r k0 <;> intro hs
  · exact Or.inl ⟨rfl, fun _ h => nomatch h⟩
  · rename_i l _ _ hl
    obtain ⟨s, h⟩ := hs l List.mem_cons_self
    rw [h] at hl; cases hl
  · rename_i l ls k hl ih
    rcases ih (fun x hx => hs x (List.mem_cons_of_mem _ hx)) with ⟨h1, h2⟩ | ⟨j, litK, h1, h2, h3⟩
    · exact Or.inl ⟨h1, fun x hx => (List.mem_cons.mp hx).elim (fun e => e ▸ litFalseB_of_unsat hl) (h2 x)⟩
    · exact Or.inr ⟨j + 1, litK, by rw [h1, Nat.add_right_comm, Nat.add_assoc], h2, h3⟩
  · rename_i l ls k s hs' hl
    exact Or.inr ⟨0, l, rfl, rfl, fun h => hs' (Option.some.inj (hl.symm.trans h))⟩

theorem swap_01 (a b : Int) (r : List Int) : swap (a :: b :: r) 0 1 = some (b :: a :: r) := by
  simp [swap]

theorem swap_1k (a b : Int) {r : List Int} {j : Nat} {x : Int} (h : r[j]? = some x) :
    swap (a :: b :: r) 1 (2 + j) = some (a :: x :: r.set j b) := by
  have : 2 + j = j + 1 + 1 := by omega
  simp [swap, this, h]

theorem natAbs_ne_of_mem_take {tr : List Int} {ptr : Nat} {lit : Int}
    (hnd : (tr.map Int.natAbs).Nodup) (h : tr[ptr]? = some lit) :
    ∀ x ∈ tr.take ptr, x.natAbs ≠ lit.natAbs := by
  obtain ⟨hlt, hx⟩ := List.getElem?_eq_some_iff.mp h
  have hsplit : tr = tr.take ptr ++ lit :: tr.drop (ptr + 1) := by
    conv => lhs; rw [← List.take_append_drop ptr tr, List.drop_eq_getElem_cons hlt, hx]
  rw [hsplit, List.map_append, List.nodup_append] at hnd
  intro x hmem
  exact hnd.2.2 _ (List.mem_map.mpr ⟨x, hmem, rfl⟩) lit.natAbs (by simp)

/-- Every literal at a trail position `≥ n0` has an antecedent: a clause containing it all of whose
    other literals have their negation earlier on the trail (the guard `isUnit` of
    `GS.Trail.propagateOp`). -/
def Forced (cl : List (List Int)) (reasons : List (Option Nat)) (trail : List Int) (n0 : Nat) : Prop :=
  ∀ (p : Nat) (l : Int), n0 ≤ p → trail[p]? = some l →
    ∃ cid c, reasons[l.natAbs - 1]? = some (some cid) ∧ cl[cid]? = some c ∧ l ∈ c ∧
      ∀ x ∈ c, x ≠ l → (-x) ∈ trail.take p

theorem Forced_perm {cl : List (List Int)} {reasons : List (Option Nat)} {trail : List Int} {n0 cid : Nat}
    {c c' : List Int} (hc : cl[cid]? = some c) (hp : c'.Perm c) (h : Forced cl reasons trail n0) :
    Forced (cl.set cid c') reasons trail n0 := by
  intro p l hp0 hl
  obtain ⟨cid1, c1, hr, hc1, hlc, hall⟩ := h p l hp0 hl
  by_cases hcc : cid1 = cid
  · subst hcc
    rw [hc] at hc1; cases hc1
    refine ⟨cid1, c', hr, by rw [set_get _ _ hc]; simp, hp.mem_iff.mpr hlc, ?_⟩
    intro x hx hxl
    exact hall x (hp.mem_iff.mp hx) hxl
  · exact ⟨cid1, c1, hr, by rw [set_get _ _ hc]; simp [hcc, hc1], hlc, hall⟩

theorem Forced.snoc {cl : List (List Int)} {rs rs' : List (Option Nat)} {tr : List Int} {n0 cid : Nat}
    {l : Int} {c : List Int} (hF : Forced cl rs tr n0)
    (hold : ∀ l' ∈ tr, rs'[l'.natAbs - 1]? = rs[l'.natAbs - 1]?)
    (hnew : rs'[l.natAbs - 1]? = some (some cid)) (hc : cl[cid]? = some c) (hlc : l ∈ c)
    (hall : ∀ x ∈ c, x ≠ l → (-x) ∈ tr) : Forced cl rs' (tr ++ [l]) n0 := by
  intro p l' hp0 hl'
  rcases Nat.lt_or_ge p tr.length with hp | hp
  · rw [List.getElem?_append_left hp] at hl'
    obtain ⟨cid1, c1, hr, hc1, hlc1, hall1⟩ := hF p l' hp0 hl'
    refine ⟨cid1, c1, (hold l' (List.mem_of_getElem? hl')).trans hr, hc1, hlc1, ?_⟩
    rw [List.take_append_of_le_length (Nat.le_of_lt hp)]; exact hall1
  · have hlt := (List.getElem?_eq_some_iff.mp hl').1
    rw [List.length_append, List.length_singleton] at hlt
    obtain rfl : p = tr.length := by omega
    rw [List.getElem?_append_right (Nat.le_refl _), Nat.sub_self] at hl'
    cases hl'
    refine ⟨cid, c, hnew, hc, hlc, ?_⟩
    rw [List.take_append_of_le_length (Nat.le_refl _), List.take_length]; exact hall

theorem Forced_bind {st : State} {ptr n0 cid : Nat} {l lvl : Int} {c : List Int} (h : WatchInv st ptr)
    (hu : litUnboundB st.model l = true) (hc : st.clauses[cid]? = some c) (hlc : l ∈ c)
    (hfalse : ∀ x ∈ c, x ≠ l → litFalseB st.model x = true)
    (hF : Forced st.clauses st.reasons st.trail n0) :
    Forced (bindSt st l lvl cid).clauses (bindSt st l lvl cid).reasons (bindSt st l lvl cid).trail n0 := by
  obtain ⟨hl0, hm0⟩ := litUnboundB_iff.mp hu
  have hlpos : 0 < l.natAbs := Int.natAbs_pos.mpr hl0
  refine Forced.snoc hF (fun l' hl' => List.getElem?_set_ne ?_)
    (List.getElem?_set_self (h.shape.1 ▸ (List.getElem?_eq_some_iff.mp hm0).1)) hc hlc
    fun x hx hxl => neg_mem_trail_of_false h (hfalse x hx hxl)
  -- a trail literal is over another variable than the unbound `l`
  have hl'pos : 0 < l'.natAbs := Int.natAbs_pos.mpr (litTrueB_iff.mp (h.trail_true l' hl')).1
  have hne : l'.natAbs ≠ l.natAbs := fun heq =>
    natAbs_notMem_trail h hu (List.mem_map.mpr ⟨l', hl', heq⟩)
  omega

/-- the state in which `wlist[lit]` is read as `L` -/
def virt (st : State) (lit : Int) (L : List Watcher) : State :=
  { st with wlong := st.wlong.set (litIdx lit) L }

theorem virt_wlong_self {st : State} {lit : Int} (L : List Watcher) (h : litIdx lit < st.wlong.length) :
    (virt st lit L).wlong[litIdx lit]? = some L :=
  List.getElem?_set_self h

/-- Invariant of the `for i, w := range wl` loop: `kept = wl[:j]`, `rest = wl[i:]`.  `n0` is the trail
    position from which on every literal is `Forced`.  `M`, `M2` name the values of `meas`, `nvars`, which
    are kept along the loop and read by no proof: the fuel bound of `loop_spec` comes from `Grows`. -/
structure Mid (M M2 n0 : Nat) (st : State) (ptr : Nat) (lit : Int) (kept rest : List Watcher) : Prop where
  inv : WatchInv (virt st lit (kept ++ rest)) ptr
  lit_at : st.trail[ptr]? = some lit
  lst : litIdx lit < st.wlong.length
  sem : ∀ w ∈ kept, SemW st.clauses st.model w
  semB : ∀ ws, st.wbin[litIdx lit]? = some ws → ∀ w ∈ ws, litTrueB st.model w.other = true
  /-- conserved: every literal pushed on the trail binds an unbound variable -/
  meas : st.trail.length + zeros st.model = M
  nvars : st.model.length = M2
  forced : Forced st.clauses st.reasons st.trail n0

/-- How the loop ends from a `Mid` state: it does not fail; without conflict `Mid` holds with nothing left to
    read; a conflict clause has all its literals false, in a state that satisfies `WatchInv` once
    `wlist[lit] = kept'` is stored (what `simplify` does). -/
def Post (M M2 n0 : Nat) (ptr : Nat) (lit : Int) (res : Except Err (Option Nat × List Watcher × State)) : Prop :=
  ∃ confl kept' st', res = .ok (confl, kept', st') ∧
    Forced st'.clauses st'.reasons st'.trail n0 ∧
    (confl = none → Mid M M2 n0 st' ptr lit kept' []) ∧
    (∀ cid, confl = some cid → WatchInv (virt st' lit kept') ptr ∧ ∃ c, st'.clauses[cid]? = some c ∧
      ∀ l ∈ c, litFalseB st'.model l = true)

theorem simpLoop_sat {lit lvl : Int} {w : Watcher} {rest kept : List Watcher} {st : State}
    (hso : litStatus st.model w.other = some .sat) :
    simpLoop lit lvl (w :: rest) kept st = simpLoop lit lvl rest (kept ++ [w]) st := by
  rw [simpLoop]
  simp only [hso]

abbrev setClause (st : State) (cid : Nat) (c : List Int) : State :=
  { st with clauses := st.clauses.set cid c }

theorem setClause_same {st : State} {cid : Nat} {c : List Int} (h : st.clauses[cid]? = some c) :
    setClause st cid c = st := by
  unfold setClause
  rw [set_eq_self h]

/-- One iteration on a watcher whose blocking literal is not `Sat`.  `st1` is the state after
    `c.swap(0, 1)` (done when literal 0 is `¬lit`), `first` the literal 0 of the clause then, `fs` its status;
    what follows in the Go loop body reads `st1` only. -/
theorem simpLoop_norm {lit lvl : Int} {w : Watcher} {rest kept : List Watcher} {st st1 : State}
    {so fs : Status} {c0 : List Int} {f0 first nl : Int} {r : List Int}
    (hso : litStatus st.model w.other = some so) (hns : so ≠ .sat)
    (hc0 : st.clauses[w.cid]? = some c0) (hf0 : c0[0]? = some f0)
    (hsw : (if f0 = -lit then swap c0 0 1 else some c0) = some (first :: nl :: r))
    (hst1 : st1 = setClause st w.cid (first :: nl :: r))
    (hfs : litStatus st1.model first = some fs) :
    simpLoop lit lvl (w :: rest) kept st =
      if fs = .sat then simpLoop lit lvl rest (kept ++ [⟨w.cid, first⟩]) st1
      else
        match findFree st1.model r 2 with
        | .error e => .error e
        | .ok (some (k, litK)) =>
          match swap (first :: nl :: r) 1 k with
          | none => .error .panic
          | some c2 =>
            match wpush st1.wlong (-litK) ⟨w.cid, first⟩ with
            | none => .error .panic
            | some wl' =>
              simpLoop lit lvl rest kept { st1 with clauses := st1.clauses.set w.cid c2, wlong := wl' }
        | .ok none =>
          if fs = .unsat then .ok (some w.cid, kept ++ [⟨w.cid, first⟩] ++ rest, st1)
          else
            match bind st1 first lvl w.cid with
            | none => .error .panic
            | some st2 => simpLoop lit lvl rest (kept ++ [⟨w.cid, first⟩]) st2 := by
  subst hst1
  rw [simpLoop]
  cases so with
  | sat => exact absurd rfl hns
  | indet | unsat =>
    simp only [hso, hc0, hf0, hsw, List.getElem?_cons_zero, List.drop_succ_cons, List.drop_zero,
      show litStatus st.model first = some fs from hfs, List.set_set]
    cases fs <;> simp only [reduceCtorEq, if_true, if_false] <;> rfl

theorem virt_virt (st : State) (lit : Int) (L L' : List Watcher) :
    virt (virt st lit L) lit L' = virt st lit L' := by
  unfold virt
  simp [List.set_set]

theorem virt_set_ne {st : State} {lit : Int} {k : Nat} (hk : k ≠ litIdx lit) (C : List (List Int))
    (X L L' : List Watcher) :
    virt { st with clauses := C, wlong := st.wlong.set k X } lit L' =
      { virt st lit L with clauses := C, wlong := ((virt st lit L).wlong.set k X).set (litIdx lit) L' } := by
  simp only [virt]
  rw [List.set_comm _ _ hk.symm, List.set_set]

/-- The state `st1` after `c.swap(0, 1)` (done when literal 0 is `¬lit`) satisfies the loop invariant. -/
theorem Mid.normalise {M M2 n0 ptr : Nat} {lit : Int} {w : Watcher} {rest kept : List Watcher} {st : State}
    (h : Mid M M2 n0 st ptr lit kept (w :: rest)) :
    ∃ c0 f0 first r0 st1, st.clauses[w.cid]? = some c0 ∧ c0[0]? = some f0 ∧
      (if f0 = -lit then swap c0 0 1 else some c0) = some (first :: (-lit) :: r0) ∧
      st1 = setClause st w.cid (first :: (-lit) :: r0) ∧
      st1.clauses[w.cid]? = some (first :: (-lit) :: r0) ∧ Mid M M2 n0 st1 ptr lit kept (w :: rest) := by
  have hV := h.inv
  have hlit0 : lit ≠ 0 := (hV.trail_idx h.lit_at).1
  obtain ⟨c0, hc0, hlen0, h01, _⟩ := hV.wlong _ _ (virt_wlong_self (kept ++ w :: rest) h.lst) w (by simp)
  change st.clauses[w.cid]? = some c0 at hc0
  rw [idxLit_litIdx hlit0] at h01
  obtain ⟨x0, x1, r0, hr0, rfl⟩ : ∃ x0 x1 r0, r0 ≠ [] ∧ c0 = x0 :: x1 :: r0 := by
    rcases c0 with _ | ⟨x0, _ | ⟨x1, _ | ⟨y, r⟩⟩⟩
    · cases hlen0
    · exact absurd hlen0 (by simp)
    · exact absurd hlen0 (by simp)
    · exact ⟨x0, x1, y :: r, List.cons_ne_nil _ _, rfl⟩
  simp only [List.getElem?_cons_zero, List.getElem?_cons_succ, Option.some.injEq] at h01
  by_cases hx0 : x0 = -lit
  · refine ⟨_, x0, x1, r0, _, hc0, rfl, by rw [if_pos hx0, swap_01, hx0], rfl,
      List.getElem?_set_self (List.getElem?_eq_some_iff.mp hc0).1, ?_, h.lit_at, h.lst, ?_, h.semB,
      h.meas, h.nvars, ?_⟩
    · rw [← hx0]; exact swap01_inv hV hc0 hr0
    · intro w' hw'; rw [← hx0]; exact SemW_swap hc0 (h.sem w' hw')
    · rw [← hx0]; exact Forced_perm hc0 (List.Perm.swap x0 x1 r0) h.forced
  · obtain rfl : x1 = -lit := h01.resolve_left hx0
    exact ⟨_, x0, x0, r0, st, hc0, rfl, if_neg hx0, (setClause_same hc0).symm, hc0, h⟩

/-- The step of `simpLoop_spec` for a watcher whose blocking literal is not `Sat` (`IH`: the statement for the
    rest of the list), branch by branch of `simpLoop_norm`. -/
theorem simpLoop_nonSat_spec {M M2 n0 ptr : Nat} {lit lvl : Int} (hlvl : 0 < lvl) (w : Watcher)
    (rest kept : List Watcher) (st0 : State) (h0 : Mid M M2 n0 st0 ptr lit kept (w :: rest))
    {so : Status} (hso : litStatus st0.model w.other = some so) (hns : so ≠ .sat)
    (IH : ∀ kept' st', Mid M M2 n0 st' ptr lit kept' rest → Post M M2 n0 ptr lit (simpLoop lit lvl rest kept' st')) :
    Post M M2 n0 ptr lit (simpLoop lit lvl (w :: rest) kept st0) := by
  -- `st` is the state in which `c.swap(0, 1)` has been done
  obtain ⟨c0, f0, first, r0, st, hc0, hf0, hsw, hst, hcl, h⟩ := h0.normalise
  have hV := h.inv
  have hlt : litTrueB st.model lit = true := hV.trail_true lit (List.mem_of_getElem? h.lit_at)
  have hlit0 : lit ≠ 0 := (litTrueB_iff.mp hlt).1
  have hnot : lit ∉ st.trail.take ptr := fun hmem =>
    natAbs_ne_of_mem_take hV.trail_nodup h.lit_at lit hmem rfl
  have hnl : litTrueB st.model (-lit) = false := litTrueB_neg_false hlt
  have hVi := virt_wlong_self (kept ++ w :: rest) h.lst
  obtain ⟨_, hlits, hnd⟩ : ClauseOk st.model.length (first :: (-lit) :: r0) :=
    hV.clauses _ (List.mem_of_getElem? hcl)
  obtain ⟨fs, hfs⟩ := litStatus_some (hlits first List.mem_cons_self).1 (hlits first List.mem_cons_self).2
  have happ : kept ++ [(⟨w.cid, first⟩ : Watcher)] ++ rest = kept ++ ⟨w.cid, first⟩ :: rest := by simp
  -- the state in which `w` has been replaced by `⟨w.cid, first⟩` in place (`wl[j] = w2` in Go)
  have hV2 : WatchInv (virt st lit (kept ++ [⟨w.cid, first⟩] ++ rest)) ptr := by
    rw [happ, ← virt_virt st lit (kept ++ w :: rest)]
    exact replaceW_inv (w2 := ⟨w.cid, first⟩) hV hVi rfl
      (fun c hc => by cases hcl.symm.trans hc; simp) (by rw [idxLit_litIdx hlit0]; exact hnot)
  have hr0 : ∀ l ∈ r0, l ≠ 0 ∧ l.natAbs ≤ st.model.length := fun l hl =>
    hlits l (List.mem_cons_of_mem _ (List.mem_cons_of_mem _ hl))
  have hshape := hV.shape
  change st.reasons.length = st.model.length ∧ st.wbin.length = 2 * st.model.length ∧
    (st.wlong.set (litIdx lit) (kept ++ w :: rest)).length = 2 * st.model.length at hshape
  rw [List.length_set] at hshape
  rw [simpLoop_norm hso hns hc0 hf0 hsw hst hfs]
  by_cases hsat : fs = .sat
  · subst hsat
    rw [if_pos rfl]
    apply IH
    refine ⟨hV2, h.lit_at, h.lst, ?_, h.semB, h.meas, h.nvars, h.forced⟩
    intro w' hw'
    rcases List.mem_append.mp hw' with hw' | hw'
    · exact h.sem w' hw'
    · rw [List.mem_singleton.mp hw']
      exact Or.inr ⟨_, hcl, Or.inl ⟨first, rfl, litTrueB_of_sat hfs⟩⟩
  rw [if_neg hsat]
  rcases findFree_spec (m := st.model) r0 2 fun l hl => litStatus_some (hr0 l hl).1 (hr0 l hl).2 with
    ⟨hnone, hallF⟩ | ⟨j, litK, hsome, hkj, hnu⟩
  · have hfalse : ∀ x ∈ first :: (-lit) :: r0, x ≠ first → litFalseB st.model x = true := by
      intro x hx hxf
      simp only [List.mem_cons] at hx
      rcases hx with hx | hx | hx
      · exact absurd hx hxf
      · subst hx; exact litFalseB_neg hlt
      · exact hallF x hx
    simp only [hnone]
    cases fs with
    | sat => exact absurd rfl hsat
    | unsat =>
      rw [if_pos rfl]
      refine ⟨some w.cid, _, _, rfl, h.forced, by simp, ?_⟩
      intro cid hcid
      cases hcid
      refine ⟨hV2, _, hcl, fun l hl => ?_⟩
      by_cases hlf : l = first
      · subst hlf; exact litFalseB_of_unsat hfs
      · exact hfalse l hl hlf
    | indet =>
      have hu : litUnboundB st.model first = true := litUnboundB_of_indet hfs
      simp only [reduceCtorEq, if_false, bind_unbound hshape.1 hu lvl w.cid]
      apply IH
      have hmono : ∀ x, litTrueB st.model x = true →
          litTrueB (st.model.set (first.natAbs - 1) (signedLvl first lvl)) x = true :=
        fun x hx => litTrueB_set_mono hu hx
      refine ⟨bindSt_inv w.cid hV2 hu hlvl, bindSt_trail_get h.lit_at, h.lst, ?_, ?_, ?_, ?_, ?_⟩
      · intro w' hw'
        rcases List.mem_append.mp hw' with hw' | hw'
        · exact SemW_mono hmono (h.sem w' hw')
        · rw [List.mem_singleton.mp hw']
          exact Or.inr ⟨_, hcl, Or.inl ⟨first, rfl, litTrueB_set_self hu hlvl⟩⟩
      · intro ws hws w' hw'
        exact hmono _ (h.semB ws hws w' hw')
      · rw [← h.meas]; exact bindSt_meas hu (Int.ne_of_gt hlvl) w.cid
      · show (st.model.set _ _).length = M2
        rw [List.length_set]; exact h.nvars
      · exact Forced_bind (lvl := lvl) (st := virt st lit (kept ++ [⟨w.cid, first⟩] ++ rest)) hV2 hu hcl
          (by simp) hfalse h.forced
  · -- the watcher moves to the list of `¬litK`
    have hKr : litK ∈ r0 := List.mem_of_getElem? hkj
    obtain ⟨hK0, hKn⟩ := hr0 litK hKr
    have hnK0 : -litK ≠ 0 := by omega
    have hklt : litIdx (-litK) < st.wlong.length := by
      rw [hshape.2.2]; exact litIdx_lt hnK0 (by rw [Int.natAbs_neg]; exact hKn)
    obtain ⟨Lk, hLk⟩ : ∃ Lk, st.wlong[litIdx (-litK)]? = some Lk :=
      ⟨_, List.getElem?_eq_getElem hklt⟩
    simp only [hsome, swap_1k first (-lit) hkj, wpush_eq hnK0 hLk]
    have hKl : litK.natAbs ≠ lit.natAbs :=
      Int.natAbs_neg lit ▸ natAbs_ne_of_nodup_cons (List.nodup_cons.mp hnd).2 hKr
    have hik : litIdx (-litK) ≠ litIdx lit :=
      litIdx_ne_of_natAbs_ne hnK0 hlit0 (by rw [Int.natAbs_neg]; exact hKl)
    have hLk' : (virt st lit (kept ++ w :: rest)).wlong[litIdx (-litK)]? = some Lk := by
      show (st.wlong.set _ _)[_]? = _
      rw [List.getElem?_set_ne (Ne.symm hik)]; exact hLk
    apply IH
    refine ⟨?_, h.lit_at, Nat.lt_of_lt_of_eq h.lst (List.length_set ..).symm, fun w' hw' => SemW_move hcl hnl (h.sem w' hw'), h.semB,
      h.meas, h.nvars, Forced_perm hcl ((set_perm (b := -lit) hkj).cons first) h.forced⟩
    rw [virt_set_ne hik _ _ (kept ++ w :: rest)]
    exact moveW_inv hV hlit0 hVi hcl hkj hLk' hnot (neg_not_true_of_not_unsat hnu) hnl

/-- **The loop of `simplifyPropClauses` keeps its invariant**, never panics, and a conflict clause it
    returns has all its literals false. -/
theorem simpLoop_spec {M M2 n0 ptr : Nat} {lit lvl : Int} (hlvl : 0 < lvl) :
    ∀ (rest kept : List Watcher) (st : State), Mid M M2 n0 st ptr lit kept rest →
      Post M M2 n0 ptr lit (simpLoop lit lvl rest kept st) := by
  intro rest
  induction rest with
  | nil =>
    intro kept st h
    exact ⟨none, kept, st, by simp [simpLoop], h.forced, fun _ => h, by simp⟩
  | cons w rest ih =>
    intro kept st h
    have hV := h.inv
    obtain ⟨c0, hc0, _, _, hoc⟩ := hV.wlong _ _ (virt_wlong_self _ h.lst) w (by simp)
    have hcond := (hV.clauses c0 (List.mem_of_getElem? hc0)).2.1 _ hoc
    change w.other ≠ 0 ∧ w.other.natAbs ≤ st.model.length at hcond
    obtain ⟨so, hso⟩ := litStatus_some hcond.1 hcond.2
    by_cases hsat : so = .sat
    · subst hsat
      rw [simpLoop_sat hso]
      apply ih
      refine ⟨?_, h.lit_at, h.lst, ?_, h.semB, h.meas, h.nvars, h.forced⟩
      · have : kept ++ [w] ++ rest = kept ++ w :: rest := by simp
        rw [this]; exact hV
      · intro w' hw'
        simp only [List.mem_append, List.mem_singleton] at hw'
        rcases hw' with hw' | hw'
        · exact h.sem w' hw'
        · subst hw'; exact Or.inl (litTrueB_of_sat hso)
    · exact simpLoop_nonSat_spec hlvl w rest kept st h hso hsat (fun k s hm => ih k s hm)

theorem Mid.done {M M2 n0 : Nat} {st : State} {ptr : Nat} {lit : Int} {kept : List Watcher}
    (h : Mid M M2 n0 st ptr lit kept []) : WatchInv (virt st lit kept) (ptr + 1) := by
  have hV := h.inv
  rw [List.append_nil] at hV
  have hp : ptr < st.trail.length := (List.getElem?_eq_some_iff.mp h.lit_at).1
  have hlit0 : lit ≠ 0 := (hV.trail_idx h.lit_at).1
  have htake : ∀ x, x ∈ (virt st lit kept).trail.take (ptr + 1) →
      x ∈ (virt st lit kept).trail.take ptr ∨ x = lit := by
    intro x hx
    change x ∈ st.trail.take (ptr + 1) at hx
    rw [List.take_add_one, h.lit_at] at hx
    show x ∈ st.trail.take ptr ∨ x = lit
    simpa using hx
  refine ⟨hV.shape, hV.clauses, hp, hV.trail_true, hV.trail_nodup, hV.bound_on_trail, hV.wbin,
    hV.wlong, hV.count, ?_, ?_⟩
  · intro i ws hws hin w hw
    rcases htake _ hin with hin | hin
    · exact hV.semBin i ws hws hin w hw
    · have hi : i = litIdx lit := by rw [← hin, litIdx_idxLit]
      rw [hi] at hws
      exact h.semB ws hws w hw
  · intro i ws hws hin w hw
    rcases htake _ hin with hin | hin
    · exact hV.semLong i ws hws hin w hw
    · have hi : i = litIdx lit := by rw [← hin, litIdx_idxLit]
      rw [hi] at hws
      rw [virt_wlong_self kept h.lst] at hws
      cases hws
      exact h.sem w hw

end GS.Watch
