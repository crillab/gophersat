import GS.Props.C08_Explain
/-!
# C08 — completeness of the `explain` certificate checker w.r.t. the verified RUP checker

`checker_complete_up`: every certificate accepted by `GS.rupValid` is accepted by the mirror of
`explain.(*Problem).Unsat`, provided no line contains complementary literals.  Clauses and lines
may repeat literals (the scan before its repair needed "no clause and no line repeats a literal":
`checker_complete_up_nodup`).

Proof idea (confluence of unit propagation, in its "saturated state" form).  When the Go loop
`for modified { … }` stops without a conflict, its last pass changed no binding, so under the
final bindings `w` every clause is *saturated* (`SatCl`): it has a true literal (clauses marked
`done` keep their true literal because bindings are only ever added) or it has two different
unbound literals (`scan_start`: the scan gives up only at an unbound literal different
from the first unbound literal; this is where the branch
`if unbound == 1 && lit == unit { continue }` is used); this is `LoopOk.sat` in
`GS/Props/C08_Explain.lean`.  A saturated state absorbs every unit-propagation run that starts
inside it: "inside `w`" is kept by every visit of a clause (`scan_absorb`: the literal the RUP
checker binds is already true in `w`, and a clause it finds falsified would be falsified in `w`),
hence by `GS.fix` (`GS.fix_inv`).  The start bindings of the RUP checker (negation of the line
over an empty array) are contained in the start bindings of the Go code (negation of the line
written over `units`), since writing the same literals into two arrays keeps one inside the other
(`Ext_installNeg`).  "No complementary literals" is needed for one reason only: the RUP checker
accepts a tautological line outright (`assumeNeg_none_cases`), the Go code does not.  Both
certificate loops add the accepted line to their clause set, and `units` is the same for each
line, so they stay in step (`allLoop_complete`).
-/
namespace GS.Explain
open GS

theorem installNeg_wf (c : List Int) (u : Array Int) (hnz : ∀ l ∈ c, l ≠ 0) (h : WF u) :
    WF (installNeg u c) := by
  fun_induction installNeg u c with
  | case1 => exact h
  | case2 u l rest ih =>
    have hl : l ≠ 0 := hnz l List.mem_cons_self
    exact ih (fun x hx => hnz x (List.mem_cons_of_mem _ hx)) (wf_setLit u (-l) (by omega) h)

theorem Ext_setLit_mono {u w : Array Int} (l : Int) (hl : l ≠ 0) (hr : l.natAbs ≤ w.size)
    (he : Ext u w) : Ext (setLit u l) (setLit w l) := by
  intro x hx
  by_cases hv : x.natAbs = l.natAbs
  · -- the variable of `l` is bound in `setLit u l`, so `l` is true there and `x` cannot be `-l`
    have hlt := bind_ne_zero_lt _ _ hx.bound
    rw [size_setLit, hv] at hlt
    have hself := Tr_setLit_self u l hl (by have := Int.natAbs_pos.2 hl; omega)
    rcases Int.natAbs_eq_natAbs_iff.1 hv with rfl | rfl
    · exact Tr_setLit_self w x hl hr
    · exact (hself.not_neg hx).elim
  · exact (Tr_setLit_of_ne w l x hl hv).2 (he x ((Tr_setLit_of_ne u l x hl hv).1 hx))

/-- start bindings of `GS.rupLine` (`u` empty) ⊆ start bindings of the Go code (`w = units`) -/
theorem Ext_installNeg (c : List Int) (u w : Array Int) (hr : ∀ l ∈ c, l ≠ 0 ∧ l.natAbs ≤ w.size)
    (he : Ext u w) : Ext (installNeg u c) (installNeg w c) := by
  fun_induction installNeg u c generalizing w with
  | case1 => exact he
  | case2 u a rest ih =>
    have ha := hr a List.mem_cons_self
    exact ih _ (fun l hl => size_setLit w (-a) ▸ hr l (List.mem_cons_of_mem _ hl))
      (Ext_setLit_mono (-a) (by omega) (Int.natAbs_neg a ▸ ha.2) he)

theorem assumeNeg_some (c : List Int) (u u' : Array Int) (h : assumeNeg u c = some u') :
    u' = installNeg u c := by
  fun_induction assumeNeg u c with
  | case1 => exact (Option.some.inj h).symm
  | case2 => cases h
  | case3 => cases h
  | case4 u l rest _ _ ih => exact ih h

theorem checkLine_rejected (n : Nat) (pb : Pb) (c : List Int) (hsz : pb.units.size = n)
    (hwf : cnfWf n pb.clauses = true) (hrej : (checkLine pb c).1 = false) :
    ∃ w, Ext (installNeg pb.units c) w ∧ ∀ c' ∈ pb.clauses, SatCl w c' :=
  have h := checkLine_ok n pb c hsz hwf
  ⟨_, h.sat hrej (h.fuel (Nat.lt_succ_of_le (Nat.le_succ_of_le (zeros_le _))))⟩

/-- a saturated state `w` absorbs a visit of the clause `c` that starts inside it -/
theorem scan_absorb {w u : Array Int} {c : List Int} (hnz : ∀ l ∈ c, l ≠ 0) (hsat : SatCl w c)
    (hwf : WF u) (he : Ext u w) :
    scan u c 0 0 ≠ .conflict ∧ ∀ l, scan u c 0 0 = .unit l → WF (setLit u l) ∧ Ext (setLit u l) w := by
  have sp := scan_start u c 0
  refine ⟨fun hs => ?_, fun l hs => ?_⟩
  · -- conflict: impossible, the clause would be falsified under `w`
    have hfalse : ∀ x ∈ c, Tr w (-x) := fun x hx => he _ ((sp.conflict hs x hx).neg hwf (hnz x hx))
    rcases hsat with ⟨l, hl, ht⟩ | ⟨x, hx, _, _, _, hxb, _⟩
    · exact ht.not_neg (hfalse l hl)
    · exact (hfalse x hx).unbound_neg hxb
  · -- unit `l`: `l` is already true under `w`
    obtain ⟨hlc, _, hoth⟩ := sp.unit l hs
    have hfalse : ∀ x ∈ c, x ≠ l → Tr w (-x) := fun x hx hxl =>
      he _ (((hoth x hx).resolve_left hxl).neg hwf (hnz x hx))
    have hl : l ≠ 0 := hnz l hlc
    have htl : Tr w l := by
      rcases hsat with ⟨y, hy, ht⟩ | ⟨x, hx, y, hy, hxy, hxb, hyb⟩
      · by_cases hyl : y = l
        · exact hyl ▸ ht
        · exact absurd (hfalse y hy hyl) (fun h => ht.not_neg h)
      · exfalso
        by_cases hxl : x = l
        · exact (hfalse y hy (fun e => hxy (hxl.trans e.symm))).unbound_neg hyb
        · exact (hfalse x hx hxl).unbound_neg hxb
    refine ⟨wf_setLit u l hl hwf, fun x hx => ?_⟩
    rcases Tr_setLit_cases u l x hl hx with h | rfl
    · exact he x h
    · exact htl

/-- hence it absorbs every unit-propagation run that starts inside it -/
theorem rup_fix_complete (w : Array Int) (all : List (List Int)) (hnz : Nz all)
    (hsat : ∀ c ∈ all, SatCl w c) (f : List (List Int)) (hsub : ∀ c ∈ f, c ∈ all)
    (fuel : Nat) (u : Array Int) (hwf : WF u) (he : Ext u w) : GS.fix f fuel u = false :=
  fix_inv (I := fun u => WF u ∧ Ext u w)
    (fun _ hu c hc => scan_absorb (hnz c (hsub c hc)) (hsat c (hsub c hc)) hu.1 hu.2) fuel u ⟨hwf, he⟩

/-- `db`, the clause set of `GS.rupLine`, need only be contained in the clause list of the Go
    problem. -/
theorem line_complete (n : Nat) (pb : Pb) (db : List (List Int)) (c : List Int)
    (hsz : pb.units.size = n) (hwf : cnfWf n pb.clauses = true)
    (hsub : ∀ c' ∈ db, c' ∈ pb.clauses)
    (hc : clauseWf n c = true) (hnc : ∀ l ∈ c, -l ∉ c)
    (hrup : rupLine n db c = true) : (checkLine pb c).1 = true := by
  cases hrej : (checkLine pb c).1 with
  | true => rfl
  | false =>
    exfalso
    obtain ⟨w, hext, hsat⟩ := checkLine_rejected n pb c hsz hwf hrej
    have hrc : ∀ l ∈ c, l ≠ 0 ∧ l.natAbs ≤ n := (clauseWf_iff n c).1 hc
    have hnzc : ∀ l ∈ c, l ≠ 0 := fun l hl => (hrc l hl).1
    unfold rupLine at hrup
    simp only [Bool.and_eq_true] at hrup
    obtain ⟨_, hm⟩ := hrup
    cases hass : assumeNeg (emptyBind n) c with
    | none =>
      rcases assumeNeg_none_cases c _ hnzc hass with ⟨l, _, ht⟩ | ⟨l, hl, hl'⟩
      · exact not_Tr_empty n l ht
      · exact hnc l hl hl'
    | some u0 =>
      rw [hass] at hm
      simp only at hm
      have hu0 := assumeNeg_some c _ _ hass
      subst hu0
      have hstart : Ext (installNeg (emptyBind n) c) w :=
        (Ext_installNeg c _ pb.units (hsz ▸ hrc) fun x hx => absurd hx (not_Tr_empty n x)).trans hext
      have := rup_fix_complete w pb.clauses (nz_of_cnfWf n _ hwf) hsat db hsub (n + 2)
        (installNeg (emptyBind n) c) (installNeg_wf c _ hnzc (wf_empty n)) hstart
      rw [this] at hm
      cases hm

theorem allLoop_complete (n : Nat) (lines : List (List Int)) (pb : Pb) (db : List (List Int))
    (i j : Nat) (hsz : pb.units.size = n) (hwf : cnfWf n pb.clauses = true)
    (hsub : ∀ c ∈ db, c ∈ pb.clauses) (hl : cnfWf n lines = true)
    (hlnc : ∀ c ∈ lines, ∀ l ∈ c, -l ∉ c) (hrup : rupFirstBad n db lines i = none) :
    (allLoop pb lines j).valid = true := by
  fun_induction rupFirstBad n db lines i generalizing pb j with
  | case1 => rfl
  | case2 db c rest i hline ih =>
    have hcw := (cnfWf_cons n c rest).1 hl
    have hacc := line_complete n pb db c hsz hwf hsub hcw.1 (hlnc c List.mem_cons_self) hline
    rw [allLoop_acc pb c rest j hacc]
    apply ih (learn pb c) (j+1) hsz (cnfWf_append_one n pb.clauses c hwf hcw.1) _ hcw.2
      (fun c' hc' => hlnc c' (List.mem_cons_of_mem _ hc')) hrup
    intro c' hc'
    show c' ∈ pb.clauses ++ [c]
    rcases List.mem_cons.1 hc' with rfl | h
    · simp
    · exact List.mem_append.2 (Or.inl (hsub c' h))
  | case3 => cases hrup

/-- **Completeness of the `explain` checker w.r.t. unit propagation** (C08), for a problem as
    `ParseCNF` builds it. -/
theorem checker_complete_up : checker_complete_up_statement := by
  intro n cs lines hcs hl hlnc hv
  show (allLoop (initTagged (mkPb n cs)) lines 0).valid = true
  exact allLoop_complete n lines (initTagged (mkPb n cs)) cs 0 0 (initUnits_size n cs) hcs
    (fun c hc => hc) hl hlnc ((rupValid_iff n cs lines).1 hv)

/-- the same for `UnsatChan`, which stops reading at the first empty clause -/
theorem checkChan_complete_up (n : Nat) (cs lines : List (List Int)) (hcs : cnfWf n cs = true)
    (hl : cnfWf n lines = true)
    (hlnc : ∀ c ∈ lines, ∀ l ∈ c, -l ∉ c) (hv : rupValid n cs (cutAtEmpty lines) = true) :
    checkChan (mkPb n cs) lines = true := by
  rw [(checkChan_eq (mkPb n cs) lines).1]
  apply checker_complete_up n cs (cutAtEmpty lines) hcs _
    (fun c hc => hlnc c ((cutAtEmpty_prefix lines).subset hc)) hv
  exact cnfWf_cutAtEmpty n lines hl

/-- with the hypotheses the scan before its repair needed (no clause of the problem and no line
    repeats a literal) -/
theorem checker_complete_up_nodup : checker_complete_up_nodup_statement :=
  fun n cs lines hcs hl _ _ hlnc hv => checker_complete_up n cs lines hcs hl hlnc hv

theorem checkChan_complete_up_nodup (n : Nat) (cs lines : List (List Int)) (hcs : cnfWf n cs = true)
    (hl : cnfWf n lines = true) (_hnd : ∀ c ∈ cs, c.Nodup) (_hlnd : ∀ c ∈ lines, c.Nodup)
    (hlnc : ∀ c ∈ lines, ∀ l ∈ c, -l ∉ c) (hv : rupValid n cs (cutAtEmpty lines) = true) :
    checkChan (mkPb n cs) lines = true :=
  checkChan_complete_up n cs lines hcs hl hlnc hv

/-- a non-trivial instance: 3 variables, 7 clauses (none of them a unit clause), a certificate
    of three learned clauses ending with the empty clause -/
example :
    let cs : List (List Int) := [[1, 2], [-1, 2, 3], [-2, 3], [-3, 1], [-1, -2], [-3, -1, 2], [3, 2, -1]]
    let lines : List (List Int) := [[2, 3], [3], [1], []]
    cnfWf 3 cs = true ∧ cnfWf 3 lines = true ∧
    (∀ c ∈ lines, ∀ l ∈ c, -l ∉ c) ∧ rupValid 3 cs lines = true := by decide +kernel

example : checkAll (mkPb 3 [[1, 2], [-1, 2, 3], [-2, 3], [-3, 1], [-1, -2], [-3, -1, 2], [3, 2, -1]])
    [[2, 3], [3], [1], []] = true :=
  checker_complete_up 3 _ _ (by decide) (by decide) (by decide) (by decide)

/-- an instance with repeated literals in clauses of the problem (`1 2 1`, needed as a unit once 2
    is false, and `-1 3 3 -1`) and in lines (`3 3`, `-2 -2 -2`): the hypotheses hold, and the
    conclusion is also checked directly.  The code before the repair rejected this certificate at
    its first line. -/
example :
    let cs : List (List Int) := [[1, 2, 1], [-1, 3, 3, -1], [-3, 2, -3], [-2, -2]]
    let lines : List (List Int) := [[3, 3], [-2, -2, -2], []]
    cnfWf 3 cs = true ∧ cnfWf 3 lines = true ∧
    (∀ c ∈ lines, ∀ l ∈ c, -l ∉ c) ∧ rupValid 3 cs lines = true ∧
    checkAll (mkPb 3 cs) lines = true ∧ checkChan (mkPb 3 cs) lines = true := by decide +kernel

example : checkChan (mkPb 3 [[1, 2, 1], [-1, 3, 3, -1], [-3, 2, -3], [-2, -2]])
    [[3, 3], [-2, -2, -2], [], [1, 1]] = true :=
  checkChan_complete_up 3 _ _ (by decide) (by decide) (by decide) (by decide)

#print axioms checker_complete_up
#print axioms checkChan_complete_up
#print axioms checker_complete_up_nodup
#print axioms checkChan_complete_up_nodup

end GS.Explain
