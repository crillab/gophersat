import GS.Model.MaxSatEnc
import GS.Check.MaxSatBrute
import GS.Spec.LitSum
/-!
# C04 — the blocking-literal encoding of MaxSAT is exact, and relaxation variables do not leak

`GS.MaxSatEnc.encode n hard soft` is what `maxsat.ParseWCNF` hands to the pseudo-boolean
optimiser, and what `maxsat.New` handed to it before the fix 2c3f689 (blocking coefficient
`AtLeast`; since then it is `blockCoeff`, which is `AtLeast` when no coefficient is negative:
`C04_MaxSatSigned`). This file proves, for all instances such that

* `hard.wf n`, `softWf n soft` : the user's literals are non-zero and within `1..n`
  (so the blocking variables `n+1, n+2, …` are fresh),
* `softNonneg soft`             : the coefficients of the soft constraints are `≥ 0`
  (needed for completeness: a true blocking literal must satisfy the relaxed constraint),
* `weightsNonneg soft`          : the weights are `≥ 0`
  (needed for soundness: a blocking literal may be true although its constraint holds),

that optima of the encoded problem are exactly the MaxSAT optima (`optimum_transfer`),
that the encoded problem is satisfiable iff the hard part is (`encoded_sat_iff`), and that
trimming a model list at `firstRelax = n` yields exactly the user's variables (`trim_model`).
No hypothesis on the degree is needed for these semantic statements; `newSoft_toLin` (fidelity of
`relax` to the three branches of `New`) asks `1 ≤ AtLeast` of a constraint without explicit
coefficients.
-/
namespace GS.MaxSatEnc
open GS

def termsNonneg (ts : List (Int × Int)) : Bool := ts.all (fun t => decide (0 ≤ t.1))

/-- All coefficients of all soft constraints are `≥ 0`. -/
def softNonneg (ss : List Soft) : Bool := ss.all (fun s => termsNonneg s.c.terms)

/-- All weights are `≥ 0`. -/
def weightsNonneg (ss : List Soft) : Bool := ss.all (fun s => decide (0 ≤ s.weight))

theorem lhs_nonneg_of_termsNonneg (a : Asg) (ts : List (Int × Int)) (h : termsNonneg ts = true) :
    0 ≤ lhs a ts :=
  GS.lhs_nonneg a ts fun t ht => of_decide_eq_true (List.all_eq_true.1 h t ht)

/-- `relax` takes `k = c.degree`, `MaxSatSigned.relaxS` takes `k = blockCoeff c`. -/
theorem holds_blocking (a : Asg) (c : Lin) (k b : Int) :
    (⟨c.terms ++ [(k, b)], c.degree⟩ : Lin).holds a =
      if litTrue a b = true then decide (c.degree ≤ lhs a c.terms + k) else c.holds a := by
  simp only [Lin.holds, lhs_append, lhs, termVal, Int.add_zero]
  cases litTrue a b
  · simp only [Bool.false_eq_true, if_false, Int.add_zero]
  · rfl

theorem holds_blocking_imp (a : Asg) (c : Lin) (k b : Int)
    (h : (⟨c.terms ++ [(k, b)], c.degree⟩ : Lin).holds a = true) :
    c.holds a = true ∨ litTrue a b = true := by
  rw [holds_blocking] at h
  cases hb : litTrue a b with
  | true => exact Or.inr rfl
  | false => rw [hb] at h; exact Or.inl h

theorem holds_blocking_iff (a : Asg) (c : Lin) (k b : Int) (hk : c.degree ≤ lhs a c.terms + k) :
    (⟨c.terms ++ [(k, b)], c.degree⟩ : Lin).holds a = true ↔ (c.holds a = true ∨ litTrue a b = true) := by
  rw [holds_blocking]
  cases litTrue a b with
  | true => exact ⟨fun _ => Or.inr rfl, fun _ => decide_eq_true hk⟩
  | false => exact ⟨Or.inl, fun h => h.resolve_right Bool.false_ne_true⟩

/-- `c` relaxed with `k·b` and charged `w·b`, when `b` is set to "`c` is violated by `u`": the
    relaxed constraint holds and the charge is the violated weight. -/
theorem blocked_complete (u e : Asg) (c : Lin) (w k : Int) (b : Nat) (hk : c.degree ≤ lhs e c.terms + k)
    (hc : c.holds e = c.holds u) (hb : litTrue e (b : Int) = !c.holds u) :
    (⟨c.terms ++ [(k, (b : Int))], c.degree⟩ : Lin).holds e = true ∧
    lhs e [(w, (b : Int))] = if c.holds u = true then 0 else w := by
  rw [holds_blocking_iff e c k b hk, hc]
  revert hb
  cases c.holds u <;> intro hb <;> simp [lhs, termVal, hb]

theorem blocked_sound (a : Asg) (c : Lin) (w k : Int) (b : Nat) (hw : 0 ≤ w)
    (h : (⟨c.terms ++ [(k, (b : Int))], c.degree⟩ : Lin).holds a = true) :
    (if c.holds a = true then 0 else w) ≤ lhs a [(w, (b : Int))] := by
  simp only [lhs, Int.add_zero]
  rcases holds_blocking_imp a c k b h with hc | hb
  · rw [if_pos hc]; exact (termVal_bounds a (t := (w, (b : Int))) hw).1
  · simp only [termVal, hb, if_true]
    split <;> omega

theorem relax_unblocked (a : Asg) (c : Lin) (b : Int) (hb : litTrue a b = false) :
    (relax c b).holds a = c.holds a :=
  (holds_blocking a c c.degree b).trans (if_neg (by simp [hb]))

theorem relax_sound (a : Asg) (c : Lin) (b : Int) (h : (relax c b).holds a = true) :
    c.holds a = true ∨ litTrue a b = true :=
  holds_blocking_imp a c c.degree b h

theorem relax_sem (a : Asg) (c : Lin) (b : Int) (hn : termsNonneg c.terms = true) :
    (relax c b).holds a = true ↔ (c.holds a = true ∨ litTrue a b = true) :=
  holds_blocking_iff a c c.degree b (by have := lhs_nonneg_of_termsNonneg a c.terms hn; omega)

/-- hypotheses of `relax_sem` met by the cardinality constraint `x1 + x2 + ¬x3 ≥ 2`. -/
example : termsNonneg (Lin.ofCard [1, 2, -3] 2).terms = true := by decide

/-- **Counterexample with a negative coefficient** (degree `1 ≥ 1`): `2·x1 − x2 ≥ 1` relaxed by
    `x3` is `2·x1 − x2 + x3 ≥ 1`; under `x1 = false, x2 = true, x3 = true` the blocking literal
    is true but the relaxed constraint is violated (`0 ≥ 1`). `maxsat.New` built exactly this
    (`solver.GtEq` then normalises it to `2·x1 + ¬x2 + x3 ≥ 2`, same meaning) until the fix
    2c3f689 gave the blocking literal the coefficient `blockCoeff` (`C04_MaxSatSigned`). -/
example :
    let c : Lin := ⟨[(2, 1), (-1, 2)], 1⟩
    let a : Asg := asgOf [false, true, true]
    litTrue a 3 = true ∧ (relax c 3).holds a = false := by decide

theorem zip_append_single (xs : List Int) (ys : List Int) (x y : Int) (h : xs.length = ys.length) :
    (xs ++ [x]).zip (ys ++ [y]) = xs.zip ys ++ [(x, y)] := by
  rw [List.zip_append h]; rfl

theorem toLin_cases (c : GoConstr) (l : Lin) (hl : c.toLin = some l) :
    (c.coeffs = [] ∧ l = ⟨c.lits.map (fun x => (1, x)), c.atLeast⟩) ∨
    (c.coeffs ≠ [] ∧ c.coeffs.length = c.lits.length ∧ l = ⟨c.coeffs.zip c.lits, c.atLeast⟩) := by
  unfold GoConstr.toLin at hl
  cases hc : c.coeffs with
  | nil => rw [hc] at hl; exact Or.inl ⟨rfl, (Option.some.inj hl).symm⟩
  | cons k ks =>
    rw [hc] at hl
    simp only [List.isEmpty_cons, Bool.false_eq_true, if_false] at hl
    split at hl
    · rename_i hlen; exact Or.inr ⟨nofun, hlen, (Option.some.inj hl).symm⟩
    · cases hl

theorem toLin_degree (c : GoConstr) (l : Lin) (hl : c.toLin = some l) : l.degree = c.atLeast := by
  rcases toLin_cases c l hl with ⟨_, rfl⟩ | ⟨_, _, rfl⟩ <;> rfl

/-- Lines 38-66 of problem.go with `k` as the coefficient of the blocking literal: `newSoft` takes
    `AtLeast`, `MaxSatSigned.newSoftS` takes `blockCoeff` (and relaxes only when it is positive). -/
def softK (c : GoConstr) (bl k : Int) : GoConstr :=
  let coeffs0 : Option (List Int) := if c.coeffs.length ≠ 0 then some c.coeffs else none
  let coeffs1 : Option (List Int) :=
    if coeffs0.isNone && c.atLeast > 1 then some (c.lits.map (fun _ => (1 : Int))) else coeffs0
  ⟨c.lits ++ [bl], (coeffs1.map (fun cs => cs ++ [k])).getD [], c.atLeast⟩

theorem newSoft_eq_softK (c : GoConstr) (bl : Int) : newSoft c bl = softK c bl c.atLeast := rfl

/-- The three branches of `New` on a soft constraint — clause (`nil` coefficients, bound ≤ 1: the
    blocking literal gets the implicit coefficient 1), cardinality constraint (`nil` coefficients,
    bound > 1), PB constraint (as many coefficients as literals) — append the term `k · bl`. -/
theorem softK_toLin (c : GoConstr) (bl k : Int) (l : Lin) (hl : c.toLin = some l)
    (hk : c.coeffs = [] → ¬ c.atLeast > 1 → k = 1) :
    (softK c bl k).toLin = some ⟨l.terms ++ [(k, bl)], c.atLeast⟩ := by
  obtain ⟨lits, coeffs, d⟩ := c
  rcases toLin_cases _ l hl with ⟨hc, rfl⟩ | ⟨hne, hlen, rfl⟩ <;> simp only at *
  · subst hc
    by_cases h1 : d > 1
    · have hz := zip_append_single (lits.map (fun _ => (1 : Int))) lits k bl (by simp)
      rw [zip_ones] at hz
      simp [softK, GoConstr.toLin, h1, hz]
    · obtain rfl := hk rfl h1
      simp [softK, GoConstr.toLin, h1]
  · have hn : softK ⟨lits, coeffs, d⟩ bl k = ⟨lits ++ [bl], coeffs ++ [k], d⟩ := by
      simp [softK, hne]
    have hlen' : (coeffs ++ [k]).length = (lits ++ [bl]).length := by
      simp only [List.length_append, hlen, List.length_singleton]
    rw [hn]
    simp only [GoConstr.toLin, zip_append_single coeffs lits k bl hlen]
    rw [if_neg (by simp), if_pos hlen']

/-- What `New` built before the fix 2c3f689 is `relax` of the constraint's meaning. -/
theorem newSoft_toLin (c : GoConstr) (bl : Int) (l : Lin) (hl : c.toLin = some l)
    (hd : c.coeffs = [] → 1 ≤ c.atLeast) :
    (newSoft c bl).toLin = some (relax l bl) := by
  rw [newSoft_eq_softK, relax, toLin_degree c l hl]
  exact softK_toLin c bl c.atLeast l hl fun h0 h1 => by have := hd h0; omega

/-- a soft cardinality constraint `x1 + x2 + x3 ≥ 2` gets `1 1 1 2` / blocking literal 4. -/
example : newSoft ⟨[1, 2, 3], [], 2⟩ 4 = ⟨[1, 2, 3, 4], [1, 1, 1, 2], 2⟩ := by decide
/-- no literal, bound 2: `make([]int, 0)` is not `nil`, the blocking literal gets coefficient 2. -/
example : newSoft ⟨[], [], 2⟩ 1 = ⟨[1], [2], 2⟩ := by decide
/-- a soft clause keeps `nil` coefficients. -/
example : newSoft ⟨[1, -2], [], 1⟩ 3 = ⟨[1, -2, 3], [], 1⟩ := by decide

/-! ### what makes an encoding exact

`(P, F)` stands for an encoded problem and its cost function, `ext u` for `u` extended to the
blocking variables. Completeness `hc` and soundness `hs` are all the transfer of optima needs;
`encode`, `encodeWith` (`C04_MaxSatNew`) and `MaxSatSigned.encodeS` (`C04_MaxSatSigned`) are
instances. -/

section
variable {hard : Problem} {soft : List Soft} {P : Problem} {F : List (Int × Int)} {ext : Asg → Asg}
  (hc : ∀ u, Problem.holds u hard = true →
    Problem.holds (ext u) P = true ∧ cost F (ext u) = violated u soft)
  (hs : ∀ a, Problem.holds a P = true → Problem.holds a hard = true ∧ violated a soft ≤ cost F a)
include hc hs

theorem transfer_of (a u : Asg) (hopt : IsOptimum P F a)
    (hh : Problem.holds u hard = Problem.holds a hard) (hv : violated u soft = violated a soft) :
    IsMaxSatOpt hard soft u ∧ cost F a = violated u soft ∧
    (∀ b, Problem.holds b hard = true → cost F a ≤ violated b soft) := by
  obtain ⟨hm, hmin⟩ := hopt
  have ⟨hha, hle⟩ := hs a hm
  have hall : ∀ b, Problem.holds b hard = true → cost F a ≤ violated b soft := fun b hb => by
    have ⟨c1, c2⟩ := hc b hb
    have := hmin _ c1
    omega
  have := hall a hha
  exact ⟨⟨hh ▸ hha, fun b hb => by have := hall b hb; omega⟩, by omega, hall⟩

theorem transfer_conv_of (u : Asg) (hopt : IsMaxSatOpt hard soft u) : IsOptimum P F (ext u) := by
  have ⟨c1, c2⟩ := hc u hopt.1
  refine ⟨c1, fun b hb => ?_⟩
  have ⟨s1, s2⟩ := hs b hb
  have := hopt.2 b s1
  omega

end

theorem sat_append_iff {hard R : Problem} {ext : Asg → Asg}
    (hc : ∀ u, Problem.holds u hard = true → Problem.holds (ext u) (hard ++ R) = true) :
    Satisfiable (hard ++ R) ↔ Satisfiable hard :=
  ⟨fun ⟨a, ha⟩ => ⟨a, (Bool.and_eq_true_iff.1 (Problem.holds_append a hard R ▸ ha)).1⟩,
    fun ⟨u, hu⟩ => ⟨ext u, hc u hu⟩⟩

/-! ### pointwise encodings

What one soft constraint contributes to an encoding, given its blocking variable: the constraint
handed to the optimiser and its terms of the cost function. An encoding built piece by piece is
complete and sound as soon as every piece is. -/

abbrev Piece := Lin × List (Int × Int)

/-- The `i`-th soft constraint with the `i`-th blocking variable, piece by piece. -/
def encodeBy (rel : Soft → Nat → Piece) (bs : List Nat) (hard : Problem) (soft : List Soft) :
    Problem × List (Int × Int) :=
  (hard ++ (List.zipWith rel soft bs).map (·.1), (List.zipWith rel soft bs).flatMap (·.2))

/-- Pointwise in the extended assignment `e`: `extend` and `extendWith` (`C04_MaxSatNew`) are the
    two instances. -/
theorem encodeBy_complete {rel : Soft → Nat → Piece} (u e : Asg) (hard : Problem)
    (hh : Problem.holds e hard = true) (soft : List Soft) :
    ∀ bs : List Nat, bs.length = soft.length →
    (∀ s b, (s, b) ∈ soft.zip bs → (rel s b).1.holds e = true ∧
        lhs e (rel s b).2 = if s.c.holds u = true then 0 else s.weight) →
    Problem.holds e (encodeBy rel bs hard soft).1 = true ∧
    cost (encodeBy rel bs hard soft).2 e = violated u soft := by
  unfold encodeBy cost
  simp only [Problem.holds_append, hh, Bool.true_and]
  induction soft with
  | nil => exact fun _ _ _ => ⟨rfl, rfl⟩
  | cons s ss ih =>
    intro bs hl h
    cases bs with
    | nil => nomatch hl
    | cons b bs =>
      have ⟨h1, h2⟩ := h s b List.mem_cons_self
      have ⟨ih1, ih2⟩ := ih bs (Nat.succ.inj hl) fun s' b' hm => h s' b' (List.mem_cons_of_mem _ hm)
      simp only [List.zipWith_cons_cons, List.map_cons, List.flatMap_cons, Problem.holds, List.all_cons,
        lhs_append, violated, h1, h2, ih2, Bool.true_and, and_true]
      exact ih1

theorem encodeBy_sound {rel : Soft → Nat → Piece} (a : Asg) (hard : Problem) (soft : List Soft) :
    ∀ bs : List Nat, bs.length = soft.length →
    (∀ s ∈ soft, ∀ b, (rel s b).1.holds a = true →
        (if s.c.holds a = true then 0 else s.weight) ≤ lhs a (rel s b).2) →
    Problem.holds a (encodeBy rel bs hard soft).1 = true →
    Problem.holds a hard = true ∧ violated a soft ≤ cost (encodeBy rel bs hard soft).2 a := by
  unfold encodeBy cost
  simp only [Problem.holds_append, Bool.and_eq_true]
  induction soft with
  | nil => exact fun _ _ _ hm => ⟨hm.1, Int.le_refl 0⟩
  | cons s ss ih =>
    intro bs hl h hm
    cases bs with
    | nil => nomatch hl
    | cons b bs =>
      simp only [List.zipWith_cons_cons, List.map_cons, Problem.holds, List.all_cons, Bool.and_eq_true] at hm
      have := h s List.mem_cons_self b hm.2.1
      have ih := ih bs (Nat.succ.inj hl) (fun s' hs' => h s' (List.mem_cons_of_mem _ hs')) ⟨hm.1, hm.2.2⟩
      simp only [List.zipWith_cons_cons, List.flatMap_cons, lhs_append, violated]
      exact ⟨hm.1, by omega⟩

/-- `encodeWith` relaxes every soft constraint. -/
def plain (s : Soft) (b : Nat) : Piece := (relax s.c b, [(s.weight, (b : Int))])

theorem encodeWith_eq (bs : List Nat) (hard : Problem) (soft : List Soft) :
    encodeWith bs hard soft = encodeBy plain bs hard soft := by
  have : ∀ (bs : List Nat) (ss : List Soft),
      relaxWith bs ss = (List.zipWith plain ss bs).map (·.1) ∧
      costWith bs ss = (List.zipWith plain ss bs).flatMap (·.2) := by
    intro bs
    induction bs with
    | nil => intro ss; cases ss <;> exact ⟨rfl, rfl⟩
    | cons b bs ih =>
      intro ss
      cases ss with
      | nil => exact ⟨rfl, rfl⟩
      | cons s ss => simp [relaxWith, costWith, plain, ih ss]
  simp only [encodeWith, encodeBy, this]

theorem encoding_sound_with (bs : List Nat) (hard : Problem) (soft : List Soft) (a : Asg)
    (hl : bs.length = soft.length) (hwt : weightsNonneg soft = true)
    (ha : Problem.holds a (encodeWith bs hard soft).1 = true) :
    Problem.holds a hard = true ∧ violated a soft ≤ cost (encodeWith bs hard soft).2 a := by
  rw [encodeWith_eq] at ha ⊢
  exact encodeBy_sound a hard soft bs hl
    (fun s hs b => blocked_sound a s.c s.weight s.c.degree b
      (of_decide_eq_true (List.all_eq_true.1 hwt s hs))) ha

theorem encode_eq_encodeWith (n : Nat) (hard : Problem) (soft : List Soft) :
    encode n hard soft = encodeWith ((List.range soft.length).map (n + 1 + ·)) hard soft := by
  have h : ∀ (ss : List Soft) (k : Nat),
      relaxFrom k ss = relaxWith (List.range' k ss.length) ss ∧
      costFrom k ss = costWith (List.range' k ss.length) ss := by
    intro ss
    induction ss with
    | nil => exact fun _ => ⟨rfl, rfl⟩
    | cons s ss ih =>
      intro k
      simp only [relaxFrom, costFrom, List.length_cons, List.range'_succ, relaxWith, costWith,
        (ih (k + 1)).1, (ih (k + 1)).2, and_self]
  simp only [encode, encodeWith, h, List.range'_eq_map_range]

/-- `u` on the user's variables `≤ n`; the blocking variable `n+1+i` is set to
    "the `i`-th soft constraint is violated by `u`". -/
def extend (n : Nat) (u : Asg) (soft : List Soft) : Asg := fun v =>
  if v ≤ n then u v else
    match soft[v - (n + 1)]? with
    | some s => !s.c.holds u
    | none => false

theorem extend_user (n : Nat) (u : Asg) (soft : List Soft) (v : Nat) (hv : v ≤ n) :
    extend n u soft v = u v := by
  simp [extend, hv]

theorem extend_blocking (n : Nat) (u : Asg) (soft : List Soft) (i : Nat) (s : Soft)
    (h : soft[i]? = some s) : extend n u soft (n + 1 + i) = !s.c.holds u := by
  have h1 : ¬ (n + 1 + i ≤ n) := by omega
  have h2 : n + 1 + i - (n + 1) = i := Nat.add_sub_cancel_left (n + 1) i
  simp only [extend, h1, if_false, h2, h]

/-- Completeness of any pointwise encoding over the blocking variables `n+1, n+2, …`, with `extend`
    as the extension: `encode` and `MaxSatSigned.encodeS` are the two instances. -/
theorem extend_complete {rel : Soft → Nat → Piece} (n : Nat) (hard : Problem) (soft : List Soft) (u : Asg)
    (hwH : hard.wf n = true) (hwS : softWf n soft = true) (hu : Problem.holds u hard = true)
    (hp : ∀ s ∈ soft, ∀ (b : Nat) (e : Asg), s.c.holds e = s.c.holds u →
      litTrue e (b : Int) = !s.c.holds u →
      (rel s b).1.holds e = true ∧ lhs e (rel s b).2 = if s.c.holds u = true then 0 else s.weight) :
    Problem.holds (extend n u soft)
      (encodeBy rel ((List.range soft.length).map (n + 1 + ·)) hard soft).1 = true ∧
    cost (encodeBy rel ((List.range soft.length).map (n + 1 + ·)) hard soft).2 (extend n u soft) =
      violated u soft := by
  have hag : ∀ v, 1 ≤ v → v ≤ n → extend n u soft v = u v :=
    fun v _ h2 => extend_user n u soft v h2
  refine encodeBy_complete u _ hard (by rw [Problem.holds_congr _ u n hag hard hwH, hu]) soft _
    (by rw [List.length_map, List.length_range]) fun s b h => ?_
  -- `(s, b)` is the `i`-th pair: `b` is `n+1+i`
  obtain ⟨i, hi⟩ := List.mem_iff_getElem?.1 h
  obtain ⟨hs, hb⟩ := List.getElem?_zip_eq_some.1 hi
  obtain ⟨hlt, _⟩ := List.getElem?_eq_some_iff.1 hs
  rw [List.getElem?_map, List.getElem?_range hlt] at hb
  obtain rfl : n + 1 + i = b := Option.some.inj hb
  have hm := List.mem_of_getElem? hs
  exact hp s hm _ _ (Lin.holds_congr _ u n hag s.c (List.all_eq_true.1 hwS s hm))
    (by rw [litTrue_natCast _ _ (by omega), extend_blocking n u soft i s hs])

theorem encoding_complete (n : Nat) (hard : Problem) (soft : List Soft) (u : Asg)
    (hwH : hard.wf n = true) (hwS : softWf n soft = true) (hnn : softNonneg soft = true)
    (hu : Problem.holds u hard = true) :
    Problem.holds (extend n u soft) (encode n hard soft).1 = true ∧
    cost (encode n hard soft).2 (extend n u soft) = violated u soft ∧
    (∀ v, v ≤ n → extend n u soft v = u v) := by
  rw [encode_eq_encodeWith, encodeWith_eq]
  exact and_assoc.1 ⟨extend_complete n hard soft u hwH hwS hu fun s hs b e =>
    blocked_complete u e s.c s.weight s.c.degree b
      (by have := lhs_nonneg_of_termsNonneg e s.c.terms (List.all_eq_true.1 hnn s hs); omega),
    extend_user n u soft⟩

/-- `≤`, not `=`: a blocking literal may be true although its constraint holds. -/
theorem encoding_sound (n : Nat) (hard : Problem) (soft : List Soft) (a : Asg)
    (hwt : weightsNonneg soft = true)
    (ha : Problem.holds a (encode n hard soft).1 = true) :
    Problem.holds a hard = true ∧ violated a soft ≤ cost (encode n hard soft).2 a := by
  rw [encode_eq_encodeWith] at ha ⊢
  exact encoding_sound_with _ hard soft a (by rw [List.length_map, List.length_range]) hwt ha

/-- So `Solve` answers "no model" (`nil`, cost `-1`) exactly when the hard constraints are
    contradictory. -/
theorem encoded_sat_iff (n : Nat) (hard : Problem) (soft : List Soft)
    (hwH : hard.wf n = true) (hwS : softWf n soft = true) (hnn : softNonneg soft = true) :
    Satisfiable (encode n hard soft).1 ↔ Satisfiable hard :=
  sat_append_iff fun u hu => (encoding_complete n hard soft u hwH hwS hnn hu).1

/-- `u` is any assignment that agrees with the encoded optimum `a` on the user's variables `1..n`:
    in particular the trimmed model, and `a` itself. -/
theorem optimum_transfer (n : Nat) (hard : Problem) (soft : List Soft) (a u : Asg)
    (hwH : hard.wf n = true) (hwS : softWf n soft = true) (hnn : softNonneg soft = true)
    (hwt : weightsNonneg soft = true)
    (hopt : IsOptimum (encode n hard soft).1 (encode n hard soft).2 a)
    (hu : ∀ v, 1 ≤ v → v ≤ n → u v = a v) :
    IsMaxSatOpt hard soft u ∧ cost (encode n hard soft).2 a = violated u soft ∧
    (∀ b, Problem.holds b hard = true → cost (encode n hard soft).2 a ≤ violated b soft) :=
  transfer_of (fun b hb => have h := encoding_complete n hard soft b hwH hwS hnn hb; ⟨h.1, h.2.1⟩)
    (fun b => encoding_sound n hard soft b hwt) a u hopt
    (Problem.holds_congr u a n hu hard hwH) (violated_congr u a n hu soft hwS)

theorem optimum_transfer_conv (n : Nat) (hard : Problem) (soft : List Soft) (u : Asg)
    (hwH : hard.wf n = true) (hwS : softWf n soft = true) (hnn : softNonneg soft = true)
    (hwt : weightsNonneg soft = true) (hopt : IsMaxSatOpt hard soft u) :
    IsOptimum (encode n hard soft).1 (encode n hard soft).2 (extend n u soft) :=
  transfer_conv_of (fun b hb => have h := encoding_complete n hard soft b hwH hwS hnn hb; ⟨h.1, h.2.1⟩)
    (fun b => encoding_sound n hard soft b hwt) u hopt

/-- hypotheses of the transfer theorems met by a non-trivial instance: hard `x1 ∨ x2`,
    soft `¬x1` (weight 3), soft cardinality `x1 + x2 + x3 ≥ 2` (weight 2), soft PB
    `2·x1 + 3·¬x3 ≥ 3` (weight 1). -/
example :
    let hard : Problem := [Lin.ofClause [1, 2]]
    let soft : List Soft := [⟨3, Lin.ofClause [-1]⟩, ⟨2, Lin.ofCard [1, 2, 3] 2⟩, ⟨1, ⟨[(2, 1), (3, -3)], 3⟩⟩]
    hard.wf 3 = true ∧ softWf 3 soft = true ∧ softNonneg soft = true ∧ weightsNonneg soft = true ∧
    encode 3 hard soft =
      ([⟨[(1, 1), (1, 2)], 1⟩, ⟨[(1, -1), (1, 4)], 1⟩, ⟨[(1, 1), (1, 2), (1, 3), (2, 5)], 2⟩,
        ⟨[(2, 1), (3, -3), (3, 6)], 3⟩], [(3, 4), (2, 5), (1, 6)]) := by decide +kernel

/-! ### the three hypotheses are necessary: witnesses -/

/-- Negative coefficient: hard `¬x1`, `x2`; soft `2·x1 − x2 ≥ 1` (weight 1). The hard part is
    satisfiable (MaxSAT optimum: cost 1) but the encoded problem is not: `encoded_sat_iff`
    fails without `softNonneg`. -/
example :
    let hard : Problem := [Lin.ofClause [-1], Lin.ofClause [2]]
    let soft : List Soft := [⟨1, ⟨[(2, 1), (-1, 2)], 1⟩⟩]
    bruteMaxSat 2 hard soft = some 1 ∧ bruteSat 3 (encode 2 hard soft).1 = false := by decide +kernel

/-- Negative weight: soft `x1` of weight `-1`. `x1 = true, b = true` is an optimum of the
    encoded problem (cost `-1`) but violates weight `0`, whereas the minimum is `-1`. -/
example :
    let soft : List Soft := [⟨-1, Lin.ofClause [1]⟩]
    let a : Asg := asgOf [true, true]
    Problem.holds a (encode 1 [] soft).1 = true ∧ cost (encode 1 [] soft).2 a = -1 ∧
    bruteOpt 2 (encode 1 [] soft).1 (encode 1 [] soft).2 = some (-1) ∧
    violated a soft = 0 ∧ bruteMaxSat 1 [] soft = some (-1) := by decide +kernel

/-- Literal outside `1..n` (declared `n = 1`, hard clause `x2`, soft clause `x1`): the relax
    variable `n+1 = 2` collides with the user's `x2`; encoded optimum `1`, true optimum `0`. -/
example :
    let hard : Problem := [Lin.ofClause [2]]
    let soft : List Soft := [⟨1, Lin.ofClause [1]⟩]
    bruteOpt 2 (encode 1 hard soft).1 (encode 1 hard soft).2 = some 1 ∧
    bruteMaxSat 2 hard soft = some 0 := by decide +kernel

theorem restrict_eq_take : ∀ (n : Nat) (m : List Bool) (k : Nat), k + n ≤ m.length →
    restrict (asgOf m) (k + 1) n = (m.drop k).take n := by
  intro n
  induction n with
  | zero => intro m k _; simp [restrict]
  | succ n ih =>
    intro m k h
    have hk : k < m.length := by omega
    rw [List.drop_eq_getElem_cons hk]
    simp only [restrict, List.take_succ_cons]
    rw [ih m (k + 1) (by omega)]
    congr 1
    simp [asgOf, List.getD_eq_getElem?_getD, hk]

/-- `m` is a model list as `solver.Model()` / `Result.Model` give it (value of variable `v` at
    index `v-1`), `m.take n` is `res.Model[:s.firstRelax]` of `Optimal`: exactly the user's
    variables `1..n`, and (it is `restrict (asgOf m) 1 n`) no relaxation variable. -/
theorem trim_model (n : Nat) (m : List Bool) (h : n ≤ m.length) :
    m.take n = restrict (asgOf m) 1 n ∧ (m.take n).length = n ∧
    (∀ v, 1 ≤ v → v ≤ n → asgOf (m.take n) v = asgOf m v) ∧
    (∀ v, n < v → asgOf (m.take n) v = false) := by
  have h0 := restrict_eq_take n m 0 (by omega)
  simp only [List.drop_zero, Nat.zero_add] at h0
  refine ⟨h0.symm, by simp [h], ?_, ?_⟩
  · intro v h1 h2
    rw [← h0]; exact asgOf_restrict (asgOf m) n v h1 h2
  · intro v hv
    cases v with
    | zero => rfl
    | succ v =>
      simp only [asgOf]
      rw [List.getD_eq_getElem?_getD, List.getElem?_eq_none (by simp; omega)]
      rfl

theorem trim_model_no_leak (n : Nat) (m m' : List Bool) (h : n ≤ m.length) (h' : n ≤ m'.length)
    (hag : ∀ v, 1 ≤ v → v ≤ n → asgOf m v = asgOf m' v) : m.take n = m'.take n := by
  rw [(trim_model n m h).1, (trim_model n m' h').1]
  have : ∀ (len k : Nat), (∀ v, k ≤ v → v < k + len → asgOf m v = asgOf m' v) →
      restrict (asgOf m) k len = restrict (asgOf m') k len := by
    intro len
    induction len with
    | zero => intro k _; rfl
    | succ len ih =>
      intro k hk
      simp only [restrict]
      rw [hk k (by omega) (by omega), ih (k + 1) (fun v h1 h2 => hk v (by omega) (by omega))]
  exact this n 1 (fun v h1 h2 => hag v h1 (by omega))

example : ([true, false, true, true, false] : List Bool).take 3 = restrict (asgOf [true, false, true, true, false]) 1 3 := by decide

/-- The answer of `Optimal` (parser.go): `m` is the optimiser's model list, `m.take n` the model
    returned, the cost is reported unchanged. -/
theorem trimmed_answer (n : Nat) (hard : Problem) (soft : List Soft) (m : List Bool)
    (hwH : hard.wf n = true) (hwS : softWf n soft = true) (hnn : softNonneg soft = true)
    (hwt : weightsNonneg soft = true) (hlen : n ≤ m.length)
    (hopt : IsOptimum (encode n hard soft).1 (encode n hard soft).2 (asgOf m)) :
    (m.take n).length = n ∧ IsMaxSatOpt hard soft (asgOf (m.take n)) ∧
    cost (encode n hard soft).2 (asgOf m) = violated (asgOf (m.take n)) soft := by
  have ⟨_, hl, hag, _⟩ := trim_model n m hlen
  have ⟨h1, h2, _⟩ := optimum_transfer n hard soft (asgOf m) (asgOf (m.take n)) hwH hwS hnn hwt hopt hag
  exact ⟨hl, h1, h2⟩

theorem relax_ofClause (c : List Int) (b : Int) : Lin.ofClause (c ++ [b]) = relax (Lin.ofClause c) b := by
  simp [Lin.ofClause, relax]

theorem wcnfHard_cons (top w : Int) (c : List Int) (cls : List (Int × List Int)) :
    wcnfHard top ((w, c) :: cls) =
      if top = 0 ∨ w < top then wcnfHard top cls else c :: wcnfHard top cls := by
  unfold wcnfHard
  by_cases h : top = 0 ∨ w < top
  · rw [if_pos h, List.filter_cons_of_neg (by simp only [h, decide_true]; decide)]
  · rw [if_neg h, List.filter_cons_of_pos (by simp only [h, decide_false]; decide), List.map_cons]

theorem wcnfSoft_cons (top w : Int) (c : List Int) (cls : List (Int × List Int)) :
    wcnfSoft top ((w, c) :: cls) =
      if top = 0 ∨ w < top then ⟨w, Lin.ofClause c⟩ :: wcnfSoft top cls else wcnfSoft top cls := by
  unfold wcnfSoft
  by_cases h : top = 0 ∨ w < top
  · rw [if_pos h, List.filter_cons_of_pos (by simp only [h, decide_true]), List.map_cons]
  · rw [if_neg h, List.filter_cons_of_neg (by simp only [h, decide_false]; decide)]

/-- The loop of `ParseWCNF` keeps hard and relaxed soft clauses interleaved as in the file: what it
    builds is `encode`'s problem up to the order of the constraints, which `Problem.holds` does not
    see. The weights are those of the soft clauses, and `relaxLit` has advanced by their number. -/
theorem wcnfGo_spec (top : Int) : ∀ (cls : List (Int × List Int)) (k : Nat),
    (Problem.ofCnf (wcnfGo top k cls).1).Perm
      (Problem.ofCnf (wcnfHard top cls) ++ relaxFrom k (wcnfSoft top cls)) ∧
    (wcnfGo top k cls).2.1 = (wcnfSoft top cls).map (·.weight) ∧
    (wcnfGo top k cls).2.2 = k + (wcnfSoft top cls).length := by
  intro cls
  induction cls with
  | nil => exact fun k => ⟨List.Perm.refl _, rfl, rfl⟩
  | cons wc cls ih =>
    intro k
    obtain ⟨w, c⟩ := wc
    rw [wcnfGo, wcnfHard_cons, wcnfSoft_cons]
    split
    · obtain ⟨h1, h2, h3⟩ := ih (k + 1)
      refine ⟨?_, congrArg (w :: ·) h2, h3.trans (by rw [List.length_cons]; omega)⟩
      -- the relaxed clause goes behind the hard ones
      rw [relaxFrom, ← relax_ofClause]
      exact (h1.cons _).trans List.perm_middle.symm
    · obtain ⟨h1, h2, h3⟩ := ih k
      exact ⟨h1.cons _, h2, h3⟩

theorem costFrom_eq_zip : ∀ (ss : List Soft) (k : Nat),
    costFrom k ss = (ss.map (·.weight)).zip ((List.range' k ss.length).map Nat.cast) := by
  intro ss
  induction ss with
  | nil => exact fun _ => rfl
  | cons s ss ih =>
    intro k
    simp only [costFrom, List.length_cons, List.range'_succ, List.map_cons, List.zip_cons_cons, ih (k + 1)]

theorem wcnfEncode_eq (n : Nat) (top : Int) (cls : List (Int × List Int)) :
    (∀ a, Problem.holds a (Problem.ofCnf (wcnfEncode n top cls).clauses) =
      Problem.holds a (encode n (Problem.ofCnf (wcnfHard top cls)) (wcnfSoft top cls)).1) ∧
    (wcnfEncode n top cls).costFn = (encode n (Problem.ofCnf (wcnfHard top cls)) (wcnfSoft top cls)).2 ∧
    (wcnfEncode n top cls).nbVars = n + (wcnfSoft top cls).length ∧
    (wcnfEncode n top cls).firstRelax = n := by
  have ⟨hp, hw⟩ := wcnfGo_spec top cls (n + 1)
  refine ⟨fun a => hp.all_eq, ?_, ?_, rfl⟩
  · simp only [wcnfEncode, encode, hw.1, hw.2, relaxLits, costFrom_eq_zip, List.range'_eq_map_range,
      List.map_map]
    have hk : n + 1 + (wcnfSoft top cls).length - n - 1 = (wcnfSoft top cls).length := by omega
    rw [hk]
    congr 2
    funext i; simp only [Function.comp]; congr 1; omega
  · simp only [wcnfEncode, hw.2]; omega

/-- Every clause of the instance is over the declared variables `1..n`. -/
def wcnfWf (n : Nat) (cls : List (Int × List Int)) : Bool := cls.all (fun wc => clauseWf n wc.2)

theorem ofClause_wf (n : Nat) (c : List Int) : (Lin.ofClause c).wf n = clauseWf n c := by
  simp [Lin.ofClause, Lin.wf, clauseWf, List.all_map, Function.comp_def]

theorem wcnf_hyps (n : Nat) (top : Int) (cls : List (Int × List Int)) (h : wcnfWf n cls = true) :
    (Problem.ofCnf (wcnfHard top cls)).wf n = true ∧ softWf n (wcnfSoft top cls) = true ∧
    softNonneg (wcnfSoft top cls) = true := by
  have h := List.all_eq_true.1 h
  refine ⟨List.all_eq_true.2 fun l hl => ?_, List.all_eq_true.2 fun s hs => ?_,
    List.all_eq_true.2 fun s hs => ?_⟩
  · obtain ⟨c, hc, rfl⟩ := List.mem_map.1 hl
    obtain ⟨wc, hwc, rfl⟩ := List.mem_map.1 hc
    rw [ofClause_wf]; exact h wc (List.mem_filter.1 hwc).1
  · obtain ⟨wc, hwc, rfl⟩ := List.mem_map.1 hs
    rw [ofClause_wf]; exact h wc (List.mem_filter.1 hwc).1
  · obtain ⟨wc, _, rfl⟩ := List.mem_map.1 hs
    simp [termsNonneg, Lin.ofClause]

/-- `ParseWCNF` + `Optimal`: if the optimiser's model list `m` is an optimum of what `ParseWCNF`
    built, `m[:firstRelax]` is a MaxSAT optimum of the instance (hard = weight ≥ top, soft = the
    others) and the reported cost is the minimal violated weight. `softNonneg` comes for free:
    the coefficients of clauses are 1. -/
theorem wcnf_answer (n : Nat) (top : Int) (cls : List (Int × List Int)) (m : List Bool)
    (hwf : wcnfWf n cls = true) (hwt : weightsNonneg (wcnfSoft top cls) = true)
    (hlen : n ≤ m.length)
    (hopt : IsOptimum (Problem.ofCnf (wcnfEncode n top cls).clauses) (wcnfEncode n top cls).costFn (asgOf m)) :
    let t := m.take (wcnfEncode n top cls).firstRelax
    t.length = n ∧ IsMaxSatOpt (Problem.ofCnf (wcnfHard top cls)) (wcnfSoft top cls) (asgOf t) ∧
    cost (wcnfEncode n top cls).costFn (asgOf m) = violated (asgOf t) (wcnfSoft top cls) := by
  have ⟨e1, e2, _, e4⟩ := wcnfEncode_eq n top cls
  have ⟨w1, w2, w3⟩ := wcnf_hyps n top cls hwf
  rw [IsOptimum.congr _ _ e1, e2] at hopt
  simp only [e4, e2]
  exact trimmed_answer n _ _ m w1 w2 w3 hwt hlen hopt

theorem wcnf_unsat_iff (n : Nat) (top : Int) (cls : List (Int × List Int)) (hwf : wcnfWf n cls = true) :
    ¬ Satisfiable (Problem.ofCnf (wcnfEncode n top cls).clauses) ↔
    ¬ Satisfiable (Problem.ofCnf (wcnfHard top cls)) := by
  have ⟨e1, _⟩ := wcnfEncode_eq n top cls
  have ⟨w1, w2, w3⟩ := wcnf_hyps n top cls hwf
  rw [← encoded_sat_iff n _ _ w1 w2 w3, Satisfiable.congr e1]

/-- `p wcnf 3 4 10` / `10 1 2 0` / `3 -1 0` / `10 -2 3 0` / `2 -3 0`: two hard, two soft clauses. -/
example :
    let cls : List (Int × List Int) := [(10, [1, 2]), (3, [-1]), (10, [-2, 3]), (2, [-3])]
    wcnfWf 3 cls = true ∧ weightsNonneg (wcnfSoft 10 cls) = true ∧
    wcnfEncode 3 10 cls = ⟨[[1, 2], [-1, 4], [-2, 3], [-3, 5]], [(3, 4), (2, 5)], 5, 3⟩ := by decide +kernel

/-- without a top weight every clause is soft. -/
example : wcnfEncode 2 0 [(5, [1]), (1, [-1, 2])] = ⟨[[1, 3], [-1, 2, 4]], [(5, 3), (1, 4)], 4, 2⟩ := by decide

end GS.MaxSatEnc
