import GS.Props.C20_Chan
/-!
# C20 — the executable trace checker `acceptsTrace` is exact

`acceptsTrace cap evs = true` iff `evs` is the event sequence of some execution of
`producerSystem cap vals` for some `vals` (`acceptsTrace_iff_trace`).
-/
namespace GS.Chan

theorem LReach.prepend {s s1 s' : State} {tr l : List Event} (hs : LStep s l s1) (h : LReach s1 tr s') :
    LReach s (l ++ tr) s' := by
  induction h with
  | init => simpa using LReach.step LReach.init hs
  | step _ h2 ih => rw [← List.append_assoc]; exact LReach.step ih h2

theorem LReach.uncons {s s' : State} {tr : List Event} (h : LReach s tr s') :
    (tr = [] ∧ s' = s) ∨ ∃ l t s1, LStep s l s1 ∧ tr = l ++ t ∧ LReach s1 t s' := by
  induction h with
  | init => exact .inl ⟨rfl, rfl⟩
  | @step tr l s1 s' _ hs ih =>
    refine .inr ?_
    rcases ih with ⟨rfl, rfl⟩ | ⟨l0, t, s0, h0, rfl, ht⟩
    · exact ⟨l, [], s', hs, by simp, .init⟩
    · exact ⟨l0, t ++ l, s0, h0, List.append_assoc .., .step ht hs⟩

theorem lstep_label_ne_nil {s s' : State} {l : List Event} (h : LStep s l s') : l ≠ [] := by
  cases h <;> simp

theorem run_iff (fuel : Nat) (s : State) (evs : List Event) : evs.length ≤ fuel →
    (run fuel s evs = true ↔ ∃ s', LReach s evs s') := by
  fun_induction run fuel s evs with
  | case1 => exact fun _ => ⟨fun _ => ⟨_, .init⟩, fun _ => rfl⟩
  | case2 => exact nofun
  | case3 fuel s e evs ih =>
    intro hl
    generalize hx : e :: evs = x at ih hl ⊢
    -- after a step labelled `l ≠ []` the rest `t` of `x = l ++ t` fits in the remaining fuel
    have ih' : ∀ {l t s1}, l ≠ [] → l ++ t = x → (run fuel s1 t = true ↔ ∃ s', LReach s1 t s') := by
      intro l t s1 hne ht
      subst ht
      have := ih l s1
      rw [List.drop_left] at this
      apply this
      have := List.length_pos_iff.mpr hne
      simp at hl; omega
    simp only [List.any_eq_true, Bool.and_eq_true, decide_eq_true_eq, List.isPrefixOf_iff_prefix]
    constructor
    · rintro ⟨⟨l, s1⟩, hm, ⟨hne, t, ht⟩, hrun⟩
      subst ht
      rw [List.drop_left] at hrun
      obtain ⟨s', hp⟩ := (ih' hne rfl).mp hrun
      exact ⟨s', hp.prepend (lstep_iff_mem.mpr hm)⟩
    · rintro ⟨s', hp⟩
      rcases hp.uncons with ⟨rfl, -⟩ | ⟨l, t, s1, h1, rfl, h2⟩
      · cases hx
      · have hne := lstep_label_ne_nil h1
        refine ⟨(l, s1), lstep_iff_mem.mp h1, ⟨hne, t, rfl⟩, ?_⟩
        rw [List.drop_left]
        exact (ih' hne rfl).mpr ⟨s', h2⟩

theorem acceptsTrace_iff {cap : Nat} {evs : List Event} :
    acceptsTrace cap evs = true ↔ ∃ s, LReach (producerSystem cap (sentVals evs)) evs s :=
  run_iff _ _ _ (Nat.le_refl _)

/-- While the channel is open, the behaviour does not depend on the values not yet sent
    (nor on the value that will be returned). -/
def PPrefix (cap : Nat) (tr : List Event) (a : PA) : Prop :=
  a.pc = .run → ∀ (w : List Nat) (r' : Option Nat),
    LReach (pstate cap r' (pinit (sentVals tr ++ w))) tr (pstate cap r' { a with todo := w })

theorem pprefix_step {cap : Nat} {r : Option Nat} {tr l : List Event} {a a' : PA}
    (h : PPrefix cap tr a) (hm : PStep cap r a l a') : PPrefix cap (tr ++ l) a' := by
  intro hpc w r'
  rw [sentVals_append, List.append_assoc]
  cases hm with
  | @send _ _ v _ _ hlt => exact .step (h rfl (v :: w) r') (pstate_lstep.mpr ⟨_, .send hlt, rfl⟩)
  | @sync _ v _ h0 => exact .step (h rfl (v :: w) r') (pstate_lstep.mpr ⟨_, .sync h0, rfl⟩)
  | recv => exact .step (h hpc w r') (pstate_lstep.mpr ⟨_, .recv, rfl⟩)
  | close => cases hpc
  | ret => cases hpc
  | sawClosed hne => exact absurd hpc hne

theorem trace_of_sent {cap : Nat} {vals : List Nat} {tr : List Event} {s : State}
    (h : LReach (producerSystem cap vals) tr s) :
    ∃ s', LReach (producerSystem cap (sentVals tr)) tr s' := by
  have h0 := h
  rw [producerSystem_eq] at h
  obtain ⟨a, _, hinv, hpre⟩ := (PAbs cap vals.getLast?).reach
    (fun tr a => PInv cap vals tr a ∧ PPrefix cap tr a) ⟨pinv_init cap vals, fun _ _ _ => .init⟩
    (fun tr a l a' h hs => ⟨pinv_step cap vals tr a l a' h.1 hs, pprefix_step h.2 hs⟩) h
  -- channel still open: the same execution with nothing left to send (`PPrefix`); closed: all of `vals` was sent
  by_cases hpc : a.pc = .run
  · have := hpre hpc [] (sentVals tr).getLast?
    rw [List.append_nil, ← producerSystem_eq] at this
    exact ⟨_, this⟩
  · have ht := hinv.closedTodo hpc
    have : sentVals tr = vals := by rw [hinv.sent, hinv.split, ht]; simp
    rw [this]; exact ⟨s, h0⟩

theorem acceptsTrace_iff_trace {cap : Nat} {evs : List Event} :
    acceptsTrace cap evs = true ↔ ∃ vals s, LReach (producerSystem cap vals) evs s := by
  rw [acceptsTrace_iff]
  constructor
  · rintro ⟨s, h⟩; exact ⟨_, s, h⟩
  · rintro ⟨vals, s, h⟩; exact trace_of_sent h

theorem pstep_returned {cap : Nat} {r : Option Nat} {a a' : PA} {l : List Event} (hm : PStep cap r a l a')
    (v : Option Nat) (hv : Event.returned v ∈ l) : v = r := by
  cases hm <;> simp at hv
  exact hv

/-- An accepted trace has the properties proved for executions; the last conjunct (nothing else is
    returned) is not one of them, `PInv.rets` saying only that the last value is: hence `pstep_returned`. -/
theorem acceptsTrace_props {cap : Nat} {evs : List Event} (h : acceptsTrace cap evs = true) :
    Event.panicked ∉ evs ∧ recvVals evs <+: sentVals evs ∧ closeCount 0 evs ≤ 1 ∧
      (∀ v, Event.returned v ∈ evs → v = (sentVals evs).getLast?) := by
  rcases acceptsTrace_iff.mp h with ⟨s, hs⟩
  rcases producer_reach hs with ⟨a, rfl, ha⟩
  refine ⟨ha.panics, ?_, ?_, ?_⟩
  · rw [ha.recv, ha.sent]; exact ⟨a.buf, rfl⟩
  · rw [ha.closes]; split <;> omega
  · rw [producerSystem_eq] at hs
    obtain ⟨_, _, hret⟩ := (PAbs cap _).reach (fun tr _ => ∀ v, Event.returned v ∈ tr → v = (sentVals evs).getLast?)
      nofun (fun tr a l a' ih hm v hv => (List.mem_append.mp hv).elim (ih v) (pstep_returned hm v)) hs
    exact hret

example : acceptsTrace 1 [.sent 0 1, .received 0 1, .sent 0 2, .closed 0, .received 0 2,
    .returned (some 2), .sawClosed 0] = true := by decide +kernel
example : acceptsTrace 0 [.sent 0 1, .received 0 1, .sent 0 2, .received 0 2, .closed 0,
    .sawClosed 0, .returned (some 2)] = true := by decide +kernel
/-- with an unbuffered channel a second send cannot precede the first receive -/
example : acceptsTrace 0 [.sent 0 1, .sent 0 2] = false := by decide +kernel
/-- a send after the close is rejected -/
example : acceptsTrace 2 [.sent 0 1, .closed 0, .sent 0 2] = false := by decide +kernel
/-- a double close is rejected -/
example : acceptsTrace 2 [.sent 0 1, .closed 0, .closed 0] = false := by decide +kernel
/-- reordering is rejected -/
example : acceptsTrace 2 [.sent 0 1, .sent 0 2, .received 0 2] = false := by decide +kernel
/-- returning something else than the last result is rejected -/
example : acceptsTrace 2 [.sent 0 1, .sent 0 2, .closed 0, .returned (some 1)] = false := by decide +kernel

end GS.Chan
