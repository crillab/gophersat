import GS.Model.PbProp
/-!
# C02 (support) — what `swapFalse` does to a constraint

A sequence of `clause.swap`s: the literals are permuted, assignment and trail are untouched, and the
weights of a cardinality constraint (all `1`) stay as they are (`swapFalse_effect`).
-/
namespace GS.PbProp
open GS

theorem swapL_perm (xs : List Int) (i j : Nat) : (swapL xs i j).Perm xs := by
  unfold swapL
  split
  · rename_i a b ha hb
    obtain ⟨hi, rfl⟩ := List.getElem?_eq_some_iff.1 ha
    obtain ⟨hj, rfl⟩ := List.getElem?_eq_some_iff.1 hb
    exact List.set_set_perm hi hj
  · exact List.Perm.refl _

theorem swapL_length {α : Type} (xs : List α) (i j : Nat) : (swapL xs i j).length = xs.length := by
  unfold swapL; split <;> simp

theorem swapL_const (xs : List Int) (c : Int) (h : ∀ x ∈ xs, x = c) (i j : Nat) : swapL xs i j = xs := by
  unfold swapL
  split
  · rename_i a b ha hb
    cases h a (List.mem_of_getElem? ha)
    cases h b (List.mem_of_getElem? hb)
    rw [set_eq_self ha, set_eq_self hb]
  · rfl

theorem swapStep_ok {st : St} {i j : Nat} {li lj : Int} (hi : st.lits[i]? = some li)
    (hj : st.lits[j]? = some lj) (hw : st.watched[i]? = some true) :
    swapStep st i j = .ok { st with
      lits := (st.lits.set i lj).set j li, weights := swapL st.weights i j,
      watched := st.watched.set j false, edits := st.edits ++ [(false, li), (true, lj)] } := by
  simp only [swapStep, swapL, hi, hj, hw, if_true, set_eq_self hw]

theorem swapFalseLoop_done {c : Int} {fuel : Nat} {st : St} {i j : Nat} (h : ¬ (i : Int) < c) :
    swapFalseLoop c fuel st i j = .ok st := by
  unfold swapFalseLoop; rw [if_neg h]

theorem swapStep_effect {st st' : St} {i j : Nat} (h : swapStep st i j = .ok st') :
    st'.m = st.m ∧ st'.props = st.props ∧ st'.lits.Perm st.lits ∧
      ((∀ w ∈ st.weights, w = 1) → st'.weights = st.weights) := by
  unfold swapStep at h
  split at h
  · split at h
    · cases h; exact ⟨rfl, rfl, swapL_perm _ _ _, fun hw => swapL_const _ 1 hw _ _⟩
    · cases h
  · cases h

theorem swapFalseLoop_effect {card1 : Int} (fuel : Nat) (st : St) (i j : Nat) (st' : St) :
    swapFalseLoop card1 fuel st i j = .ok st' →
      st'.m = st.m ∧ st'.props = st.props ∧ st'.lits.Perm st.lits ∧
        ((∀ w ∈ st.weights, w = 1) → st'.weights = st.weights) := by
  fun_induction swapFalseLoop card1 fuel st i j
  -- a value comes from: no false literal left in the window (2), the window passed (10), a swap and the rest (3)
  case case2 => exact fun h => by cases h; exact ⟨rfl, rfl, .refl _, fun _ => rfl⟩
  case case10 => exact fun h => by cases h; exact ⟨rfl, rfl, .refl _, fun _ => rfl⟩
  case case3 hs ih =>
    intro h
    obtain ⟨a1, a2, a3, a4⟩ := swapStep_effect hs
    obtain ⟨b1, b2, b3, b4⟩ := ih h
    exact ⟨b1.trans a1, b2.trans a2, b3.trans a3, fun hw => by rw [b4 (by rw [a4 hw]; exact hw), a4 hw]⟩
  all_goals exact fun h => nomatch h

theorem swapFalse_effect {card : Int} {st st' : St} (h : swapFalse card st = .ok st') :
    st'.m = st.m ∧ st'.props = st.props ∧ st'.lits.Perm st.lits ∧
      ((∀ w ∈ st.weights, w = 1) → st'.weights = st.weights) :=
  swapFalseLoop_effect _ _ _ _ _ h

end GS.PbProp
