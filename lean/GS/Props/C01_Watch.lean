import GS.Model.Watch
import GS.Spec.Basic
/-!
# C01 (support) — the two-watched-literal propagation of `watcher.go` misses nothing

`GS.Watch` (`GS/Model/Watch.lean`) mirrors `propagate` / `simplifyPropClauses` / `watchClause` line by
line and is compared state against state with the Go code by the harness (`x_watch.go`).  Here:
`WatchInv`, the `Prop` reading of the executable invariant `watchInv` (`watchInv_iff`), and STATIC
completeness (`watch_complete`, `watch_total_model`): in a state satisfying `watchInv` with everything
processed (`ptr = trail.length`) no clause is falsified and no clause is unit, so a total assignment
reached this way satisfies every clause.  That `propagate` keeps the invariant is proved in the
`C01_Watch*` modules that import this one.
-/
namespace GS.Watch

theorem idxLit_litIdx {l : Int} (h : l ≠ 0) : idxLit (litIdx l) = l := by
  unfold idxLit litIdx
  split <;> split <;> omega

theorem litIdx_idxLit (i : Nat) : litIdx (idxLit i) = i := by
  unfold idxLit litIdx
  split <;> split <;> omega

theorem idxLit_ne_zero (i : Nat) : idxLit i ≠ 0 := by
  unfold idxLit; split <;> omega

theorem litIdx_lt {l : Int} {n : Nat} (h : l ≠ 0) (hn : l.natAbs ≤ n) : litIdx l < 2 * n := by
  unfold litIdx
  split <;> omega

theorem litIdx_inj {a b : Int} (ha : a ≠ 0) (hb : b ≠ 0) (h : litIdx a = litIdx b) : a = b := by
  rw [← idxLit_litIdx ha, ← idxLit_litIdx hb, h]

theorem litIdx_ne_of_natAbs_ne {a b : Int} (ha : a ≠ 0) (hb : b ≠ 0) (h : a.natAbs ≠ b.natAbs) :
    litIdx a ≠ litIdx b :=
  fun heq => h (by rw [litIdx_inj ha hb heq])

theorem litStatus_cases (m : List Int) (l : Int) :
    litStatus m l = none ∨ litStatus m l = some .indet ∨ litStatus m l = some .sat ∨
      litStatus m l = some .unsat := by
  cases h : litStatus m l with
  | none => simp
  | some s => cases s <;> simp

theorem litStatus_congr {m m' : List Int} {l : Int} (h : m'[l.natAbs - 1]? = m[l.natAbs - 1]?) :
    litStatus m' l = litStatus m l := by
  unfold litStatus modelAt; rw [h]

theorem litTrueB_congr {m m' : List Int} {l : Int} (h : m'[l.natAbs - 1]? = m[l.natAbs - 1]?) :
    litTrueB m' l = litTrueB m l := by
  unfold litTrueB; rw [litStatus_congr h]

theorem litFalseB_congr {m m' : List Int} {l : Int} (h : m'[l.natAbs - 1]? = m[l.natAbs - 1]?) :
    litFalseB m' l = litFalseB m l := by
  unfold litFalseB; rw [litStatus_congr h]

theorem litStatus_eq_some {m : List Int} {l : Int} {s : Status} :
    litStatus m l = some s ↔ l ≠ 0 ∧ ∃ a, m[l.natAbs - 1]? = some a ∧
      s = if a = 0 then .indet else if (a > 0 ↔ l > 0) then .sat else .unsat := by
  unfold litStatus modelAt
  by_cases hl : l = 0
  · simp [hl]
  · cases m[l.natAbs - 1]? with
    | none => simp [hl]
    | some a =>
      simp only [hl, if_false, beq_iff_eq, decide_eq_decide, ne_eq, not_false_eq_true, true_and,
        Option.some.injEq, exists_eq_left']
      split
      · simp [eq_comm]
      · split <;> simp [eq_comm]

theorem litTrueB_iff {m : List Int} {l : Int} :
    litTrueB m l = true ↔ l ≠ 0 ∧ ∃ a, m[l.natAbs - 1]? = some a ∧ a ≠ 0 ∧ (a > 0 ↔ l > 0) := by
  unfold litTrueB
  rw [beq_iff_eq, litStatus_eq_some]
  refine and_congr_right fun _ => exists_congr fun a => and_congr_right fun _ => ?_
  by_cases h0 : a = 0
  · simp [h0]
  · by_cases hs : (a > 0 ↔ l > 0) <;> simp [h0, hs]

theorem litFalseB_iff {m : List Int} {l : Int} :
    litFalseB m l = true ↔ l ≠ 0 ∧ ∃ a, m[l.natAbs - 1]? = some a ∧ a ≠ 0 ∧ ¬ (a > 0 ↔ l > 0) := by
  unfold litFalseB
  rw [beq_iff_eq, litStatus_eq_some]
  refine and_congr_right fun _ => exists_congr fun a => and_congr_right fun _ => ?_
  by_cases h0 : a = 0
  · simp [h0]
  · by_cases hs : (a > 0 ↔ l > 0) <;> simp [h0, hs]

theorem litUnboundB_iff {m : List Int} {l : Int} :
    litUnboundB m l = true ↔ l ≠ 0 ∧ m[l.natAbs - 1]? = some 0 := by
  unfold litUnboundB
  rw [beq_iff_eq, litStatus_eq_some]
  refine and_congr_right fun _ => ⟨fun ⟨a, ha, hs⟩ => ?_, fun h => ⟨0, h, rfl⟩⟩
  by_cases h0 : a = 0
  · rw [ha, h0]
  · by_cases hs' : (a > 0 ↔ l > 0) <;> simp [h0, hs'] at hs

theorem not_true_and_false {m : List Int} {l : Int} (ht : litTrueB m l = true)
    (hf : litFalseB m l = true) : False := by
  unfold litTrueB at ht; unfold litFalseB at hf
  rw [beq_iff_eq] at ht hf
  rw [ht] at hf; cases hf

theorem not_true_and_unbound {m : List Int} {l : Int} (ht : litTrueB m l = true)
    (hf : litUnboundB m l = true) : False := by
  unfold litTrueB at ht; unfold litUnboundB at hf
  rw [beq_iff_eq] at ht hf
  rw [ht] at hf; cases hf

theorem eq_neg_of_true_false {m : List Int} {t l : Int} (ht : litTrueB m t = true)
    (hf : litFalseB m l = true) (hv : t.natAbs = l.natAbs) : t = -l := by
  obtain ⟨_, a, ha, _, hat⟩ := litTrueB_iff.mp ht
  obtain ⟨_, b, hb, _, hbl⟩ := litFalseB_iff.mp hf
  rw [hv] at ha
  rw [ha] at hb
  cases hb
  omega

theorem litStatus_some {m : List Int} {l : Int} (h0 : l ≠ 0) (hn : l.natAbs ≤ m.length) :
    ∃ s, litStatus m l = some s := by
  have hpos : 0 < l.natAbs := Int.natAbs_pos.mpr h0
  exact ⟨_, litStatus_eq_some.mpr ⟨h0, _, List.getElem?_eq_getElem (by omega), rfl⟩⟩

theorem litTrueB_of_sat {m : List Int} {l : Int} (h : litStatus m l = some .sat) :
    litTrueB m l = true := by unfold litTrueB; simp [h]

theorem litFalseB_of_unsat {m : List Int} {l : Int} (h : litStatus m l = some .unsat) :
    litFalseB m l = true := by unfold litFalseB; simp [h]

theorem litUnboundB_of_indet {m : List Int} {l : Int} (h : litStatus m l = some .indet) :
    litUnboundB m l = true := by unfold litUnboundB; simp [h]

theorem litFalseB_neg {m : List Int} {l : Int} (h : litTrueB m l = true) :
    litFalseB m (-l) = true := by
  obtain ⟨h0, a, ha, ha0, hal⟩ := litTrueB_iff.mp h
  apply litFalseB_iff.mpr
  refine ⟨by omega, a, by simpa using ha, ha0, ?_⟩
  omega

theorem litTrueB_neg_false {m : List Int} {l : Int} (h : litTrueB m l = true) :
    litTrueB m (-l) = false := by
  cases ht : litTrueB m (-l) with
  | false => rfl
  | true => exact absurd (litFalseB_neg h) (fun hf => not_true_and_false ht hf)

theorem neg_not_true_of_not_unsat {m : List Int} {l : Int} (h : litStatus m l ≠ some .unsat) :
    litTrueB m (-l) = false := by
  cases ht : litTrueB m (-l) with
  | false => rfl
  | true =>
    exfalso
    have := litFalseB_neg ht
    simp only [Int.neg_neg] at this
    unfold litFalseB at this
    apply h
    simpa using this

theorem set_get {α} {cl : List α} {cid : Nat} {c : α} (c' : α) (j : Nat) (hc : cl[cid]? = some c) :
    (cl.set cid c')[j]? = if j = cid then some c' else cl[j]? := by
  have hlt : cid < cl.length := (List.getElem?_eq_some_iff.mp hc).1
  rw [List.getElem?_set]
  by_cases hj : j = cid
  · subst hj; simp [hlt]
  · have : cid ≠ j := fun h => hj h.symm
    simp [hj, this]

/-- The parts of `WatchInv` that go by position (`wbin`, `wlong`, `count`, `semBin`, `semLong`) have
    the form `∀ j y, arr[j]? = some y → P j y`; `clauses` goes by membership. -/
theorem forall_set {α} {l : List α} {i : Nat} {x : α} (x' : α) (hi : l[i]? = some x)
    {P : Nat → α → Prop} (h : ∀ j y, j ≠ i → l[j]? = some y → P j y) (h' : P i x') :
    ∀ j y, (l.set i x')[j]? = some y → P j y := by
  intro j y hy
  rw [set_get _ _ hi] at hy
  by_cases hj : j = i
  · rw [if_pos hj] at hy
    cases hy
    exact hj ▸ h'
  · rw [if_neg hj] at hy
    exact h j y hj hy

/-- `T` holds of the blocking literal of the watcher, or of one of the two watched literals of its
    clause.  `T` is "true" for `watchInv` (`SemW`), "true at a level `≤ L`" for `watchInvL` (`SemWL`).
    `SemW`, `SemWL` and the fields of `WatchInv` are written out, not stated through `SemP`, `PBin`,
    `PLong`, `CountOk`, `ClauseOk`: they unfold to these, and a proof passes from one form to the
    other by `exact` (with `T` given: `SemP_swap (T := fun x => litTrueB m x = true)`). -/
def SemP (T : Int → Prop) (cl : List (List Int)) (w : Watcher) : Prop :=
  T w.other ∨ ∃ c, cl[w.cid]? = some c ∧
    ((∃ a, c[0]? = some a ∧ T a) ∨ (∃ b, c[1]? = some b ∧ T b))

theorem SemP_mono {T T' : Int → Prop} {cl : List (List Int)} (hm : ∀ x, T x → T' x) {w : Watcher}
    (h : SemP T cl w) : SemP T' cl w := by
  rcases h with h | ⟨c, hcw, h2⟩
  · exact Or.inl (hm _ h)
  · right
    refine ⟨c, hcw, ?_⟩
    rcases h2 with ⟨a, ha, hat⟩ | ⟨b, hb, hbt⟩
    · exact Or.inl ⟨a, ha, hm _ hat⟩
    · exact Or.inr ⟨b, hb, hm _ hbt⟩

/-- The two reorderings of `simplifyPropClauses`: `c.swap(0, 1)`, and `c.swap(1, k)` when `T` fails
    of literal 1 (the negation of the literal being processed).  No excuse is lost. -/
theorem SemP_reorder {T : Int → Prop} {cl : List (List Int)} {cid : Nat} {c c' : List Int}
    (hc : cl[cid]? = some c)
    (h01 : ∀ x, (c[0]? = some x ∨ c[1]? = some x) → T x → c'[0]? = some x ∨ c'[1]? = some x)
    {w : Watcher} (h : SemP T cl w) : SemP T (cl.set cid c') w := by
  rcases h with h | ⟨c1, hcw, h2⟩
  · exact Or.inl h
  · right
    rw [set_get _ _ hc]
    by_cases hwc : w.cid = cid
    · rw [hwc, hc] at hcw
      cases hcw
      refine ⟨c', by simp [hwc], ?_⟩
      rcases h2 with ⟨x, hx, hT⟩ | ⟨x, hx, hT⟩
      · exact (h01 x (Or.inl hx) hT).imp (fun h => ⟨x, h, hT⟩) (fun h => ⟨x, h, hT⟩)
      · exact (h01 x (Or.inr hx) hT).imp (fun h => ⟨x, h, hT⟩) (fun h => ⟨x, h, hT⟩)
    · exact ⟨c1, by simp [hwc, hcw], h2⟩

theorem SemP_swap {T : Int → Prop} {cl : List (List Int)} {cid : Nat} {a b : Int} {r : List Int}
    (hc : cl[cid]? = some (a :: b :: r)) {w : Watcher} (h : SemP T cl w) :
    SemP T (cl.set cid (b :: a :: r)) w :=
  SemP_reorder hc (fun _ hx _ => hx.symm) h

theorem SemP_move {T : Int → Prop} {cl : List (List Int)} {cid : Nat} {first nl x : Int}
    {r r' : List Int} (hc : cl[cid]? = some (first :: nl :: r)) (hnl : ¬ T nl) {w : Watcher}
    (h : SemP T cl w) : SemP T (cl.set cid (first :: x :: r')) w := by
  refine SemP_reorder hc (fun y hy hT => ?_) h
  rcases hy with hy | hy
  · exact Or.inl hy
  · simp only [List.getElem?_cons_succ, List.getElem?_cons_zero, Option.some.injEq] at hy
    exact absurd (hy ▸ hT) hnl

def SemW (cl : List (List Int)) (m : List Int) (w : Watcher) : Prop :=
  litTrueB m w.other = true ∨ ∃ c, cl[w.cid]? = some c ∧
    ((∃ a, c[0]? = some a ∧ litTrueB m a = true) ∨ (∃ b, c[1]? = some b ∧ litTrueB m b = true))

theorem SemW_swap {cl : List (List Int)} {m : List Int} {cid : Nat} {a b : Int} {r : List Int}
    (hc : cl[cid]? = some (a :: b :: r)) {w : Watcher} (h : SemW cl m w) :
    SemW (cl.set cid (b :: a :: r)) m w :=
  SemP_swap (T := fun x => litTrueB m x = true) hc h

theorem SemW_move {cl : List (List Int)} {m : List Int} {cid : Nat} {first nl x : Int} {r r' : List Int}
    (hc : cl[cid]? = some (first :: nl :: r)) (hnl : litTrueB m nl = false) {w : Watcher}
    (h : SemW cl m w) : SemW (cl.set cid (first :: x :: r')) m w :=
  SemP_move (T := fun x => litTrueB m x = true) hc (by rw [hnl]; exact Bool.noConfusion) h

theorem SemW_mono {cl : List (List Int)} {m m' : List Int}
    (hm : ∀ x, litTrueB m x = true → litTrueB m' x = true) {w : Watcher} (h : SemW cl m w) :
    SemW cl m' w :=
  SemP_mono (T := fun x => litTrueB m x = true) hm h

/-- What `WatchInv.clauses` asks of a clause (`clauseOk` read as a `Prop`). -/
def ClauseOk (n : Nat) (c : List Int) : Prop :=
  2 ≤ c.length ∧ (∀ l ∈ c, l ≠ 0 ∧ l.natAbs ≤ n) ∧ (c.map Int.natAbs).Nodup

/-- What `WatchInv.wbin` (`PBin`) and `WatchInv.wlong` (`PLong`) ask of the watcher `w` in the list
    of index `i`. -/
def PBin (cl : List (List Int)) (i : Nat) (w : Watcher) : Prop :=
  ∃ c, cl[w.cid]? = some c ∧ (c = [-(idxLit i), w.other] ∨ c = [w.other, -(idxLit i)])

def PLong (cl : List (List Int)) (i : Nat) (w : Watcher) : Prop :=
  ∃ c, cl[w.cid]? = some c ∧ 3 ≤ c.length ∧
    (c[0]? = some (-(idxLit i)) ∨ c[1]? = some (-(idxLit i))) ∧ w.other ∈ c

/-- What `WatchInv.count` asks of clause `cid`, whose literals 0 and 1 are `a` and `b`, in its family `F`. -/
def CountOk (F : List (List Watcher)) (cid : Nat) (a b : Int) : Prop :=
  ∃ la lb, wget F (-a) = some la ∧ countW la cid = 1 ∧ wget F (-b) = some lb ∧ countW lb cid = 1

theorem PLong.reorder {cl : List (List Int)} {cid i : Nat} {c c' : List Int} {w : Watcher}
    (hc : cl[cid]? = some c) (hp : c'.Perm c)
    (h01 : w.cid = cid → c[0]? = some (-(idxLit i)) ∨ c[1]? = some (-(idxLit i)) →
      c'[0]? = some (-(idxLit i)) ∨ c'[1]? = some (-(idxLit i)))
    (h : PLong cl i w) : PLong (cl.set cid c') i w := by
  obtain ⟨c1, hcw, hlen, hpos, hoc⟩ := h
  unfold PLong
  rw [set_get _ _ hc]
  by_cases hwc : w.cid = cid
  · rw [hwc, hc] at hcw
    cases hcw
    exact ⟨c', if_pos hwc, hp.length_eq ▸ hlen, h01 hwc hpos, hp.mem_iff.mpr hoc⟩
  · exact ⟨c1, by rw [if_neg hwc]; exact hcw, hlen, hpos, hoc⟩

/-- The two-watched-literal invariant: the `Prop` reading of `watchInv` (`watchInv_iff`); the conjuncts
    are described at `shapeOk` … `semLongOk` in `GS/Model/Watch.lean`. -/
structure WatchInv (st : State) (ptr : Nat) : Prop where
  shape : st.reasons.length = st.model.length ∧ st.wbin.length = 2 * st.model.length ∧
    st.wlong.length = 2 * st.model.length
  clauses : ∀ c ∈ st.clauses, 2 ≤ c.length ∧ (∀ l ∈ c, l ≠ 0 ∧ l.natAbs ≤ st.model.length) ∧
    (c.map Int.natAbs).Nodup
  ptr_le : ptr ≤ st.trail.length
  trail_true : ∀ l ∈ st.trail, litTrueB st.model l = true
  trail_nodup : (st.trail.map Int.natAbs).Nodup
  bound_on_trail : ∀ v, v < st.model.length →
    st.model[v]? = some 0 ∨ (v + 1) ∈ st.trail.map Int.natAbs
  wbin : ∀ i ws, st.wbin[i]? = some ws → ∀ w ∈ ws, ∃ c, st.clauses[w.cid]? = some c ∧
    (c = [-(idxLit i), w.other] ∨ c = [w.other, -(idxLit i)])
  wlong : ∀ i ws, st.wlong[i]? = some ws → ∀ w ∈ ws, ∃ c, st.clauses[w.cid]? = some c ∧
    3 ≤ c.length ∧ (c[0]? = some (-(idxLit i)) ∨ c[1]? = some (-(idxLit i))) ∧ w.other ∈ c
  count : ∀ cid c, st.clauses[cid]? = some c → ∃ a b, c[0]? = some a ∧ c[1]? = some b ∧
    ∃ la lb, wget (if c.length = 2 then st.wbin else st.wlong) (-a) = some la ∧ countW la cid = 1 ∧
      wget (if c.length = 2 then st.wbin else st.wlong) (-b) = some lb ∧ countW lb cid = 1
  semBin : ∀ i ws, st.wbin[i]? = some ws → idxLit i ∈ st.trail.take ptr →
    ∀ w ∈ ws, litTrueB st.model w.other = true
  semLong : ∀ i ws, st.wlong[i]? = some ws → idxLit i ∈ st.trail.take ptr →
    ∀ w ∈ ws, litTrueB st.model w.other = true ∨ ∃ c, st.clauses[w.cid]? = some c ∧
      ((∃ a, c[0]? = some a ∧ litTrueB st.model a = true) ∨
       (∃ b, c[1]? = some b ∧ litTrueB st.model b = true))

theorem shapeOk_iff (st : State) : shapeOk st = true ↔
    (st.reasons.length = st.model.length ∧ st.wbin.length = 2 * st.model.length ∧
      st.wlong.length = 2 * st.model.length) := by
  simp [shapeOk, and_assoc]

theorem clauseOk_iff (n : Nat) (c : List Int) : clauseOk n c = true ↔ ClauseOk n c := by
  simp [clauseOk, ClauseOk, List.all_eq_true, and_assoc]

theorem clausesOk_iff (st : State) : clausesOk st = true ↔
    ∀ c ∈ st.clauses, ClauseOk st.model.length c := by
  unfold clausesOk
  rw [List.all_eq_true]
  exact forall_congr' fun c => imp_congr_right fun _ => clauseOk_iff _ c

theorem trailOk_iff (st : State) (ptr : Nat) : trailOk st ptr = true ↔
    (ptr ≤ st.trail.length ∧ (∀ l ∈ st.trail, litTrueB st.model l = true) ∧
      (st.trail.map Int.natAbs).Nodup ∧
      ∀ v, v < st.model.length → st.model[v]? = some 0 ∨ (v + 1) ∈ st.trail.map Int.natAbs) := by
  simp [trailOk, List.all_eq_true, and_assoc]

theorem zipIdx_all_iff {α} (l : List α) (p : α × Nat → Bool) :
    l.zipIdx.all p = true ↔ ∀ i x, l[i]? = some x → p (x, i) = true := by
  rw [List.all_eq_true]
  constructor
  · intro h i x hx
    exact h (x, i) (List.mem_zipIdx_iff_getElem?.mpr hx)
  · intro h y hy
    exact h y.2 y.1 (List.mem_zipIdx_iff_getElem?.mp hy)

theorem famAll_iff {α} (F : List (List α)) {p : Nat → α → Bool} {P : Nat → α → Prop}
    (hp : ∀ i w, p i w = true ↔ P i w) :
    F.zipIdx.all (fun q => q.1.all (p q.2)) = true ↔
      ∀ i ws, F[i]? = some ws → ∀ w ∈ ws, P i w := by
  rw [zipIdx_all_iff]
  refine forall_congr' fun i => forall_congr' fun ws => imp_congr_right fun _ => ?_
  rw [List.all_eq_true]
  exact forall_congr' fun w => imp_congr_right fun _ => hp i w

theorem procAll_iff {α} (F : List (List α)) (tr : List Int) {p : Nat → α → Bool}
    {P : Nat → α → Prop} (hp : ∀ i w, p i w = true ↔ P i w) :
    F.zipIdx.all (fun q => !tr.contains (idxLit q.2) || q.1.all (p q.2)) = true ↔
      ∀ i ws, F[i]? = some ws → idxLit i ∈ tr → ∀ w ∈ ws, P i w := by
  rw [zipIdx_all_iff]
  refine forall_congr' fun i => forall_congr' fun ws => imp_congr_right fun _ => ?_
  rw [Bool.or_eq_true, Bool.not_eq_true', ← Bool.not_eq_true, List.contains_iff_mem,
    List.all_eq_true, ← Decidable.imp_iff_not_or]
  exact imp_congr_right fun _ => forall_congr' fun w => imp_congr_right fun _ => hp i w

theorem binWatcherOk_iff (st : State) (i : Nat) (w : Watcher) :
    binWatcherOk st i w = true ↔ PBin st.clauses i w := by
  unfold binWatcherOk PBin
  cases st.clauses[w.cid]? <;> simp

theorem longWatcherOk_iff (st : State) (i : Nat) (w : Watcher) :
    longWatcherOk st i w = true ↔ PLong st.clauses i w := by
  unfold longWatcherOk PLong
  cases st.clauses[w.cid]? <;> simp [and_assoc]

theorem wbinOk_iff (st : State) : wbinOk st = true ↔
    ∀ i ws, st.wbin[i]? = some ws → ∀ w ∈ ws, PBin st.clauses i w :=
  famAll_iff st.wbin (binWatcherOk_iff st)

theorem wlongOk_iff (st : State) : wlongOk st = true ↔
    ∀ i ws, st.wlong[i]? = some ws → ∀ w ∈ ws, PLong st.clauses i w :=
  famAll_iff st.wlong (longWatcherOk_iff st)

theorem clauseWatched_iff (st : State) (cid : Nat) (c : List Int) : clauseWatched st cid c = true ↔
    ∃ a b, c[0]? = some a ∧ c[1]? = some b ∧
      CountOk (if c.length = 2 then st.wbin else st.wlong) cid a b := by
  unfold clauseWatched CountOk
  cases c[0]? with
  | none => simp
  | some a =>
    cases c[1]? with
    | none => simp
    | some b =>
      simp only [Bool.and_eq_true, Option.some.injEq, exists_and_left, exists_eq_left']
      cases wget (if c.length = 2 then st.wbin else st.wlong) (-a) <;>
        cases wget (if c.length = 2 then st.wbin else st.wlong) (-b) <;> simp

theorem countOk_iff (st : State) : countOk st = true ↔
    ∀ cid c, st.clauses[cid]? = some c → ∃ a b, c[0]? = some a ∧ c[1]? = some b ∧
      CountOk (if c.length = 2 then st.wbin else st.wlong) cid a b := by
  unfold countOk
  rw [zipIdx_all_iff]
  exact forall_congr' fun cid => forall_congr' fun c => imp_congr_right fun _ =>
    clauseWatched_iff st cid c

theorem semBinOk_iff (st : State) (ptr : Nat) : semBinOk st ptr = true ↔
    ∀ i ws, st.wbin[i]? = some ws → idxLit i ∈ st.trail.take ptr →
      ∀ w ∈ ws, litTrueB st.model w.other = true :=
  procAll_iff (p := fun _ w => litTrueB st.model w.other) st.wbin _ (fun _ _ => Iff.rfl)

theorem semP_iff (t : Int → Bool) (cl : List (List Int)) (w : Watcher) :
    (t w.other ||
      (match cl[w.cid]? with
       | some c => (match c[0]? with | some a => t a | none => false) ||
                   (match c[1]? with | some b => t b | none => false)
       | none => false)) = true ↔ SemP (fun x => t x = true) cl w := by
  unfold SemP
  rw [Bool.or_eq_true]
  apply or_congr Iff.rfl
  cases cl[w.cid]? with
  | none => simp
  | some c =>
    simp only [Option.some.injEq, exists_eq_left', Bool.or_eq_true]
    cases c[0]? <;> cases c[1]? <;> simp

theorem semLongOk_iff (st : State) (ptr : Nat) : semLongOk st ptr = true ↔
    ∀ i ws, st.wlong[i]? = some ws → idxLit i ∈ st.trail.take ptr →
      ∀ w ∈ ws, SemW st.clauses st.model w :=
  procAll_iff st.wlong _ (fun _ w => semP_iff (litTrueB st.model) st.clauses w)

theorem watchInv_iff (st : State) (ptr : Nat) : watchInv st ptr = true ↔ WatchInv st ptr := by
  unfold watchInv
  simp only [Bool.and_eq_true]
  rw [shapeOk_iff, clausesOk_iff, trailOk_iff, wbinOk_iff, wlongOk_iff, countOk_iff, semBinOk_iff,
    semLongOk_iff]
  constructor
  · rintro ⟨⟨⟨⟨⟨⟨⟨h1, h2⟩, h3, h4, h5, h6⟩, h7⟩, h8⟩, h9⟩, h10⟩, h11⟩
    exact ⟨h1, h2, h3, h4, h5, h6, h7, h8, h9, h10, h11⟩
  · intro h
    exact ⟨⟨⟨⟨⟨⟨⟨h.shape, h.clauses⟩, h.ptr_le, h.trail_true, h.trail_nodup, h.bound_on_trail⟩,
      h.wbin⟩, h.wlong⟩, h.count⟩, h.semBin⟩, h.semLong⟩

theorem countW_append (l1 l2 : List Watcher) (cid : Nat) :
    countW (l1 ++ l2) cid = countW l1 cid + countW l2 cid := by
  unfold countW; simp [List.countP_append]

theorem countW_cons (w : Watcher) (l : List Watcher) (cid : Nat) :
    countW (w :: l) cid = countW l cid + (if w.cid = cid then 1 else 0) := by
  unfold countW; simp [List.countP_cons]

theorem countW_nil (cid : Nat) : countW [] cid = 0 := rfl

theorem countW_push (l : List Watcher) (w : Watcher) (cid : Nat) :
    countW (l ++ [w]) cid = countW l cid + (if w.cid = cid then 1 else 0) := by
  rw [countW_append, countW_cons, countW_nil, Nat.zero_add]

theorem countW_eq_zero {l : List Watcher} {cid : Nat} :
    countW l cid = 0 ↔ ∀ w ∈ l, w.cid ≠ cid := by
  unfold countW
  rw [List.countP_eq_zero]
  exact forall_congr' fun w => imp_congr_right fun _ => by simp

theorem countW_pos_mem {ws : List Watcher} {cid : Nat} (h : countW ws cid = 1) :
    ∃ w ∈ ws, w.cid = cid := by
  have : 0 < List.countP (fun w => w.cid == cid) ws := by unfold countW at h; omega
  obtain ⟨w, hw, hp⟩ := List.countP_pos_iff.mp this
  exact ⟨w, hw, by simpa using hp⟩

theorem neg_mem_trail_of_false {st : State} {ptr : Nat} (h : WatchInv st ptr) {x : Int}
    (hf : litFalseB st.model x = true) : (-x) ∈ st.trail := by
  obtain ⟨hx0, a, ha, ha0, _⟩ := litFalseB_iff.mp hf
  have hxpos : 0 < x.natAbs := Int.natAbs_pos.mpr hx0
  have hmem : x.natAbs ∈ st.trail.map Int.natAbs := by
    rcases h.bound_on_trail (x.natAbs - 1) (List.getElem?_eq_some_iff.mp ha).1 with hb | hb
    · rw [ha] at hb; cases hb; exact absurd rfl ha0
    · have : x.natAbs - 1 + 1 = x.natAbs := by omega
      rwa [this] at hb
  obtain ⟨t, ht, htv⟩ := List.mem_map.mp hmem
  rw [← eq_neg_of_true_false (h.trail_true t ht) hf htv]; exact ht

/-- a trail literal has its two watch lists -/
theorem WatchInv.trail_idx {st : State} {ptr p : Nat} {lit : Int} (h : WatchInv st ptr)
    (hat : st.trail[p]? = some lit) : lit ≠ 0 ∧ litIdx lit < 2 * st.model.length := by
  obtain ⟨hlit0, a, ha, _, _⟩ := litTrueB_iff.mp (h.trail_true lit (List.mem_of_getElem? hat))
  have hpos : 0 < lit.natAbs := Int.natAbs_pos.mpr hlit0
  have := (List.getElem?_eq_some_iff.mp ha).1
  exact ⟨hlit0, litIdx_lt hlit0 (by omega)⟩

/-- A false watched literal `x` of a clause is excused: `¬x` is a trail literal, all of them are
    processed, so the watcher the clause has in the list of `¬x` (`count`) names a true literal of the
    clause (`semBin`, `semLong`). -/
theorem watched_false_has_true {st : State} (h : WatchInv st st.trail.length) {cid : Nat}
    {c : List Int} (hc : st.clauses[cid]? = some c) {x : Int}
    (hx : c[0]? = some x ∨ c[1]? = some x) (hf : litFalseB st.model x = true) :
    ∃ l ∈ c, litTrueB st.model l = true := by
  have hnx0 : -x ≠ 0 := by have := (litFalseB_iff.mp hf).1; omega
  have hidx : idxLit (litIdx (-x)) ∈ st.trail.take st.trail.length := by
    rw [idxLit_litIdx hnx0, List.take_length]; exact neg_mem_trail_of_false h hf
  obtain ⟨a', b', h0, h1, la, lb, hla, hca, hlb, hcb⟩ := h.count cid c hc
  obtain ⟨lx, hlx, hcx⟩ : ∃ lx, wget (if c.length = 2 then st.wbin else st.wlong) (-x) = some lx ∧
      countW lx cid = 1 := by
    rcases hx with hx | hx
    · rw [h0] at hx; cases hx; exact ⟨la, hla, hca⟩
    · rw [h1] at hx; cases hx; exact ⟨lb, hlb, hcb⟩
  obtain ⟨w, hw, hwc⟩ := countW_pos_mem hcx
  unfold wget at hlx
  simp only [hnx0, if_false] at hlx
  by_cases h2 : c.length = 2
  · simp only [h2, if_true] at hlx
    obtain ⟨c', hc', hshape⟩ := h.wbin _ lx hlx w hw
    rw [hwc, hc] at hc'
    cases hc'
    refine ⟨w.other, ?_, h.semBin _ lx hlx hidx w hw⟩
    rcases hshape with hs | hs <;> rw [hs] <;> simp
  · simp only [h2, if_false] at hlx
    obtain ⟨c', hc', _, _, hoc⟩ := h.wlong _ lx hlx w hw
    rw [hwc, hc] at hc'
    cases hc'
    rcases h.semLong _ lx hlx hidx w hw with htrue | ⟨c'', hc'', hw01⟩
    · exact ⟨w.other, hoc, htrue⟩
    · rw [hwc, hc] at hc''
      cases hc''
      rcases hw01 with ⟨y, hy, hyt⟩ | ⟨y, hy, hyt⟩
      · exact ⟨y, List.mem_of_getElem? hy, hyt⟩
      · exact ⟨y, List.mem_of_getElem? hy, hyt⟩

/-- **Static completeness.**  In a state satisfying `watchInv` in which every trail literal has been
    processed (`ptr = trail.length`: what `propagate` returns with `nil`), no clause has all its
    literals false (no missed conflict), and no clause has an unbound literal while all its other
    literals are false (nothing left to propagate). -/
theorem watch_complete {st : State} (h : watchInv st st.trail.length = true) :
    ∀ c ∈ st.clauses,
      (¬ ∀ l ∈ c, litFalseB st.model l = true) ∧
      (∀ (i : Nat) (x : Int), c[i]? = some x → litUnboundB st.model x = true →
        ¬ ∀ (j : Nat) (y : Int), j ≠ i → c[j]? = some y → litFalseB st.model y = true) := by
  rw [watchInv_iff] at h
  intro c hcm
  obtain ⟨cid, hc⟩ := List.getElem?_of_mem hcm
  obtain ⟨hlen, _, _⟩ := h.clauses c hcm
  have h0 : c[0]? = some c[0] := List.getElem?_eq_getElem (by omega)
  have h1 : c[1]? = some c[1] := List.getElem?_eq_getElem (by omega)
  constructor
  · intro hall
    have hf := hall c[0] (List.getElem_mem _)
    obtain ⟨l, hl, hlt⟩ := watched_false_has_true h hc (Or.inl h0) hf
    exact not_true_and_false hlt (hall l hl)
  · intro i x hi hu hall
    have key : ∀ k, (k = 0 ∨ k = 1) → k ≠ i → ∀ y, c[k]? = some y → False := by
      intro k hk hki y hy
      have hf := hall k y hki hy
      have hk' : c[0]? = some y ∨ c[1]? = some y := by
        rcases hk with hk | hk <;> subst hk
        · exact Or.inl hy
        · exact Or.inr hy
      obtain ⟨l, hl, hlt⟩ := watched_false_has_true h hc hk' hf
      obtain ⟨j, hj⟩ := List.getElem?_of_mem hl
      by_cases hji : j = i
      · subst hji
        rw [hi] at hj; cases hj
        exact not_true_and_unbound hlt hu
      · exact not_true_and_false hlt (hall j l hji hj)
    by_cases hi0 : i = 0
    · exact key 1 (Or.inr rfl) (by omega) _ h1
    · exact key 0 (Or.inl rfl) (by omega) _ h0

/-- The assignment read off the binding array; an unbound variable reads as false. -/
def modelAsg (m : List Int) : GS.Asg := fun v => decide ((m[v - 1]?).getD 0 > 0)

theorem litTrue_modelAsg {m : List Int} {l : Int} (h : litTrueB m l = true) :
    GS.litTrue (modelAsg m) l = true := by
  obtain ⟨_, a, ha, _, hal⟩ := litTrueB_iff.mp h
  unfold GS.litTrue modelAsg
  by_cases hp : l > 0
  · simp [hp, ha, hal.mpr hp]
  · have : ¬ a > 0 := fun h => hp (hal.mp h)
    simp [hp, ha, this]

/-- **A total assignment reached by propagation is a model.**  If moreover every variable is bound,
    the assignment read off the binding array satisfies every clause the solver holds. -/
theorem watch_total_model {st : State} (h : watchInv st st.trail.length = true)
    (htot : ∀ a ∈ st.model, a ≠ 0) : GS.cnfTrue (modelAsg st.model) st.clauses = true := by
  have hw := (watchInv_iff _ _).mp h
  unfold GS.cnfTrue
  rw [List.all_eq_true]
  intro c hcm
  obtain ⟨hnf, _⟩ := watch_complete h c hcm
  obtain ⟨_, hlits, _⟩ := hw.clauses c hcm
  unfold GS.clauseTrue
  rw [List.any_eq_true]
  apply Classical.byContradiction
  intro hno
  apply hnf
  intro l hl
  obtain ⟨hl0, hln⟩ := hlits l hl
  have hpos : 0 < l.natAbs := Int.natAbs_pos.mpr hl0
  have hlt : l.natAbs - 1 < st.model.length := by omega
  have hget : st.model[l.natAbs - 1]? = some st.model[l.natAbs - 1] := List.getElem?_eq_getElem hlt
  have hne : st.model[l.natAbs - 1] ≠ 0 := htot _ (List.getElem_mem _)
  by_cases hs : (st.model[l.natAbs - 1] > 0 ↔ l > 0)
  · exfalso
    apply hno
    exact ⟨l, hl, litTrue_modelAsg (litTrueB_iff.mpr ⟨hl0, _, hget, hne, hs⟩)⟩
  · exact litFalseB_iff.mpr ⟨hl0, _, hget, hne, hs⟩

end GS.Watch
