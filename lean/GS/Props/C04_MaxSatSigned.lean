import GS.Model.MaxSatSigned
import GS.Props.C04_MaxSat
/-!
# C04 — the blocking-literal encoding of the current `maxsat.New` is exact for coefficients of either sign

`GS.MaxSatSigned.encodeS` relaxes a soft constraint `Σ cᵢ·lᵢ ≥ d` with the term
`blockCoeff · b`, `blockCoeff = d + Σ_{cᵢ<0} |cᵢ|`, and only when `blockCoeff > 0`.
Everything below holds for **all** integer coefficients (negative, zero, positive) and all
degrees; the hypothesis `softNonneg` of `GS.Props.C04_MaxSat` is not needed. What is:

* `hard.wf n`, `softWf n soft` : the user's literals are non-zero and within `1..n`
  (the blocking variables `n+1+i` are fresh) — completeness only;
* `weightsNonneg soft`          : the weights are `≥ 0` — soundness only.

The blocking variables are `n+1+i` throughout; there is no version for arbitrary fresh blocking
variables (`C04_MaxSatNew` has one for the unsigned pieces).
-/
namespace GS.MaxSatSigned
open GS GS.MaxSatEnc

theorem negSum_nonneg : ∀ ts : List (Int × Int), 0 ≤ negSum ts := by
  intro ts
  induction ts with
  | nil => simp [negSum]
  | cons t ts ih => simp only [negSum]; split <;> omega

theorem lhs_ge_negSum (a : Asg) : ∀ ts : List (Int × Int), -(negSum ts) ≤ lhs a ts := by
  intro ts
  induction ts with
  | nil => simp [negSum, lhs]
  | cons t ts ih =>
    simp only [negSum, lhs, termVal]
    split <;> split <;> omega

/-- `lhs + degree + negSum ≥ degree` because `lhs ≥ −negSum`. Pointwise in the assignment, so it
    needs neither `b` fresh, nor `b ≠ 0`, nor `0 < blockCoeff`. -/
theorem relaxS_sem (a : Asg) (c : Lin) (b : Int) :
    (relaxS c b).holds a = true ↔ (c.holds a = true ∨ litTrue a b = true) :=
  holds_blocking_iff a c (blockCoeff c) b (by have := lhs_ge_negSum a c.terms; unfold blockCoeff; omega)

/-- `relaxS_sem` under the condition on which `New` relaxes (the hypothesis is not used). -/
theorem relaxS_sem' (a : Asg) (c : Lin) (b : Int) (_h : 0 < blockCoeff c) :
    (relaxS c b).holds a = true ↔ (c.holds a = true ∨ litTrue a b = true) := relaxS_sem a c b

/-- So `New` is right to hand a soft constraint with `blockCoeff ≤ 0` to the solver unrelaxed and
    to charge nothing. -/
theorem trivial_of_blockCoeff_nonpos (a : Asg) (c : Lin) (h : blockCoeff c ≤ 0) :
    c.holds a = true := by
  rw [Lin.holds_iff]
  have := lhs_ge_negSum a c.terms
  unfold blockCoeff at h
  omega

/-- the counterexample `2·x1 − x2 ≥ 1` of `C04_MaxSat`: relaxed with coefficient `2`, the
    blocking literal alone satisfies it. -/
example :
    let c : Lin := ⟨[(2, 1), (-1, 2)], 1⟩
    let a : Asg := asgOf [false, true, true]
    blockCoeff c = 2 ∧ relaxS c 3 = ⟨[(2, 1), (-1, 2), (2, 3)], 1⟩ ∧
    litTrue a 3 = true ∧ (relaxS c 3).holds a = true := by decide +kernel

/-- `−x1 − x2 ≥ −2` has `blockCoeff = 0`: trivially true, never relaxed. -/
example : blockCoeff ⟨[(-1, 1), (-1, 2)], -2⟩ = 0 := by decide

theorem foldl_shift (cs : List Int) (x y : Int) :
    cs.foldl (fun acc k => if k < 0 then acc - k else acc) (x + y) =
      cs.foldl (fun acc k => if k < 0 then acc - k else acc) x + y := by
  induction cs generalizing x with
  | nil => rfl
  | cons k ks ih =>
    simp only [List.foldl_cons]
    split
    · rw [show x + y - k = (x - k) + y by omega, ih]
    · exact ih x

theorem foldl_negSum_zip : ∀ (cs ls : List Int) (d : Int), cs.length = ls.length →
    cs.foldl (fun acc k => if k < 0 then acc - k else acc) d = d + negSum (cs.zip ls) := by
  intro cs
  induction cs with
  | nil => intro ls d _; simp [negSum]
  | cons k ks ih =>
    intro ls d h
    cases ls with
    | nil => simp at h
    | cons l ls =>
      simp only [List.length_cons, Nat.add_right_cancel_iff] at h
      simp only [List.foldl_cons, List.zip_cons_cons, negSum]
      split
      · rw [ih ls (d - k) h]; omega
      · rw [ih ls d h]; omega

theorem negSum_ones : ∀ ls : List Int, negSum (ls.map (fun l => ((1 : Int), l))) = 0 := by
  intro ls
  induction ls with
  | nil => rfl
  | cons l ls ih => simp [negSum, ih]

theorem goBlockCoeff_eq (c : GoConstr) (l : Lin) (hl : c.toLin = some l) :
    goBlockCoeff c = blockCoeff l := by
  unfold goBlockCoeff blockCoeff
  rcases toLin_cases c l hl with ⟨hc, rfl⟩ | ⟨_, hlen, rfl⟩
  · simp [hc, negSum_ones]
  · exact foldl_negSum_zip c.coeffs c.lits c.atLeast hlen

theorem newSoftS_eq_softK (c : GoConstr) (bl : Int) :
    newSoftS c bl = if goBlockCoeff c > 0 then some (softK c bl (goBlockCoeff c)) else none := rfl

/-- For every `GtEq` call with a meaning (clause, cardinality constraint, or PB constraint with as
    many coefficients as literals), whatever the bound and the signs, `New` creates a blocking
    literal iff `0 < blockCoeff`, and what it then passes to `solver.GtEq` means `relaxS` of the
    constraint. -/
theorem newSoftS_toLin (c : GoConstr) (bl : Int) (l : Lin) (hl : c.toLin = some l) :
    (0 < blockCoeff l → ∃ r, newSoftS c bl = some r ∧ r.toLin = some (relaxS l bl)) ∧
    (blockCoeff l ≤ 0 → newSoftS c bl = none) := by
  have hbc := goBlockCoeff_eq c l hl
  rw [newSoftS_eq_softK, hbc]
  refine ⟨fun hpos => ⟨_, if_pos hpos, ?_⟩, fun hle => if_neg (by omega)⟩
  rw [relaxS, toLin_degree c l hl, ← hbc]
  refine softK_toLin c bl _ l hl fun h0 h1 => ?_
  -- a clause: `blockCoeff` is the bound, which is positive and not above 1
  have : goBlockCoeff c = c.atLeast := by unfold goBlockCoeff; rw [h0]; rfl
  omega

/-- soft PB `2·x1 − x2 ≥ 1`: blocking literal 3 with coefficient `1 + 1 = 2`. -/
example : newSoftS ⟨[1, 2], [2, -1], 1⟩ 3 = some ⟨[1, 2, 3], [2, -1, 2], 1⟩ := by decide
/-- soft cardinality `x1 + x2 + x3 ≥ 2`: explicit unit coefficients, then 2. -/
example : newSoftS ⟨[1, 2, 3], [], 2⟩ 4 = some ⟨[1, 2, 3, 4], [1, 1, 1, 2], 2⟩ := by decide
/-- a soft clause keeps `nil` coefficients. -/
example : newSoftS ⟨[1, -2], [], 1⟩ 3 = some ⟨[1, -2, 3], [], 1⟩ := by decide
/-- `nil` coefficients, bound 0, and `−x1 − x2 ≥ −2`: trivially true, no blocking literal. -/
example : newSoftS ⟨[1, 2], [], 0⟩ 3 = none ∧ newSoftS ⟨[1, 2], [-1, -1], -2⟩ 3 = none := by decide

/-- `encodeS` relaxes a soft constraint only when `0 < blockCoeff`, and charges nothing otherwise. -/
def signed (s : Soft) (b : Nat) : Piece :=
  if 0 < blockCoeff s.c then (relaxS s.c b, [(s.weight, (b : Int))]) else (s.c, [])

theorem encodeS_eq (n : Nat) (hard : Problem) (soft : List Soft) :
    encodeS n hard soft = encodeBy signed ((List.range soft.length).map (n + 1 + ·)) hard soft := by
  have : ∀ (ss : List Soft) (k : Nat),
      relaxFromS k ss = (List.zipWith signed ss (List.range' k ss.length)).map (·.1) ∧
      costFromS k ss = (List.zipWith signed ss (List.range' k ss.length)).flatMap (·.2) := by
    intro ss
    induction ss with
    | nil => exact fun _ => ⟨rfl, rfl⟩
    | cons s ss ih =>
      intro k
      simp only [relaxFromS, costFromS, List.length_cons, List.range'_succ, List.zipWith_cons_cons,
        List.map_cons, List.flatMap_cons, (ih (k + 1)).1, (ih (k + 1)).2, signed]
      split <;> exact ⟨rfl, rfl⟩
  simp only [encodeS, encodeBy, this, List.range'_eq_map_range]

theorem signed_complete (u e : Asg) (s : Soft) (b : Nat) (hc : s.c.holds e = s.c.holds u)
    (hb : litTrue e (b : Int) = !s.c.holds u) :
    (signed s b).1.holds e = true ∧ lhs e (signed s b).2 = if s.c.holds u = true then 0 else s.weight := by
  unfold signed
  split
  · exact blocked_complete u e s.c s.weight (blockCoeff s.c) b
      (by have := lhs_ge_negSum e s.c.terms; unfold blockCoeff; omega) hc hb
  · -- not relaxed: the constraint holds under every assignment and nothing is charged
    rw [trivial_of_blockCoeff_nonpos u s.c (by omega)]
    exact ⟨trivial_of_blockCoeff_nonpos e s.c (by omega), rfl⟩

theorem signed_sound (a : Asg) (s : Soft) (b : Nat) (hw : 0 ≤ s.weight)
    (h : (signed s b).1.holds a = true) :
    (if s.c.holds a = true then 0 else s.weight) ≤ lhs a (signed s b).2 := by
  by_cases hpos : 0 < blockCoeff s.c
  · rw [signed, if_pos hpos] at h ⊢
    exact blocked_sound a s.c s.weight (blockCoeff s.c) b hw h
  · rw [trivial_of_blockCoeff_nonpos a s.c (by omega), signed, if_neg hpos]
    exact Int.le_refl 0

theorem encodingS_complete (n : Nat) (hard : Problem) (soft : List Soft) (u : Asg)
    (hwH : hard.wf n = true) (hwS : softWf n soft = true)
    (hu : Problem.holds u hard = true) :
    Problem.holds (extend n u soft) (encodeS n hard soft).1 = true ∧
    cost (encodeS n hard soft).2 (extend n u soft) = violated u soft ∧
    (∀ v, v ≤ n → extend n u soft v = u v) := by
  rw [encodeS_eq]
  exact and_assoc.1 ⟨extend_complete n hard soft u hwH hwS hu fun s _ b e => signed_complete u e s b,
    extend_user n u soft⟩

theorem encodingS_sound (n : Nat) (hard : Problem) (soft : List Soft) (a : Asg)
    (hwt : weightsNonneg soft = true)
    (ha : Problem.holds a (encodeS n hard soft).1 = true) :
    Problem.holds a hard = true ∧ violated a soft ≤ cost (encodeS n hard soft).2 a := by
  rw [encodeS_eq] at ha ⊢
  exact encodeBy_sound a hard soft _ (by rw [List.length_map, List.length_range])
    (fun s hs b => signed_sound a s b (of_decide_eq_true (List.all_eq_true.1 hwt s hs))) ha

theorem encodedS_sat_iff (n : Nat) (hard : Problem) (soft : List Soft)
    (hwH : hard.wf n = true) (hwS : softWf n soft = true) :
    Satisfiable (encodeS n hard soft).1 ↔ Satisfiable hard :=
  sat_append_iff fun u hu => (encodingS_complete n hard soft u hwH hwS hu).1

/-- C04 for `encodeS`: `MaxSatEnc.optimum_transfer` without `softNonneg`. -/
theorem optimumS_transfer (n : Nat) (hard : Problem) (soft : List Soft) (a u : Asg)
    (hwH : hard.wf n = true) (hwS : softWf n soft = true)
    (hwt : weightsNonneg soft = true)
    (hopt : IsOptimum (encodeS n hard soft).1 (encodeS n hard soft).2 a)
    (hu : ∀ v, 1 ≤ v → v ≤ n → u v = a v) :
    IsMaxSatOpt hard soft u ∧ cost (encodeS n hard soft).2 a = violated u soft ∧
    (∀ b, Problem.holds b hard = true → cost (encodeS n hard soft).2 a ≤ violated b soft) :=
  transfer_of (fun b hb => have h := encodingS_complete n hard soft b hwH hwS hb; ⟨h.1, h.2.1⟩)
    (fun b => encodingS_sound n hard soft b hwt) a u hopt
    (Problem.holds_congr u a n hu hard hwH) (violated_congr u a n hu soft hwS)

theorem optimumS_transfer_conv (n : Nat) (hard : Problem) (soft : List Soft) (u : Asg)
    (hwH : hard.wf n = true) (hwS : softWf n soft = true)
    (hwt : weightsNonneg soft = true) (hopt : IsMaxSatOpt hard soft u) :
    IsOptimum (encodeS n hard soft).1 (encodeS n hard soft).2 (extend n u soft) :=
  transfer_conv_of (fun b hb => have h := encodingS_complete n hard soft b hwH hwS hb; ⟨h.1, h.2.1⟩)
    (fun b => encodingS_sound n hard soft b hwt) u hopt

/-- hypotheses of the transfer theorems met by an instance with coefficients of both signs:
    hard `x1 ∨ x2`; soft `2·x1 − x2 ≥ 1` (weight 3, relaxed with `2·x4`), soft
    `−x1 − x2 − x3 ≥ −3` (weight 2, `blockCoeff = 0`: not relaxed, variable 5 unused), soft
    `−2·x1 + 3·¬x3 + 0·x2 ≥ 2` (weight 1, relaxed with `4·x6`). -/
example :
    let hard : Problem := [Lin.ofClause [1, 2]]
    let soft : List Soft := [⟨3, ⟨[(2, 1), (-1, 2)], 1⟩⟩, ⟨2, ⟨[(-1, 1), (-1, 2), (-1, 3)], -3⟩⟩,
      ⟨1, ⟨[(-2, 1), (3, -3), (0, 2)], 2⟩⟩]
    hard.wf 3 = true ∧ softWf 3 soft = true ∧ weightsNonneg soft = true ∧
    encodeS 3 hard soft =
      ([⟨[(1, 1), (1, 2)], 1⟩, ⟨[(2, 1), (-1, 2), (2, 4)], 1⟩, ⟨[(-1, 1), (-1, 2), (-1, 3)], -3⟩,
        ⟨[(-2, 1), (3, -3), (0, 2), (4, 6)], 2⟩], [(3, 4), (1, 6)]) := by decide +kernel

/-- The witness against `encoded_sat_iff` without `softNonneg` (hard `¬x1`, `x2`; soft
    `2·x1 − x2 ≥ 1`, weight 1): with `encodeS`, encoded optimum = MaxSAT optimum = 1. -/
example :
    let hard : Problem := [Lin.ofClause [-1], Lin.ofClause [2]]
    let soft : List Soft := [⟨1, ⟨[(2, 1), (-1, 2)], 1⟩⟩]
    bruteMaxSat 2 hard soft = some 1 ∧
    bruteOpt 3 (encodeS 2 hard soft).1 (encodeS 2 hard soft).2 = some 1 := by decide +kernel

/-! ### the remaining hypotheses are necessary: witnesses -/

/-- Negative weight: soft `x1` of weight `-1`: `x1 = true, b = true` is an encoded optimum (cost
    `-1`) that violates weight `0`, whereas the MaxSAT minimum is `-1`. -/
example :
    let soft : List Soft := [⟨-1, Lin.ofClause [1]⟩]
    let a : Asg := asgOf [true, true]
    Problem.holds a (encodeS 1 [] soft).1 = true ∧ cost (encodeS 1 [] soft).2 a = -1 ∧
    violated a soft = 0 ∧ bruteMaxSat 1 [] soft = some (-1) := by decide +kernel

/-- Literal outside `1..n`: the blocking variable `n+1 = 2` collides with the user's `x2`. -/
example :
    let hard : Problem := [Lin.ofClause [2]]
    let soft : List Soft := [⟨1, Lin.ofClause [1]⟩]
    bruteOpt 2 (encodeS 1 hard soft).1 (encodeS 1 hard soft).2 = some 1 ∧
    bruteMaxSat 2 hard soft = some 0 := by decide +kernel

#print axioms lhs_ge_negSum
#print axioms relaxS_sem
#print axioms trivial_of_blockCoeff_nonpos
#print axioms newSoftS_toLin
#print axioms encodingS_complete
#print axioms encodingS_sound
#print axioms encodedS_sat_iff
#print axioms optimumS_transfer
#print axioms optimumS_transfer_conv

end GS.MaxSatSigned
