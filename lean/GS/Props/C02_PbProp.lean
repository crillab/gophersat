import GS.Model.PbProp
import GS.Spec.LitSum
import GS.Props.C02_PbPropSwap
/-!
# C02 — propagation of one cardinality / pseudo-boolean constraint (mirror `GS.PbProp` of `watcher.go`)

One call of `simplifyCardConstr`, `simplifyCardAMOConstr` or `simplifyPseudoBool` on one constraint (any
sizes, duplicate variables allowed unless said otherwise):
* (a) a `false` answer means the constraint is false under every total assignment extending the one at the
  call (`card_conflict_sound`, `amo_conflict_sound`, `pb_conflict_sound`);
* (b) every literal handed to `propagateUnit` is `Forced` w.r.t. the assignment at the call
  (`card_propagated_forced`, `amo_propagated_forced`, `pb_propagated_forced`).  Hypotheses: `lvl > 0`; for
  PB weights `≥ 1` (`pb_zero_weight_not_forced`) and as many weights as literals (also in (a) for PB, with
  `lvl > 0`: the conflict may follow propagations of the same call); for AMO `card = len − 1` (also in
  (a)) and one literal false (`amo_unsound_without_false`);
* (c) no panic, termination: `card_no_panic` (distinct variables — `card_panics_on_duplicate_variable` —,
  `0 ≤ card < len`, first `card+1` positions watched), `pb_no_panic` (as many weights and flags as
  literals, `lvl ≠ 0`: at level 0 the `for foundUnit` loop never ends, `pb_loops_at_level_zero`);
* completeness at a total assignment (`card_true_of_total`, `pb_true_of_total`); unit-propagation strength
  (`card_up_strength`); on the watch side `swapFalse_ok_and_watches`, `pb_no_missed_conflict`; the invariant
  across calls and backjumps is in `GS.Props.C02_PbPropWatch`.
The witnesses `card_panics_on_duplicate_variable`, `pb_zero_weight_not_forced`, `amo_unsound_without_false`
are replayed on the Go code by `harness/x_pbprop.go`.

Idea of the proofs.  `lhs`, `wNF`, `wT`, `cnt` are all sums `litSum` (`GS.Spec.LitSum`) of the weights of
the terms whose literal passes a test; a cardinality constraint is the pseudo-boolean constraint with
weights `1` (`ones`).  Every loop of the mirror has its outcome in one statement `Res.Spec`, proved by one
induction.  Every propagation loop is a run `Steps` of `propagateUnit` calls for its own test; soundness is
proved once about `Steps`, for the test `Short` of the constraint (`nbUnb + nbTrue == card` with weights
`1`; `Weight(i) > slack`, i.e. `Σ_{not false} w − w(lit) < card` under the assignment at the start of the
pass).  A call of `simplifyCardConstr` ends in one of the four ways `CardEnd`, a call of
`simplifyPseudoBool` is such a run followed by a last round `PbEnd`; the theorems here and in the
`C02_PbProp*` files are read off these.
-/
namespace GS.PbProp
open GS

/-- The outcome of a mirrored function, in one statement: every value it returns satisfies `Q`, with or without
    the precondition `P`, and under `P` it returns one (no panic, enough fuel).  A conclusion that needs a piece
    of `P` carries it inside `Q` as a hypothesis (`uwLoop1_spec`, `updateWatchPB_spec`).  Reducible: on `.ok a` it
    is `Q a`, on `.panic` and `.fuel` it is `¬ P`, which is how the end cases of a loop are proved. -/
@[reducible] def Res.Spec {α : Type} (P : Prop) (Q : α → Prop) : Res α → Prop
  | .ok a => Q a
  | _ => ¬ P

namespace Res.Spec
variable {α : Type} {P P' : Prop} {Q Q' : α → Prop} {r : Res α}

theorem imp (h : r.Spec P Q) (hp : P' → P) (hq : ∀ a, Q a → Q' a) : r.Spec P' Q' := by
  cases r with
  | ok a => exact hq a h
  | panic => exact fun h' => h (hp h')
  | fuel => exact fun h' => h (hp h')

theorem of_ok {a : α} (h : r.Spec P Q) (e : r = .ok a) : Q a := by subst e; exact h
theorem of_panic (h : r.Spec P Q) (e : r = .panic) : ¬ P := by subst e; exact h
theorem of_fuel (h : r.Spec P Q) (e : r = .fuel) : ¬ P := by subst e; exact h

theorem bind_pure {β : Type} {f : α → β} {Q : β → Prop} (h : r.Spec P fun a => Q (f a)) :
    (r >>= fun a => pure (f a)).Spec P Q := by
  cases r <;> exact h

theorem of_total {Q' : α → Prop} (ht : P → ∃ a, r = .ok a ∧ Q' a) (hq : ∀ a, r = .ok a → Q a) : r.Spec P Q := by
  cases r with
  | ok a => exact hq a rfl
  | panic => exact fun hp => let ⟨_, h, _⟩ := ht hp; nomatch h
  | fuel => exact fun hp => let ⟨_, h, _⟩ := ht hp; nomatch h

theorem total (h : r.Spec P Q) (hp : P) : ∃ a, r = .ok a ∧ Q a := by
  cases r with
  | ok a => exact ⟨a, rfl, h⟩
  | panic => exact absurd hp h
  | fuel => exact absurd hp h

end Res.Spec

/-- The total assignment `a` extends the partial one `m` (signed levels, `0` unbound).  That a partial
    assignment `m'` extends `m` has no name: it is written `∀ v, m v ≠ 0 → m' v = m v`, and is what `_of_ext`
    and `.ext` in lemma names refer to. -/
def Ext (a : Asg) (m : Nat → Int) : Prop := ∀ v, (m v > 0 → a v = true) ∧ (m v < 0 → a v = false)

/-- `Σ wᵢ·[litᵢ] ≥ card` (terms as in `GS.Lin`: `(weight, literal)`). -/
def PbHolds (a : Asg) (ws ls : List Int) (card : Int) : Prop := card ≤ lhs a (ws.zip ls)

/-- "at least `card` of `ls` are true" = `Lin.ofCard ls card`. -/
def CardHolds (a : Asg) (ls : List Int) (card : Int) : Prop := card ≤ lhs a (ls.map (fun l => ((1 : Int), l)))

theorem cardHolds_iff (a : Asg) (ls : List Int) (card : Int) :
    CardHolds a ls card ↔ (Lin.ofCard ls card).holds a = true :=
  (Lin.holds_iff a (Lin.ofCard ls card)).symm

theorem pbHolds_iff (a : Asg) (ws ls : List Int) (card : Int) :
    PbHolds a ws ls card ↔ (Lin.holds a ⟨ws.zip ls, card⟩) = true :=
  (Lin.holds_iff a ⟨ws.zip ls, card⟩).symm

/-- The terms of a cardinality constraint.  `CardHolds a ls card` is `card ≤ lhs a (ones ls)` and
    `Lin.ofCard ls card` is `⟨ones ls, card⟩`, both by `rfl`: the proofs pass between these forms without a step. -/
def ones (ls : List Int) : List (Int × Int) := ls.map fun l => ((1 : Int), l)

theorem litSum_ones_cons (p : Int → Bool) (l : Int) (ls : List Int) :
    litSum p (ones (l :: ls)) = (if p l then 1 else 0) + litSum p (ones ls) := rfl

theorem ones_nonneg (ls : List Int) : ∀ t ∈ ones ls, 0 ≤ t.1 := by
  intro t ht
  obtain ⟨l, _, rfl⟩ := List.mem_map.1 ht
  exact Int.le_of_lt Int.one_pos

theorem mem_ones {l : Int} {ls : List Int} (h : l ∈ ls) : ((1 : Int), l) ∈ ones ls :=
  List.mem_map.2 ⟨l, h, rfl⟩

theorem lit_mem_of_mem_ones {t : Int × Int} {ls : List Int} (h : t ∈ ones ls) : t.2 ∈ ls := by
  obtain ⟨l, hl, rfl⟩ := List.mem_map.1 h
  exact hl

def Forced (m0 : Nat → Int) (C : Asg → Prop) (l : Int) : Prop := ∀ a, Ext a m0 → C a → litTrue a l = true

/-- Flag a position should carry: watched iff not false. -/
def nfFlag (m : Nat → Int) (l : Int) : Bool := litStatus m l != .unsat

theorem status_indet_iff {m : Nat → Int} {l : Int} : litStatus m l = .indet ↔ m l.natAbs = 0 := by
  unfold litStatus
  by_cases h : m l.natAbs = 0
  · simp only [h, if_true]
  · simp only [h, if_false, iff_false]; split <;> exact Status.noConfusion

theorem status_of_bound {m : Nat → Int} {l : Int} (h : m l.natAbs ≠ 0) :
    litStatus m l = if decide (m l.natAbs > 0) = decide (l > 0) then .sat else .unsat := by
  unfold litStatus; rw [if_neg h]

theorem litTrue_of_bound {a : Asg} {m : Nat → Int} (h : Ext a m) {l : Int} (h0 : litStatus m l ≠ .indet) :
    litTrue a l = (litStatus m l == .sat) := by
  have h0 : m l.natAbs ≠ 0 := fun e => h0 (status_indet_iff.2 e)
  rw [status_of_bound h0]
  unfold litTrue
  by_cases hm : m l.natAbs > 0
  · by_cases hl : l > 0 <;> simp [hl, hm, (h l.natAbs).1 hm]
  · by_cases hl : l > 0 <;> simp [hl, hm, (h l.natAbs).2 (by omega)]

theorem status_sat {a : Asg} {m : Nat → Int} (h : Ext a m) {l : Int} (hs : litStatus m l = .sat) :
    litTrue a l = true := by
  rw [litTrue_of_bound h (by rw [hs]; exact Status.noConfusion), hs]; rfl

theorem status_unsat {a : Asg} {m : Nat → Int} (h : Ext a m) {l : Int} (hs : litStatus m l = .unsat) :
    litTrue a l = false := by
  rw [litTrue_of_bound h (by rw [hs]; exact Status.noConfusion), hs]; rfl

theorem status_of_ext {m m' : Nat → Int} (hext : ∀ v, m v ≠ 0 → m' v = m v) {l : Int}
    (h : litStatus m l ≠ .indet) : litStatus m' l = litStatus m l := by
  have h0 : m l.natAbs ≠ 0 := fun h0 => h (status_indet_iff.2 h0)
  rw [status_of_bound h0, status_of_bound (by rw [hext _ h0]; exact h0), hext _ h0]

theorem nfFlag_eq_false {m : Nat → Int} {l : Int} : nfFlag m l = false ↔ litStatus m l = .unsat := by
  simp [nfFlag]

theorem nfFlag_eq_true {m : Nat → Int} {l : Int} : nfFlag m l = true ↔ litStatus m l ≠ .unsat := by
  simp [nfFlag]

theorem nfFlag_of_litTrue {a : Asg} {m : Nat → Int} (h : Ext a m) {l : Int} (ht : litTrue a l = true) :
    nfFlag m l = true := by
  cases hn : nfFlag m l
  · rw [status_unsat h (nfFlag_eq_false.1 hn)] at ht; cases ht
  · rfl

theorem nfFlag_of_ext {m m' : Nat → Int} (hext : ∀ v, m v ≠ 0 → m' v = m v) {l : Int}
    (h : nfFlag m' l = true) : nfFlag m l = true := by
  cases hn : nfFlag m l
  · have hu := nfFlag_eq_false.1 hn
    rw [nfFlag, status_of_ext hext (by rw [hu]; exact Status.noConfusion), hu] at h; cases h
  · rfl

/-- Total weight of the positions whose literal is not false. -/
def wNF (m : Nat → Int) : List Int → List Int → Int
  | w :: ws, l :: ls => (if litStatus m l = .unsat then 0 else w) + wNF m ws ls
  | _, _ => 0

/-- Total weight of the positions whose literal is true. -/
def wT (m : Nat → Int) : List Int → List Int → Int
  | w :: ws, l :: ls => (if litStatus m l = .sat then w else 0) + wT m ws ls
  | _, _ => 0

def cnt (m : Nat → Int) (s : Status) : List Int → Int
  | [] => 0
  | l :: ls => (if litStatus m l = s then 1 else 0) + cnt m s ls

theorem cnt_cons (m : Nat → Int) (s : Status) (l : Int) (ls : List Int) :
    cnt m s (l :: ls) = (if litStatus m l = s then 1 else 0) + cnt m s ls := rfl

theorem wNF_eq_litSum (m : Nat → Int) : ∀ ws ls : List Int, wNF m ws ls = litSum (nfFlag m) (ws.zip ls)
  | [], _ => by simp only [wNF, List.zip_nil_left, litSum]
  | _ :: _, [] => by simp only [wNF, List.zip_nil_right, litSum]
  | w :: ws, l :: ls => by
    simp only [wNF, List.zip_cons_cons, litSum, nfFlag, wNF_eq_litSum m ws ls]
    by_cases h : litStatus m l = .unsat <;> simp [h]

theorem wT_eq_litSum (m : Nat → Int) :
    ∀ ws ls : List Int, wT m ws ls = litSum (fun l => litStatus m l == .sat) (ws.zip ls)
  | [], _ => by simp only [wT, List.zip_nil_left, litSum]
  | _ :: _, [] => by simp only [wT, List.zip_nil_right, litSum]
  | w :: ws, l :: ls => by
    simp only [wT, List.zip_cons_cons, litSum, wT_eq_litSum m ws ls, beq_iff_eq]

theorem cnt_eq_litSum (m : Nat → Int) (s : Status) :
    ∀ ls : List Int, cnt m s ls = litSum (fun l => litStatus m l == s) (ones ls)
  | [] => rfl
  | l :: ls => by
    simp only [cnt, ones, List.map_cons, litSum, beq_iff_eq]
    rw [cnt_eq_litSum m s ls, ones]

theorem cnt_nonneg (m : Nat → Int) (s : Status) (ls : List Int) : 0 ≤ cnt m s ls := by
  rw [cnt_eq_litSum]; exact litSum_nonneg _ (ones_nonneg ls)

theorem cnt_total (m : Nat → Int) (ls : List Int) :
    cnt m .sat ls + cnt m .unsat ls + cnt m .indet ls = ls.length := by
  induction ls with
  | nil => rfl
  | cons l ls ih =>
    simp only [cnt, List.length_cons]
    cases litStatus m l <;> simp <;> omega

theorem nf_ones (m : Nat → Int) (ls : List Int) :
    litSum (nfFlag m) (ones ls) = cnt m .sat ls + cnt m .indet ls := by
  induction ls with
  | nil => rfl
  | cons l ls ih =>
    rw [litSum_ones_cons, ih, cnt_cons, cnt_cons, nfFlag]
    cases litStatus m l <;> simp <;> omega

theorem zip_nonneg {ws ls : List Int} (h : ∀ w ∈ ws, 0 ≤ w) : ∀ t ∈ ws.zip ls, 0 ≤ t.1 :=
  fun t ht => h t.1 (List.of_mem_zip ht).1

theorem lhs_le_nf {a : Asg} {m : Nat → Int} (h : Ext a m) {ts : List (Int × Int)}
    (hnn : ∀ t ∈ ts, 0 ≤ t.1) : lhs a ts ≤ litSum (nfFlag m) ts := by
  rw [lhs_eq_litSum]; exact litSum_mono hnn fun _ _ => nfFlag_of_litTrue h

theorem sat_mono {m m' : Nat → Int} (hext : ∀ v, m v ≠ 0 → m' v = m v) {ts : List (Int × Int)}
    (hnn : ∀ t ∈ ts, 0 ≤ t.1) :
    litSum (fun l => litStatus m l == .sat) ts ≤ litSum (fun l => litStatus m' l == .sat) ts :=
  litSum_mono hnn fun t _ h => by
    rw [beq_iff_eq] at h ⊢
    rw [status_of_ext hext (by rw [h]; exact Status.noConfusion), h]

theorem nf_le_sat_of {m m' : Nat → Int} {ts : List (Int × Int)} (hnn : ∀ t ∈ ts, 0 ≤ t.1)
    (h : ∀ t ∈ ts, litStatus m t.2 ≠ .unsat → litStatus m' t.2 = .sat) :
    litSum (nfFlag m) ts ≤ litSum (fun l => litStatus m' l == .sat) ts :=
  litSum_mono hnn fun t ht hn => beq_iff_eq.2 (h t ht (nfFlag_eq_true.1 hn))

/-- At a total assignment the terms that are not false are the true ones, whatever the sign of the weights. -/
theorem holds_of_total {a : Asg} {m : Nat → Int} (ha : Ext a m) {ts : List (Int × Int)} {card : Int}
    (htot : ∀ t ∈ ts, m t.2.natAbs ≠ 0) (h : card ≤ litSum (nfFlag m) ts) : card ≤ lhs a ts := by
  rw [lhs_eq_litSum, ← litSum_congr (p := nfFlag m) fun t ht => ?_]
  · exact h
  · have h0 := mt status_indet_iff.1 (htot t ht)
    rw [litTrue_of_bound ha h0, nfFlag]
    cases hs : litStatus m t.2
    · exact absurd hs h0
    · rfl
    · rfl

/-- An unbound literal `l` of weight `w` is true in every model of the constraint that extends `m` when the
    terms that are not false, without `w`, fall short of `card`.  Both `simplifyCardConstr`
    (`nbUnb + nbTrue == card`, weights `1`) and `simplifyPseudoBool` (`Weight(i) > slack`) test this. -/
theorem forced_of_short {a : Asg} {m : Nat → Int} {ts : List (Int × Int)} {card w l : Int}
    (hnn : ∀ t ∈ ts, 0 ≤ t.1) (ha : Ext a m) (hc : card ≤ lhs a ts) (hm : (w, l) ∈ ts)
    (hu : m l.natAbs = 0) (hw : litSum (nfFlag m) ts < card + w) : litTrue a l = true := by
  cases hlt : litTrue a l
  · have hnf : nfFlag m l = true := by rw [nfFlag, status_indet_iff.2 hu]; rfl
    have := litSum_mono_lt hnn (fun _ _ => nfFlag_of_litTrue ha) hm hlt hnf
    rw [← lhs_eq_litSum] at this
    omega
  · rfl

/-- What the counting loop of `simplifyCardConstr` says by the way it ends, in terms of the numbers `T`, `U` of
    true and unbound literals it would have counted at the end of the constraint and of the number `g` of
    literals that are not known to be false when it starts: `card` literals true; fewer than `card` not false;
    with `u + t = card` exactly `card` not false and `u` of them unbound; otherwise, if `card ≤ g` at the start,
    more than `card` not false. -/
def CountSpec (card T U g : Int) : CountRes → Prop
  | .sat => card ≤ T
  | .confl => T + U < card
  | .fin t _ u => (u + t = card → T + U = card ∧ u = U) ∧ (¬ u + t = card → card ≤ g → card + 1 ≤ T + U)

/-- A false literal counted in front, without a conflict. -/
theorem CountSpec.of_le {card T U g g' : Int} {r : CountRes} (hf : card ≤ g')
    (h : CountSpec card T U g' r) : CountSpec card T U g r := by
  cases r with
  | sat => exact h
  | confl => exact h
  | fin t' f' u' => exact ⟨h.1, fun hne _ => h.2 hne hf⟩

theorem countLoop_spec {m : Nat → Int} {len card : Int} (ls : List Int) (t f u : Int) :
    t + f + u + ls.length = len →
    CountSpec card (t + cnt m .sat ls) (u + cnt m .indet ls) (len - f) (countLoop m len card ls t f u) := by
  fun_induction countLoop m len card ls t f u
  -- the end of the constraint: everything is counted and `t + u = len - f`
  case case1 => simp only [CountSpec, cnt, List.length_nil]; omega
  -- `break`: more than `card` literals are not false already
  case case2 ls t f u hs hc =>
    have := cnt_nonneg m .sat ls; have := cnt_nonneg m .indet ls
    simp only [CountSpec, cnt_cons, hs, reduceCtorEq, if_true, if_false]; omega
  case case3 hs _ ih =>
    intro hlen
    simpa only [cnt_cons, hs, reduceCtorEq, if_true, if_false, Int.zero_add, Int.add_assoc] using
      ih (by simp only [List.length_cons] at hlen; omega)
  case case4 ls t f u hs h1 =>
    have := cnt_nonneg m .sat ls
    simp only [CountSpec, cnt_cons, hs, if_true]; omega
  case case5 ls t f u hs _ hc =>
    have := cnt_nonneg m .sat ls; have := cnt_nonneg m .indet ls
    simp only [CountSpec, cnt_cons, hs, reduceCtorEq, if_true, if_false]; omega
  case case6 hs _ _ ih =>
    intro hlen
    simpa only [cnt_cons, hs, reduceCtorEq, if_true, if_false, Int.zero_add, Int.add_assoc] using
      ih (by simp only [List.length_cons] at hlen; omega)
  case case7 ls t f u hs h1 =>
    -- were every literal behind this one not false, fewer than `card` would be
    have := cnt_nonneg m .unsat ls; have := cnt_total m ls
    simp only [CountSpec, cnt_cons, hs, reduceCtorEq, if_false, List.length_cons]; omega
  case case8 ls t f u hs h1 hc =>
    have := cnt_nonneg m .sat ls; have := cnt_nonneg m .indet ls
    simp only [CountSpec, cnt_cons, hs, reduceCtorEq, if_false]; omega
  case case9 hs h1 _ ih =>
    intro hlen
    exact CountSpec.of_le (Int.not_lt.1 h1)
      (by simpa only [cnt_cons, hs, reduceCtorEq, if_true, if_false, Int.zero_add, Int.add_assoc] using
        ih (by simp only [List.length_cons] at hlen; omega))

theorem countLoop_top (m : Nat → Int) (card : Int) (ls : List Int) :
    CountSpec card (cnt m .sat ls) (cnt m .indet ls) ls.length (countLoop m ls.length card ls 0 0 0) := by
  simpa only [Int.zero_add, Int.sub_zero] using countLoop_spec (m := m) (card := card) ls 0 0 0 (by omega)

/-- `m` is reached from `m0` by binding unbound variables to literals forced by `C`. -/
def Inv (m0 m : Nat → Int) (C : Asg → Prop) : Prop :=
  (∀ v, m0 v ≠ 0 → m v = m0 v) ∧ (∀ a, Ext a m0 → C a → Ext a m)

theorem inv_refl (m0 : Nat → Int) (C : Asg → Prop) : Inv m0 m0 C :=
  ⟨fun _ _ => rfl, fun _ h _ => h⟩

theorem signedLvl_ne_zero {l lvl : Int} (h : lvl ≠ 0) : signedLvl l lvl ≠ 0 := by
  unfold signedLvl; split <;> omega

theorem bind_self (m : Nat → Int) (l lvl : Int) : bind m l lvl l.natAbs = signedLvl l lvl := if_pos rfl

theorem bind_of_ne {m : Nat → Int} {l lvl : Int} {v : Nat} (h : v ≠ l.natAbs) : bind m l lvl v = m v :=
  if_neg h

theorem bind_of_bound {m : Nat → Int} {l lvl : Int} (hu : m l.natAbs = 0) :
    ∀ v, m v ≠ 0 → bind m l lvl v = m v :=
  fun _ hv => bind_of_ne fun h => hv (h ▸ hu)

theorem ext_bind {a : Asg} {m : Nat → Int} {l lvl : Int} (h : Ext a m) (hlvl : 0 < lvl)
    (ht : litTrue a l = true) : Ext a (bind m l lvl) := by
  intro v
  by_cases hv : v = l.natAbs
  · subst hv
    rw [bind_self]
    unfold signedLvl
    unfold litTrue at ht
    by_cases hl : l > 0
    · simp only [hl, if_true] at ht ⊢; exact ⟨fun _ => ht, fun h' => by omega⟩
    · simp only [hl, if_false, Bool.not_eq_true'] at ht ⊢; exact ⟨fun h' => by omega, fun _ => ht⟩
  · rw [bind_of_ne hv]; exact h v

/-- The state after the literals `ps` have been handed to `propagateUnit`, `m'` the assignment they leave:
    nothing else changes, so lengths, weights and flags of `st.after m' ps` are those of `st` by computation. -/
@[reducible] def St.after (st : St) (m' : Nat → Int) (ps : List Int) : St :=
  { st with m := m', props := st.props ++ ps }

theorem St.after_nil (st : St) : st.after st.m [] = st := by
  cases st; simp only [St.after, List.append_nil]

theorem St.after_propagateUnit (st : St) (lvl l : Int) (m' : Nat → Int) (ps : List Int) :
    (propagateUnit st lvl l).after m' ps = st.after m' (l :: ps) := by
  simp only [St.after, propagateUnit, List.append_assoc, List.singleton_append]

/-- The propagation test as the Go code applies it: under an assignment `m1` that `m` extends (the slack is
    computed at the start of a pass, bindings follow), `l` passes the test of `Σ ts ≥ card` (`forced_of_short`). -/
def Short (ts : List (Int × Int)) (card : Int) (m : Nat → Int) (l : Int) : Prop :=
  ∃ w m1, (w, l) ∈ ts ∧ (∀ v, m1 v ≠ 0 → m v = m1 v) ∧ litSum (nfFlag m1) ts < card + w

theorem Short.lt {ts : List (Int × Int)} {card : Int} {m : Nat → Int} {l : Int} (h : Short ts card m l)
    (hnn : ∀ t ∈ ts, 0 ≤ t.1) : ∃ w, (w, l) ∈ ts ∧ litSum (nfFlag m) ts < card + w :=
  let ⟨w, _, hm, hext, hw⟩ := h
  ⟨w, hm, Int.lt_of_le_of_lt (litSum_mono hnn fun _ _ => nfFlag_of_ext hext) hw⟩

theorem ext_bind_of_ext {m1 m : Nat → Int} {l : Int} (lvl : Int) (hext : ∀ v, m1 v ≠ 0 → m v = m1 v)
    (hu : m l.natAbs = 0) : ∀ v, m1 v ≠ 0 → bind m l lvl v = m1 v :=
  fun v hv => (bind_of_bound hu v (by rw [hext v hv]; exact hv)).trans (hext v hv)

/-- What every propagation loop does.  `Steps lvl G st ps st'`: `st'` comes from `st` by handing the literals
    `ps`, in order, to `propagateUnit`, each of them unbound and passing the test `G` in the state in which it
    is handed over.  A loop is such a run for its own test (`Weight(i) > slack`, or none), a call for `Short`
    (`Steps.short`); what a call does to the assignment, the trail and the abstract trail machine is proved
    about `Steps`, not loop by loop. -/
inductive Steps (lvl : Int) (G : (Nat → Int) → Int → Prop) : St → List Int → St → Prop
  | nil (st : St) : Steps lvl G st [] st
  | cons {st st' : St} {l : Int} {ps : List Int} : st.m l.natAbs = 0 → G st.m l →
      Steps lvl G (propagateUnit st lvl l) ps st' → Steps lvl G st (l :: ps) st'

namespace Steps
variable {lvl card : Int} {ts : List (Int × Int)} {G : (Nat → Int) → Int → Prop}

theorem trans {st st1 st' : St} {ps ps' : List Int} (h1 : Steps lvl G st ps st1)
    (h2 : Steps lvl G st1 ps' st') : Steps lvl G st (ps ++ ps') st' := by
  induction h1 with
  | nil => exact h2
  | cons hu hg _ ih => exact cons hu hg (ih h2)

theorem after {st st' : St} {ps : List Int} (h : Steps lvl G st ps st') : ∃ m', st' = st.after m' ps := by
  induction h with
  | nil st => exact ⟨st.m, (St.after_nil st).symm⟩
  | cons _ _ _ ih => exact let ⟨m', e⟩ := ih; ⟨m', e.trans (St.after_propagateUnit ..)⟩

theorem ext {st st' : St} {ps : List Int} (h : Steps lvl G st ps st') :
    ∀ v, st.m v ≠ 0 → st'.m v = st.m v := by
  induction h with
  | nil => exact fun _ _ => rfl
  | @cons st _ l _ hu _ _ ih =>
    intro v hv
    have h1 : (propagateUnit st lvl l).m v = st.m v := bind_of_bound hu v hv
    rw [ih v (by rw [h1]; exact hv), h1]

theorem bound {st st' : St} {ps : List Int} (h : Steps lvl G st ps st') {v : Nat} (hv : st.m v ≠ 0) :
    st'.m v ≠ 0 := by
  rw [h.ext v hv]; exact hv

theorem short {P : Int → Prop} {st st' : St} {ps : List Int} (h : Steps lvl (fun _ => P) st ps st')
    {m1 : Nat → Int} (hP : ∀ l, P l → ∃ w, (w, l) ∈ ts ∧ litSum (nfFlag m1) ts < card + w) :
    (∀ v, m1 v ≠ 0 → st.m v = m1 v) → Steps lvl (Short ts card) st ps st' := by
  induction h with
  | nil => exact fun _ => .nil _
  | cons hu hp _ ih =>
    exact fun hext => let ⟨w, hm, hw⟩ := hP _ hp; .cons hu ⟨w, m1, hm, hext, hw⟩ (ih (ext_bind_of_ext lvl hext hu))

theorem sound {st st' : St} {ps : List Int} (h : Steps lvl (Short ts card) st ps st') (hlvl : 0 < lvl)
    (hnn : ∀ t ∈ ts, 0 ≤ t.1) {m0 : Nat → Int} :
    Inv m0 st.m (fun a => card ≤ lhs a ts) → (∀ l ∈ st.props, Forced m0 (fun a => card ≤ lhs a ts) l) →
    Inv m0 st'.m (fun a => card ≤ lhs a ts) ∧ ∀ l ∈ st'.props, Forced m0 (fun a => card ≤ lhs a ts) l := by
  induction h with
  | nil => exact fun hI hP => ⟨hI, hP⟩
  | @cons st _ l _ hu hg _ ih =>
    intro hI hP
    obtain ⟨w, hm, hw⟩ := hg.lt hnn
    have hf : Forced m0 (fun a => card ≤ lhs a ts) l := fun a ha hc =>
      forced_of_short hnn (hI.2 a ha hc) hc hm hu hw
    refine ih ⟨ext_bind_of_ext lvl hI.1 hu, fun a ha hc => ext_bind (hI.2 a ha hc) hlvl (hf a ha hc)⟩
      fun l' hl' => ?_
    rcases List.mem_append.1 hl' with hl' | hl'
    · exact hP l' hl'
    · rw [List.mem_singleton.1 hl']; exact hf

end Steps

theorem indet_of_indet_bind {m : Nat → Int} {l lvl x : Int} (hlvl : lvl ≠ 0)
    (h : litStatus (bind m l lvl) x = .indet) : litStatus m x = .indet ∧ x.natAbs ≠ l.natAbs := by
  rw [status_indet_iff] at h ⊢
  unfold bind at h
  by_cases hx : x.natAbs = l.natAbs
  · simp [hx] at h; exact absurd h (signedLvl_ne_zero hlvl)
  · simp [hx] at h; exact ⟨h, hx⟩

theorem cnt_indet_bind_lt {m : Nat → Int} {l lvl : Int} (hlvl : lvl ≠ 0) (hu : m l.natAbs = 0)
    (L : List Int) (hl : l ∈ L) : cnt (bind m l lvl) .indet L + 1 ≤ cnt m .indet L := by
  rw [cnt_eq_litSum, cnt_eq_litSum]
  exact litSum_mono_lt (ones_nonneg L)
    (fun _ _ h => beq_iff_eq.2 (indet_of_indet_bind hlvl (beq_iff_eq.1 h)).1) (mem_ones hl)
    (Bool.eq_false_iff.2 fun h => (indet_of_indet_bind hlvl (beq_iff_eq.1 h)).2 rfl)
    (beq_iff_eq.2 (status_indet_iff.2 hu))

theorem Steps.indet {lvl : Int} {G : (Nat → Int) → Int → Prop} {st st' : St} {ps : List Int}
    (h : Steps lvl G st ps st') (hlvl : lvl ≠ 0) {L : List Int} (hL : ∀ m l, G m l → l ∈ L) :
    cnt st'.m .indet L + ps.length ≤ cnt st.m .indet L := by
  induction h with
  | nil => simp only [List.length_nil]; omega
  | @cons st _ l _ hu hg _ ih =>
    have := cnt_indet_bind_lt (lvl := lvl) hlvl hu L (hL _ _ hg)
    simp only [List.length_cons, propagateUnit] at ih ⊢
    omega

theorem status_bind_of_ne {m : Nat → Int} {l lvl x : Int} (h : x.natAbs ≠ l.natAbs) :
    litStatus (bind m l lvl) x = litStatus m x := by
  unfold litStatus; rw [bind_of_ne h]

theorem cnt_bind_of_ne {m : Nat → Int} {l lvl : Int} (s : Status) {xs : List Int}
    (h : ∀ x ∈ xs, x.natAbs ≠ l.natAbs) : cnt (bind m l lvl) s xs = cnt m s xs := by
  rw [cnt_eq_litSum, cnt_eq_litSum]
  exact litSum_congr fun t ht => by rw [status_bind_of_ne (h _ (lit_mem_of_mem_ones ht))]

theorem drop_cons_of_getElem? {l : Int} {ls : List Int} {i : Nat} (h : ls[i]? = some l) :
    ls.drop i = l :: ls.drop (i + 1) := by
  obtain ⟨hi, rfl⟩ := List.getElem?_eq_some_iff.1 h
  exact List.drop_eq_getElem_cons hi

section loops
variable {lvl : Int}

/-- The loop `for nbUnb > 0` is a run of `nbUnb` steps; it stays inside the constraint when the variables are
    distinct (`card_panics_on_duplicate_variable`) and `nbUnb` literals from `i` on are unbound. -/
theorem cardPropLoop_spec (fuel : Nat) (st : St) (i : Nat) (nb : Int) :
    (cardPropLoop lvl fuel st i nb).Spec
      ((st.lits.map Int.natAbs).Nodup ∧ nb ≤ cnt st.m .indet (st.lits.drop i) ∧
        nb.toNat + (st.lits.length - i) < fuel)
      fun st' => ∃ ps, Steps lvl (fun _ l => l ∈ st.lits) st ps st' ∧ (0 ≤ nb → (ps.length : Int) = nb) := by
  fun_induction cardPropLoop lvl fuel st i nb
  case case1 => exact fun h => absurd h.2.2 (Nat.not_lt_zero _)
  case case2 hnb _ hl =>
    intro ⟨_, hcnt, _⟩
    rw [List.drop_eq_nil_of_le (List.getElem?_eq_none_iff.1 hl)] at hcnt
    exact absurd hcnt (by simp only [cnt]; omega)
  case case3 st i nb hnb fuel lit hl hu ih =>
    have := (List.getElem?_eq_some_iff.1 hl).1
    refine ih.imp (fun ⟨hnd, hcnt, hf⟩ => ?_) fun st' ⟨ps, hs, hlen⟩ =>
      ⟨lit :: ps, .cons hu (List.mem_of_getElem? hl) hs, fun _ => by
        have := hlen (by omega); simp only [List.length_cons]; omega⟩
    -- the literals behind position `i` are on other variables: they stay unbound
    have hnd' := List.Nodup.sublist ((List.drop_sublist i st.lits).map _) hnd
    rw [drop_cons_of_getElem? hl, List.map_cons, List.nodup_cons] at hnd'
    refine ⟨hnd, ?_, by simp only [propagateUnit]; omega⟩
    simp only [propagateUnit]
    rw [drop_cons_of_getElem? hl, cnt_cons] at hcnt ⊢
    rw [cnt_bind_of_ne .indet fun x hx e => hnd'.1 (e ▸ List.mem_map_of_mem hx)]
    rw [if_pos (status_indet_iff.2 hu)] at hcnt
    split <;> omega
  case case4 st i nb hnb fuel lit hl hb ih =>
    have := (List.getElem?_eq_some_iff.1 hl).1
    refine ih.imp (fun ⟨hnd, hcnt, hf⟩ => ?_) fun _ h => h
    rw [drop_cons_of_getElem? hl, cnt_cons, if_neg (mt status_indet_iff.1 hb)] at hcnt
    exact ⟨hnd, by omega, by omega⟩
  case case5 => exact ⟨[], .nil _, fun _ => by simp only [List.length_nil]; omega⟩

theorem amoProp_steps (n i : Nat) (st st' : St) :
    amoProp lvl n i st = .ok st' → ∃ ps, Steps lvl (fun _ l => l ∈ st.lits) st ps st' := by
  fun_induction amoProp lvl n i st
  case case1 => exact fun h => by cases h; exact ⟨[], .nil _⟩
  case case2 => exact fun h => nomatch h
  case case3 l hl hu ih => exact fun h => let ⟨ps, hs⟩ := ih h; ⟨l :: ps, .cons hu (List.mem_of_getElem? hl) hs⟩
  case case4 ih => exact ih

theorem propAllLoop_steps {L : List Int} (ls : List Int) (st : St) :
    (∀ l ∈ ls, l ∈ L) → ∃ ps, Steps lvl (fun _ l => l ∈ L) st ps (propAllLoop lvl ls st) ∧
      (lvl ≠ 0 → ∀ l ∈ ls, (propAllLoop lvl ls st).m l.natAbs ≠ 0) := by
  fun_induction propAllLoop lvl ls st
  case case1 => exact fun _ => ⟨[], .nil _, fun _ _ h => nomatch h⟩
  case case2 l ls st hind ih =>
    intro hsub
    obtain ⟨ps, hs, hb⟩ := ih fun x hx => hsub x (List.mem_cons_of_mem _ hx)
    refine ⟨l :: ps, .cons (status_indet_iff.1 hind) (hsub l List.mem_cons_self) hs, fun hlvl x hx => ?_⟩
    rcases List.mem_cons.1 hx with rfl | hx
    · exact hs.bound (show bind st.m x lvl x.natAbs ≠ 0 by rw [bind_self]; exact signedLvl_ne_zero hlvl)
    · exact hb hlvl x hx
  case case3 l ls st hind ih =>
    intro hsub
    obtain ⟨ps, hs, hb⟩ := ih fun x hx => hsub x (List.mem_cons_of_mem _ hx)
    refine ⟨ps, hs, fun hlvl x hx => ?_⟩
    rcases List.mem_cons.1 hx with rfl | hx
    · exact hs.bound (mt status_indet_iff.2 hind)
    · exact hb hlvl x hx

theorem pbPassLoop_spec {slack : Int} {ts : List (Int × Int)} (ls ws : List Int) (st : St) (fu : Bool) :
    (∀ p ∈ ws.zip ls, p ∈ ts) →
      (pbPassLoop lvl slack ls ws st fu).Spec (ls.length ≤ ws.length) fun (st', fu') =>
        ∃ ps, Steps lvl (fun _ l => ∃ w, (w, l) ∈ ts ∧ slack < w) st ps st' ∧ fu' = (fu || !ps.isEmpty) := by
  fun_induction pbPassLoop lvl slack ls ws st fu
  case case1 => exact fun _ => ⟨[], .nil _, by simp⟩
  case case2 => exact fun _ h => nomatch h
  case case3 l ls st fu hind w ws hw ih =>
    intro hsub
    refine (ih fun p hp => hsub p (List.mem_cons_of_mem _ hp)).imp Nat.le_of_succ_le_succ fun _ ⟨ps, hs, hfu⟩ => ?_
    exact ⟨l :: ps, .cons (status_indet_iff.1 hind) ⟨w, hsub (w, l) List.mem_cons_self, hw⟩ hs, by simp [hfu]⟩
  case case4 ih =>
    exact fun hsub => (ih fun p hp => hsub p (List.mem_cons_of_mem _ hp)).imp Nat.le_of_succ_le_succ fun _ h => h
  case case5 ws _ _ _ ih =>
    refine fun hsub => (ih fun p hp => ?_).imp (fun h => by rw [List.length_tail]; exact Nat.le_sub_one_of_lt h)
      fun _ h => h
    cases ws with
    | nil => simp at hp
    | cons w ws' => exact hsub p (List.mem_cons_of_mem _ hp)

theorem pbPassLoop_none {slack : Int} {ls ws : List Int} {st st1 : St}
    (h : pbPassLoop lvl slack ls ws st false = .ok (st1, false)) : st1 = st := by
  obtain ⟨ps, hs, hfu⟩ := (pbPassLoop_spec (ts := ws.zip ls) _ _ _ _ fun _ h => h).of_ok h
  cases (by simpa using hfu : ps = [])
  cases hs; rfl
end loops

/-- No literal among the first `c` positions is false. -/
def FirstNF (m : Nat → Int) (ls : List Int) (c : Nat) : Prop :=
  ∀ (k : Nat) (l : Int), k < c → ls[k]? = some l → litStatus m l ≠ .unsat

theorem FirstNF.succ {m : Nat → Int} {L : List Int} {i : Nat} {l : Int} (h : FirstNF m L i)
    (hl : L[i]? = some l) (hs : litStatus m l ≠ .unsat) : FirstNF m L (i + 1) := by
  intro k l' hk hkl
  by_cases hki : k = i
  · rw [hki, hl] at hkl; cases hkl; exact hs
  · exact h k l' (by omega) hkl

theorem seg_cons {L : List Int} {c i : Nat} {l : Int} (hi : i < c) (h : L[i]? = some l) :
    (L.take c).drop i = l :: (L.take c).drop (i + 1) := by
  apply drop_cons_of_getElem?
  rw [List.getElem?_take_of_lt hi]; exact h

/-- The invariant of the loops of `swapFalse`, on the literals: the window is `[0, c)`, the reservoir
    `[c, len)`; no literal of the window below `i` is false, and its false literals from `i` on are no more than
    the literals of the reservoir from `j` on that are not false. -/
structure SwapInv (m : Nat → Int) (c : Nat) (L : List Int) (i j : Nat) : Prop where
  len : c ≤ L.length
  le : i ≤ c
  ge : c ≤ j
  first : FirstNF m L i
  count : cnt m .unsat ((L.take c).drop i) ≤ litSum (nfFlag m) (ones (L.drop j))

namespace SwapInv
variable {m : Nat → Int} {c i j : Nat} {L : List Int} {li lj : Int}

theorem start (hc : c ≤ L.length)
    (h : (c : Int) ≤ litSum (nfFlag m) (ones L)) : SwapInv m c L 0 c := by
  refine ⟨hc, Nat.zero_le _, Nat.le_refl _, fun k _ hk => absurd hk (Nat.not_lt_zero k), ?_⟩
  have h1 := cnt_total m (L.take c)
  have h2 := nf_ones m (L.take c)
  have h4 : litSum (nfFlag m) (ones L) =
      litSum (nfFlag m) (ones (L.take c)) + litSum (nfFlag m) (ones (L.drop c)) := by
    rw [← litSum_append]; unfold ones; rw [← List.map_append, List.take_append_drop]
  have h5 : ((L.take c).length : Int) = c := by rw [List.length_take]; omega
  rw [List.drop_zero]
  omega

theorem skip_left (h : SwapInv m c L i j) (hi : i < c) (hli : L[i]? = some li)
    (hsi : litStatus m li ≠ .unsat) : SwapInv m c L (i + 1) j :=
  { h with
    le := hi, first := h.first.succ hli hsi
    count := by have := h.count; rwa [seg_cons hi hli, cnt_cons, if_neg hsi, Int.zero_add] at this }

theorem skip_right (h : SwapInv m c L i j) (hlj : L[j]? = some lj) (hsj : litStatus m lj = .unsat) :
    SwapInv m c L i (j + 1) :=
  { h with
    ge := Nat.le_succ_of_le h.ge
    count := by
      have := h.count
      rwa [drop_cons_of_getElem? hlj, litSum_ones_cons, nfFlag_eq_false.2 hsj, if_neg Bool.false_ne_true,
        Int.zero_add] at this }

/-- A false literal at `i`: some literal from `j` on is not false, so `j` is inside the constraint. -/
theorem lt_len (h : SwapInv m c L i j) (hi : i < c) (hli : L[i]? = some li) (hsi : litStatus m li = .unsat) :
    j < L.length := by
  refine Nat.lt_of_not_le fun hj => ?_
  have h1 := h.count
  rw [seg_cons hi hli, cnt_cons, if_pos hsi, List.drop_eq_nil_of_le hj] at h1
  have := cnt_nonneg m .unsat ((L.take c).drop (i + 1))
  exact absurd h1 (by show ¬ _ ≤ (0 : Int); omega)

theorem swap (h : SwapInv m c L i j) (hi : i < c) (hli : L[i]? = some li) (hsi : litStatus m li = .unsat)
    (hlj : L[j]? = some lj) (hsj : litStatus m lj ≠ .unsat) :
    SwapInv m c ((L.set i lj).set j li) (i + 1) (j + 1) := by
  have hc := h.ge
  have hj := (List.getElem?_eq_some_iff.1 hlj).1
  refine ⟨by simpa using h.len, hi, by omega, fun k l hk hl => ?_, ?_⟩
  · rw [List.getElem?_set_ne (by omega)] at hl
    by_cases hki : i = k
    · rw [hki, List.getElem?_set_self (by omega)] at hl
      cases hl; exact hsj
    · rw [List.getElem?_set_ne hki] at hl
      exact h.first k l (by omega) hl
  · have := h.count
    rw [seg_cons hi hli, cnt_cons, if_pos hsi, drop_cons_of_getElem? hlj, litSum_ones_cons,
      nfFlag_eq_true.2 hsj, if_pos rfl] at this
    rw [List.take_set_of_le (by omega), List.drop_take, List.drop_set_of_lt (by omega),
      List.drop_set_of_lt (by omega), List.drop_set_of_lt (by omega), ← List.drop_take]
    omega

end SwapInv

theorem skipNonFalse_ok {m : Nat → Int} {L : List Int} {c j : Nat} (fuel i : Nat) :
    SwapInv m c L i j → i < c → c - i ≤ fuel + 1 →
      (skipNonFalse m L (c : Int) fuel i = .ok none ∧ FirstNF m L c) ∨
      ∃ i' l, skipNonFalse m L (c : Int) fuel i = .ok (some i') ∧ SwapInv m c L i' j ∧ i ≤ i' ∧ i' < c ∧
        L[i']? = some l ∧ litStatus m l = .unsat := by
  fun_induction skipNonFalse m L (c : Int) fuel i with
  | case1 fuel i hl => exact fun h hi _ => absurd (List.getElem?_eq_none_iff.1 hl) (by have := h.len; omega)
  | case2 fuel i lit hl hs heq =>
    exact fun h _ _ => Or.inl ⟨rfl, (by omega : i + 1 = c) ▸ h.first.succ hl hs⟩
  | case3 i lit hl hs hne => exact fun _ hi hf => absurd (by omega) hne
  | case4 i lit hl hs hne fuel ih =>
    intro h hi hf
    rcases ih (h.skip_left hi hl hs) (by omega) (by omega) with h' | ⟨i', l, h1, h2, h3, h4⟩
    · exact Or.inl h'
    · exact Or.inr ⟨i', l, h1, h2, by omega, h4⟩
  | case5 fuel i lit hl hs =>
    exact fun h hi _ => Or.inr ⟨i, lit, rfl, h, Nat.le_refl _, hi, hl, Decidable.not_not.1 hs⟩

/-- That the positions the loop passed are false is kept as `SwapInv.count` at `j'` only. -/
theorem skipFalse_ok {m : Nat → Int} {L : List Int} {c i : Nat} {li : Int} (hi : i < c) (hli : L[i]? = some li)
    (hsi : litStatus m li = .unsat) (fuel j : Nat) :
    SwapInv m c L i j → L.length - j ≤ fuel + 1 →
      ∃ j' l, skipFalse m L fuel j = .ok j' ∧ SwapInv m c L i j' ∧ L[j']? = some l ∧ litStatus m l ≠ .unsat := by
  fun_induction skipFalse m L fuel j with
  | case1 fuel j hl =>
    exact fun h _ => absurd (h.lt_len hi hli hsi) (by have := List.getElem?_eq_none_iff.1 hl; omega)
  | case2 j lit hl hs => exact fun h hf => absurd ((h.skip_right hl hs).lt_len hi hli hsi) (by omega)
  | case3 j lit hl hs fuel ih => exact fun h hf => ih (h.skip_right hl hs) (by omega)
  | case4 fuel j lit hl hs => exact fun h _ => ⟨j, lit, rfl, h, hl, hs⟩

theorem swapFalseLoop_ok {c : Nat} :
    ∀ (fuel : Nat) (st : St) (i j : Nat), SwapInv st.m c st.lits i j →
      (∀ k, k < c → st.watched[k]? = some true) → c - i ≤ fuel →
      ∃ st', swapFalseLoop (c : Int) fuel st i j = .ok st' ∧ FirstNF st'.m st'.lits c := by
  intro fuel
  induction fuel with
  | zero =>
    exact fun st i j h _ hf => ⟨st, swapFalseLoop_done (by omega), (by have := h.le; omega : i = c) ▸ h.first⟩
  | succ fuel ih =>
    intro st i j h hw hf
    by_cases hic : i < c
    · unfold swapFalseLoop
      rw [if_pos (by omega)]
      rcases skipNonFalse_ok st.lits.length i h hic (by have := h.len; omega) with
        ⟨h1, hr⟩ | ⟨i', li, h1, h2, h3, h4, h5, h6⟩
      · rw [h1]; exact ⟨st, rfl, hr⟩
      · obtain ⟨j', lj, g1, g2, g3, g4⟩ := skipFalse_ok h4 h5 h6 st.lits.length j h2 (by omega)
        simp only [h1, g1, swapStep_ok h5 g3 (hw i' h4)]
        exact ih _ _ _ (g2.swap h4 h5 h6 g3 g4)
          (fun k hk => by rw [List.getElem?_set_ne (by have := g2.ge; omega)]; exact hw k hk) (by omega)
    · exact ⟨st, swapFalseLoop_done (by omega), (by have := h.le; omega : i = c) ▸ h.first⟩

/-- `swapFalse` does not panic under the precondition written above it (`swapFalse_precondition`) when the
    first `card+1` positions are watched, and it leaves no false literal among them: the watch invariant
    of a cardinality constraint. -/
theorem swapFalse_ok_and_watches {card : Int} {st : St} (hc0 : 0 ≤ card) (hlen : card + 1 ≤ st.lits.length)
    (hpre : card + 1 ≤ cnt st.m .sat st.lits + cnt st.m .indet st.lits)
    (hw : ∀ k : Nat, (k : Int) < card + 1 → st.watched[k]? = some true) :
    ∃ st', swapFalse card st = .ok st' ∧
      ∀ k : Nat, (k : Int) < card + 1 → ∀ l, st'.lits[k]? = some l → litStatus st'.m l ≠ .unsat := by
  unfold swapFalse
  have hcc : card + 1 = (((card + 1).toNat : Nat) : Int) := by omega
  rw [hcc]
  have hcl : (card + 1).toNat ≤ st.lits.length := by omega
  obtain ⟨st', h, hq⟩ := swapFalseLoop_ok (c := (card + 1).toNat) (st.lits.length + 1) st 0 (card + 1).toNat
    (.start hcl (by rw [nf_ones]; omega)) (fun k hk => hw k (by omega)) (by omega)
  exact ⟨st', h, fun k hk l => hq k l (by omega)⟩

theorem swapFalse_firstNF {card : Int} {st st' : St} (hc0 : 0 ≤ card) (hlen : card + 1 ≤ st.lits.length)
    (hpre : card + 1 ≤ cnt st.m .sat st.lits + cnt st.m .indet st.lits)
    (hw : ∀ k : Nat, (k : Int) < card + 1 → st.watched[k]? = some true) (h : swapFalse card st = .ok st') :
    FirstNF st'.m st'.lits (card + 1).toNat := by
  obtain ⟨_, h', hq⟩ := swapFalse_ok_and_watches hc0 hlen hpre hw
  cases h.symm.trans h'
  exact fun k l hk => hq k (by omega) l

/-- `simplifyCardConstr` establishes the precondition written above `swapFalse` ("at least
    cardinality + 1 true and unbounded lits") before calling it. -/
theorem swapFalse_precondition {m : Nat → Int} {card t f u : Int} {ls : List Int}
    (hlen : card ≤ ls.length) (hc : countLoop m ls.length card ls 0 0 0 = .fin t f u)
    (hne : ¬ u + t = card) : card + 1 ≤ cnt m .sat ls + cnt m .indet ls := by
  have h := countLoop_top m card ls
  rw [hc] at h
  exact h.2 hne hlen

/-- How `simplifyCardConstr` ends: `card` literals are true; fewer than `card` are not false; exactly
    `card` are not false and the unbound ones are handed to `propagateUnit`; or more are (in a
    well-formed constraint, `card ≤ len`) and `swapFalse` is called. -/
inductive CardEnd (lvl card : Int) (st : St) : Bool → St → Prop
  | sat : card ≤ cnt st.m .sat st.lits → CardEnd lvl card st true st
  | confl : cnt st.m .sat st.lits + cnt st.m .indet st.lits < card → CardEnd lvl card st false st
  | tight {ps : List Int} {m' : Nat → Int} : cnt st.m .sat st.lits + cnt st.m .indet st.lits = card →
      Steps lvl (Short (ones st.lits) card) st ps (st.after m' ps) →
      (ps.length : Int) = cnt st.m .indet st.lits → CardEnd lvl card st true (st.after m' ps)
  | swap {st' : St} : (card ≤ st.lits.length → card < cnt st.m .sat st.lits + cnt st.m .indet st.lits) →
      swapFalse card st = .ok st' → CardEnd lvl card st true st'

theorem simplifyCard_spec (lvl card : Int) (st : St) :
    (simplifyCard lvl card st).Spec
      ((st.lits.map Int.natAbs).Nodup ∧ 0 ≤ card ∧ card + 1 ≤ st.lits.length ∧
        ∀ k : Nat, (k : Int) < card + 1 → st.watched[k]? = some true)
      fun (b, st') => CardEnd lvl card st b st' := by
  have htop := countLoop_top st.m card st.lits
  unfold simplifyCard
  split
  · rename_i hcl
    rw [hcl] at htop
    exact .sat htop
  · rename_i hcl
    rw [hcl] at htop
    exact .confl htop
  · rename_i t f u hcl
    rw [hcl] at htop
    split
    · rename_i heq
      obtain ⟨hT, hU⟩ := htop.1 heq
      have := cnt_nonneg st.m .indet st.lits
      refine ((cardPropLoop_spec (lvl := lvl) (u.toNat + st.lits.length + 1) st 0 u).imp
        (fun h => ⟨h.1, by rw [List.drop_zero, hU]; exact Int.le_refl _, by omega⟩)
        fun st1 ⟨ps, hs, hlen⟩ => ?_).bind_pure
      obtain ⟨m', rfl⟩ := hs.after
      exact .tight hT (hs.short (fun l hl => ⟨1, mem_ones hl, by rw [nf_ones]; omega⟩) fun _ _ => rfl)
        (hU ▸ hlen (by omega))
    · rename_i hne
      exact (Res.Spec.of_total (fun ⟨_, hc0, hlen, hw⟩ =>
        swapFalse_ok_and_watches hc0 hlen (htop.2 hne (by omega)) hw)
        fun _ hq => .swap (htop.2 hne) hq).bind_pure

theorem simplifyCard_run {lvl card : Int} {st st' : St} {b : Bool}
    (h : simplifyCard lvl card st = .ok (b, st')) : CardEnd lvl card st b st' :=
  (simplifyCard_spec lvl card st).of_ok h

/-- (c) for `simplifyCardConstr`: no panic.  That the first `card+1` positions are watched is a hypothesis on
    the state at the call: `watchClause` watches these positions and `swapFalse` takes a watch away only at a
    position behind them, but neither is a theorem here (nothing is proved of `watchFirst`, and
    `swapFalseLoop_ok` carries the flags through its induction without returning them). -/
theorem card_no_panic {lvl card : Int} (st : St)
    (hnd : (st.lits.map Int.natAbs).Nodup) (hc0 : 0 ≤ card) (hlen : card + 1 ≤ st.lits.length)
    (hw : ∀ k : Nat, (k : Int) < card + 1 → st.watched[k]? = some true) :
    ∃ b st', simplifyCard lvl card st = .ok (b, st') :=
  let ⟨(b, st'), h, _⟩ := (simplifyCard_spec lvl card st).total ⟨hnd, hc0, hlen, hw⟩
  ⟨b, st', h⟩

/-- (a) for `simplifyCardConstr`. -/
theorem card_conflict_sound {lvl card : Int} {st st' : St}
    (h : simplifyCard lvl card st = .ok (false, st')) :
    ∀ a, Ext a st.m → ¬ CardHolds a st.lits card := by
  intro a ha hc
  cases simplifyCard_run h with
  | confl hlt =>
    have := lhs_le_nf ha (ones_nonneg st.lits)
    rw [nf_ones] at this
    exact absurd (Int.le_trans hc this) (by omega)

/-- (b) for `simplifyCardConstr`. -/
theorem card_propagated_forced {lvl card : Int} (hlvl : 0 < lvl) {st st' : St} {b : Bool}
    (h : simplifyCard lvl card st = .ok (b, st')) (hp : st.props = []) :
    (∀ l ∈ st'.props, Forced st.m (fun a => CardHolds a st.lits card) l) ∧
      Inv st.m st'.m (fun a => CardHolds a st.lits card) := by
  have hnil : ∀ l ∈ st.props, Forced st.m (fun a => CardHolds a st.lits card) l := by
    rw [hp]; exact fun _ hl => nomatch hl
  cases simplifyCard_run h with
  | sat => exact ⟨hnil, inv_refl _ _⟩
  | confl => exact ⟨hnil, inv_refl _ _⟩
  | tight _ hs => exact (hs.sound hlvl (ones_nonneg _) (inv_refl _ _) hnil).symm
  | swap _ hq =>
    have := swapFalse_effect hq
    rw [this.1, this.2.1]; exact ⟨hnil, inv_refl _ _⟩

/-- Completeness at a total assignment (the verdict is recounted from scratch; it does not depend on the
    watches). -/
theorem card_true_of_total {lvl card : Int} {st st' : St}
    (h : simplifyCard lvl card st = .ok (true, st'))
    (htot : ∀ l ∈ st.lits, st.m l.natAbs ≠ 0) (hlen : card ≤ st.lits.length) :
    ∀ a, Ext a st.m → CardHolds a st.lits card := by
  intro a ha
  refine holds_of_total (ts := ones st.lits) ha (fun t ht => htot _ (lit_mem_of_mem_ones ht)) ?_
  have := cnt_nonneg st.m .indet st.lits
  rw [nf_ones]
  cases simplifyCard_run h with
  | sat hc => omega
  | tight hc => omega
  | swap hc => have := hc hlen; omega

/-- Unit-propagation strength: a `true` answer without propagation means that `card` literals are already
    true or that no literal is forced yet (`nbUnb + nbTrue > card`). -/
theorem card_up_strength {lvl card : Int} {st st' : St}
    (h : simplifyCard lvl card st = .ok (true, st')) (hno : st'.props.length = st.props.length)
    (hlen : card ≤ st.lits.length) :
    card ≤ cnt st.m .sat st.lits ∨ card < cnt st.m .sat st.lits + cnt st.m .indet st.lits := by
  cases simplifyCard_run h with
  | sat hc => exact Or.inl hc
  | tight hc hs hps =>
    rw [List.length_append] at hno
    exact Or.inl (by omega)
  | swap hc => exact Or.inr (hc hlen)

theorem slackLoop_spec {m : Nat → Int} {card : Int} (ws ls : List Int) (slack sum : Int) :
    (slackLoop m card ws ls slack sum).Spec (ws.length ≤ ls.length) fun r =>
      (r.2 = false → r.1 = slack + wNF m ws ls) ∧
      (r.2 = true → (∀ w ∈ ws, 0 ≤ w) → card ≤ sum + wT m ws ls) := by
  -- a term in front, counted in the sums `slack1`, `sum1` the loop goes on with
  have step : ∀ {w l : Int} {ws ls : List Int} {slack sum slack1 sum1 : Int},
      slack1 + wNF m ws ls = slack + wNF m (w :: ws) (l :: ls) →
      sum1 + wT m ws ls = sum + wT m (w :: ws) (l :: ls) → ∀ r : Int × Bool,
      (r.2 = false → r.1 = slack1 + wNF m ws ls) ∧ (r.2 = true → (∀ x ∈ ws, 0 ≤ x) → card ≤ sum1 + wT m ws ls) →
      (r.2 = false → r.1 = slack + wNF m (w :: ws) (l :: ls)) ∧
        (r.2 = true → (∀ x ∈ w :: ws, 0 ≤ x) → card ≤ sum + wT m (w :: ws) (l :: ls)) :=
    fun e1 e2 _ h => ⟨fun hs => by rw [← e1]; exact h.1 hs,
      fun hs hnn => by rw [← e2]; exact h.2 hs fun x hx => hnn x (List.mem_cons_of_mem _ hx)⟩
  have hlen : ∀ {w l : Int} {ws ls : List Int}, (w :: ws).length ≤ (l :: ls).length → ws.length ≤ ls.length :=
    Nat.le_of_succ_le_succ
  fun_induction slackLoop m card ws ls slack sum
  case case1 => exact ⟨fun _ => by simp [wNF], fun h => nomatch h⟩
  case case2 => exact fun h => nomatch h
  case case3 hs ih =>
    exact ih.imp hlen (step (by simp only [wNF, hs, reduceCtorEq, if_false, Int.add_assoc])
      (by simp only [wT, hs, reduceCtorEq, if_false, Int.zero_add]))
  case case4 w ws l ls slack sum hs hc =>
    refine ⟨(fun h => nomatch h), fun _ hnn => ?_⟩
    have := litSum_nonneg (fun l => litStatus m l == .sat)
      (zip_nonneg (ls := ls) fun x hx => hnn x (List.mem_cons_of_mem _ hx))
    rw [← wT_eq_litSum] at this
    simp only [wT, hs, if_true]; omega
  case case5 hs _ ih =>
    exact ih.imp hlen (step (by simp only [wNF, hs, reduceCtorEq, if_false, Int.add_assoc])
      (by simp only [wT, hs, if_true, Int.add_assoc]))
  case case6 hs ih =>
    exact ih.imp hlen (step (by simp only [wNF, hs, if_true, Int.zero_add])
      (by simp only [wT, hs, reduceCtorEq, if_false, Int.zero_add]))

/-- `slackSum`: the slack, unless enough weight is true already (the loop stops there: only right for
    weights `≥ 0`). -/
theorem slackSum_spec (card : Int) (st : St) :
    (slackSum card st).Spec (st.weights.length ≤ st.lits.length) fun r =>
      (r.2 = false → r.1 = wNF st.m st.weights st.lits - card) ∧
      (r.2 = true → (∀ w ∈ st.weights, 0 ≤ w) → card ≤ wT st.m st.weights st.lits) :=
  (slackLoop_spec st.weights st.lits (-card) 0).imp id fun _ h =>
    ⟨fun hs => by rw [h.1 hs]; omega, fun hs hnn => by have := h.2 hs hnn; omega⟩

theorem mem_zip_of_mem {W L : List Int} (hlen : W.length = L.length) {l : Int} (hl : l ∈ L) :
    ∃ w, (w, l) ∈ W.zip L ∧ w ∈ W := by
  obtain ⟨i, hi, rfl⟩ := List.getElem_of_mem hl
  refine ⟨W[i]'(by omega), ?_, List.getElem_mem _⟩
  rw [List.mem_iff_getElem]
  refine ⟨i, by simp [List.length_zip]; omega, by simp⟩

/-- What `updateWatchPB` leaves untouched. -/
def WFrame (st st' : St) : Prop :=
  st'.m = st.m ∧ st'.props = st.props ∧ st'.lits = st.lits ∧ st'.weights = st.weights

theorem WFrame.refl (st : St) : WFrame st st := ⟨rfl, rfl, rfl, rfl⟩

/-- One more position: its weight `w` counts unless its literal `l` is false (the weight is only read then). -/
theorem wNF_take_succ (m : Nat → Int) {i : Nat} {ws ls : List Int} {l w : Int} (hl : ls[i]? = some l)
    (hi : i < ws.length) (hw : litStatus m l ≠ .unsat → ws[i]? = some w) :
    wNF m (ws.take (i + 1)) (ls.take (i + 1)) =
      wNF m (ws.take i) (ls.take i) + (if litStatus m l = .unsat then 0 else w) := by
  obtain ⟨hil, rfl⟩ := List.getElem?_eq_some_iff.1 hl
  have hz : i < (ws.zip ls).length := by rw [List.length_zip]; omega
  have htake : ∀ n, (ws.take n).zip (ls.take n) = (ws.zip ls).take n := fun _ => List.take_zipWith.symm
  rw [wNF_eq_litSum, wNF_eq_litSum, htake, htake, List.take_succ_eq_append_getElem hz, litSum_append,
    List.getElem_zip]
  by_cases hs : litStatus m ls[i] = .unsat
  · simp only [litSum, nfFlag_eq_false.2 hs, hs, if_true, Bool.false_eq_true, if_false, Int.add_zero]
  · have := hw hs
    rw [List.getElem?_eq_getElem hi] at this
    simp only [litSum, nfFlag_eq_true.2 hs, hs, if_true, if_false, Int.add_zero, Option.some.inj this]

/-- What the loops of `updateWatchPB` need: as many weights and flags as literals, and fuel to the end. -/
def UwPre (fuel : Nat) (st : St) (i : Nat) : Prop :=
  st.weights.length = st.lits.length ∧ st.watched.length = st.lits.length ∧ st.lits.length ≤ fuel + i

/-- The flags `bs` are the flags `bs0` with the positions `a ≤ k < i` set to `f` of their literal. -/
structure FlagsSet (f : Int → Bool) (ls : List Int) (bs0 bs : List Bool) (a i : Nat) : Prop where
  len : bs.length = bs0.length
  mid : ∀ k l, a ≤ k → k < i → ls[k]? = some l → bs[k]? = some (f l)
  out : ∀ k, (k < a ∨ i ≤ k) → bs[k]? = bs0[k]?

theorem FlagsSet.refl (f : Int → Bool) (ls : List Int) (bs : List Bool) (a : Nat) : FlagsSet f ls bs bs a a :=
  ⟨rfl, fun _ _ h1 h2 => absurd h2 (Nat.not_lt.2 h1), fun _ _ => rfl⟩

theorem FlagsSet.step {f : Int → Bool} {ls : List Int} {bs0 bs : List Bool} {a i : Nat} {l : Int}
    (h : FlagsSet f ls bs0 bs a i) (hai : a ≤ i) (hl : ls[i]? = some l) (hb : i < bs.length) :
    FlagsSet f ls bs0 (bs.set i (f l)) a (i + 1) where
  len := by rw [List.length_set]; exact h.len
  mid := fun k l' h1 h2 hkl => by
    by_cases hki : k = i
    · subst hki
      cases hl.symm.trans hkl
      exact List.getElem?_set_self hb
    · rw [List.getElem?_set_ne (Ne.symm hki)]; exact h.mid k l' h1 (by omega) hkl
  out := fun k hk => by rw [List.getElem?_set_ne (by omega)]; exact h.out k (by omega)

/-- An iteration of a loop of `updateWatchPB` changes flags and edits only: a statement about the rest of the
    loop is, but for the precondition, the statement about the loop. -/
theorem uw_frame {α : Type} {fuel : Nat} {st : St} {i : Nat} {bs1 : List Bool} {ed : List (Bool × Int)}
    {r : Res α} {Q : α → Prop} (hlen : bs1.length = st.watched.length)
    (h : r.Spec (UwPre fuel { st with watched := bs1, edits := ed } (i + 1)) Q) :
    r.Spec (UwPre (fuel + 1) st i) Q :=
  h.imp (fun ⟨a, b, c⟩ => ⟨a, hlen.trans b, by dsimp only; omega⟩) fun _ h => h

theorem uwLoop1_spec {card : Int} {bs0 : List Bool} (fuel : Nat) (st : St) (i : Nat) (ww : Int) :
    FlagsSet (nfFlag st.m) st.lits bs0 st.watched 0 i → i ≤ st.lits.length →
    (st.weights.length = st.lits.length → ww = wNF st.m (st.weights.take i) (st.lits.take i)) →
    (uwLoop1 card fuel st i ww).Spec (UwPre fuel st i) fun p => WFrame st p.1 ∧
      (FlagsSet (nfFlag st.m) st.lits bs0 p.1.watched 0 p.2 ∧ p.2 ≤ st.lits.length ∧
        (st.weights.length = st.lits.length →
          card < wNF st.m (st.weights.take p.2) (st.lits.take p.2) ∨ p.2 = st.lits.length)) := by
  have hnone : ∀ {α : Type} {l : List α} {i : Nat}, l[i]? = none → l.length ≤ i := List.getElem?_eq_none_iff.1
  have hlt : ∀ {α : Type} {l : List α} {i : Nat} {a : α}, l[i]? = some a → i < l.length :=
    fun h => (List.getElem?_eq_some_iff.1 h).1
  -- Cases 1-3, 6, 7: out of fuel or an index out of range, which `UwPre` excludes.  4, 5: `lit` is false and
  -- watched (the watch is removed), or not watched (the flag is as it should be: `set_eq_self`).  8, 9: `lit`
  -- is not false and not watched (the watch is added), or watched; its weight is counted.  10: the loop ends.
  fun_induction uwLoop1 card fuel st i ww with
  | case1 st i ww hc => exact fun _ _ _ ⟨_, _, h⟩ => by omega
  | case2 st i ww hc fuel hl => exact absurd (hnone hl) (by omega)
  | case3 st i ww hc fuel l hl hs hb => exact fun _ _ _ ⟨_, h, _⟩ => by have := hnone hb; omega
  | case4 st i ww hc fuel l hl hs hb ih =>
    intro h _ hww
    have := h.step (Nat.zero_le _) hl (hlt hb)
    rw [nfFlag_eq_false.2 hs] at this
    exact uw_frame (List.length_set ..) (ih this hc.2 fun hw => by
      rw [wNF_take_succ st.m hl (hw ▸ hc.2) (w := 0) fun h => absurd hs h, if_pos hs, ← hww hw, Int.add_zero])
  | case5 st i ww hc fuel l hl hs hb ih =>
    intro h _ hww
    have := h.step (Nat.zero_le _) hl (hlt hb)
    rw [nfFlag_eq_false.2 hs, set_eq_self hb] at this
    exact uw_frame (bs1 := st.watched) (ed := st.edits) rfl (ih this hc.2 fun hw => by
      rw [wNF_take_succ st.m hl (hw ▸ hc.2) (w := 0) fun h => absurd hs h, if_pos hs, ← hww hw, Int.add_zero])
  | case6 st i ww hc fuel l hl hs hw => exact fun _ _ _ ⟨h, _, _⟩ => by have := hnone hw; omega
  | case7 st i ww hc fuel l hl hs w hw hb => exact fun _ _ _ ⟨_, h, _⟩ => by have := hnone hb; omega
  | case8 st i ww hc fuel l hl hs w hw hb ih =>
    intro h _ hww
    have := h.step (Nat.zero_le _) hl (hlt hb)
    rw [nfFlag_eq_true.2 hs] at this
    exact uw_frame (List.length_set ..) (ih this hc.2 fun hw' => by
      rw [wNF_take_succ st.m hl (hw' ▸ hc.2) fun _ => hw, if_neg hs, ← hww hw'])
  | case9 st i ww hc fuel l hl hs w hw hb ih =>
    intro h _ hww
    have := h.step (Nat.zero_le _) hl (hlt hb)
    rw [nfFlag_eq_true.2 hs, set_eq_self hb] at this
    exact uw_frame (bs1 := st.watched) (ed := st.edits) rfl (ih this hc.2 fun hw' => by
      rw [wNF_take_succ st.m hl (hw' ▸ hc.2) fun _ => hw, if_neg hs, ← hww hw'])
  | case10 fuel st i ww hc =>
    refine fun h hi hww => ⟨WFrame.refl _, h, hi, fun hw => ?_⟩
    by_cases h1 : ww ≤ card
    · exact Or.inr (by have : ¬ i < st.lits.length := fun h2 => hc ⟨h1, h2⟩; omega)
    · exact Or.inl (by rw [← hww hw]; omega)

theorem uwLoop2_spec {bs0 : List Bool} {n : Nat} (fuel : Nat) (st : St) (i : Nat) :
    FlagsSet (fun _ => false) st.lits bs0 st.watched n i → n ≤ i →
    (uwLoop2 fuel st i).Spec (UwPre fuel st i) fun st' => WFrame st st' ∧
      ∃ i', st.lits.length ≤ i' ∧ FlagsSet (fun _ => false) st.lits bs0 st'.watched n i' := by
  fun_induction uwLoop2 fuel st i with
  | case1 st i hi => exact fun _ _ ⟨_, _, h⟩ => by omega
  | case2 st i hi fuel hb => exact fun _ _ ⟨_, h, _⟩ => by have := List.getElem?_eq_none_iff.1 hb; omega
  | case3 st i hi fuel _ hl => exact absurd (List.getElem?_eq_none_iff.1 hl) (by omega)
  | case4 st i hi fuel hb l hl ih =>
    exact fun h hn => uw_frame (List.length_set ..)
      (ih (h.step hn hl (List.getElem?_eq_some_iff.1 hb).1) (Nat.le_succ_of_le hn))
  | case5 st i hi fuel hb ih =>
    intro h hn
    obtain ⟨l, hl⟩ : ∃ l, st.lits[i]? = some l := ⟨_, List.getElem?_eq_getElem hi⟩
    have := h.step hn hl (List.getElem?_eq_some_iff.1 hb).1
    rw [set_eq_self hb] at this
    exact uw_frame (bs1 := st.watched) (ed := st.edits) rfl (ih this (Nat.le_succ_of_le hn))
  | case6 fuel st i hi => exact fun h _ => ⟨WFrame.refl _, i, by omega, h⟩

theorem updateWatchPB_spec {card : Int} (st : St) :
    (updateWatchPB card st).Spec
      (st.weights.length = st.lits.length ∧ st.watched.length = st.lits.length) fun st' =>
        WFrame st st' ∧
        (st.weights.length = st.lits.length → st.watched.length = st.lits.length →
          ∃ n, n ≤ st.lits.length ∧
            (∀ k l, st.lits[k]? = some l → st'.watched[k]? = some (decide (k < n) && nfFlag st.m l)) ∧
            (card < wNF st.m (st.weights.take n) (st.lits.take n) ∨ n = st.lits.length)) := by
  unfold updateWatchPB
  have h1 := uwLoop1_spec (card := card) st.lits.length st 0 0 (FlagsSet.refl _ _ _ 0) (Nat.zero_le _) fun _ => rfl
  generalize uwLoop1 card st.lits.length st 0 0 = r1 at h1
  cases r1 with
  | ok p =>
    obtain ⟨st1, n⟩ := p
    obtain ⟨hf, h1, hn, hor⟩ := h1
    obtain ⟨e1, e2, e3, e4⟩ := hf
    have h2 := uwLoop2_spec (n := n) st.lits.length st1 n (FlagsSet.refl _ _ _ n) (Nat.le_refl _)
    rw [e3] at h2
    refine h2.imp (fun ⟨a, b⟩ => ⟨by rw [e4, e3]; exact a, by rw [h1.len, e3]; exact b, by rw [e3]; omega⟩)
      fun st' ⟨⟨f1, f2, f3, f4⟩, i', hi', h2⟩ =>
        ⟨⟨f1.trans e1, f2.trans e2, f3.trans e3, f4.trans e4⟩, fun hw _ => ⟨n, hn, fun k l hl => ?_, hor hw⟩⟩
    by_cases hkn : k < n
    · rw [h2.out k (Or.inl hkn), h1.mid k l (Nat.zero_le _) hkn hl]; simp [hkn]
    · rw [h2.mid k l (by omega) (by have := (List.getElem?_eq_some_iff.1 hl).1; omega) hl]; simp [hkn]
  | panic => exact fun ⟨a, b⟩ => h1 ⟨a, b, by omega⟩
  | fuel => exact fun ⟨a, b⟩ => h1 ⟨a, b, by omega⟩

theorem updateWatchPB_frame {card : Int} {st st' : St} (h : updateWatchPB card st = .ok st') :
    WFrame st st' :=
  ((updateWatchPB_spec st).of_ok h).1

/-- Watch invariant after `updateWatchPB`: the watched positions are the positions below some `n` whose
    literal is not false, and their weight exceeds `card` unless `n = len`. -/
theorem watchedEnough_after_update {card : Int} {st st' : St}
    (hw : st.weights.length = st.lits.length) (hwt : st.watched.length = st.lits.length)
    (h : updateWatchPB card st = .ok st') :
    ∃ n, n ≤ st.lits.length ∧
      (∀ k l, st.lits[k]? = some l → st'.watched[k]? = some (decide (k < n) && nfFlag st.m l)) ∧
      (card < wNF st.m (st.weights.take n) (st.lits.take n) ∨ n = st.lits.length) :=
  ((updateWatchPB_spec st).of_ok h).2 hw hwt

/-- How the last round of `simplifyPseudoBool` ends, from the state `sk` it starts in: enough weight is
    true; too little is not false; exactly `card` is not false (`slack == 0`, `propagateAll`); or more
    is, nothing is to be propagated, and the watches are updated. -/
inductive PbEnd (lvl card : Int) (sk : St) : Bool → St → Prop
  | sat : ((∀ w ∈ sk.weights, 0 ≤ w) → card ≤ wT sk.m sk.weights sk.lits) → PbEnd lvl card sk true sk
  | confl : wNF sk.m sk.weights sk.lits < card → PbEnd lvl card sk false sk
  | all : wNF sk.m sk.weights sk.lits = card → PbEnd lvl card sk true (propagateAll lvl sk)
  | upd {st' : St} : card < wNF sk.m sk.weights sk.lits → updateWatchPB card sk = .ok st' →
      PbEnd lvl card sk true st'

/-- The fuel is enough when `lvl ≠ 0`: each pass but the last binds a literal of the constraint (`Steps.indet`). -/
theorem pbLoop_spec {lvl card : Int} (fuel : Nat) (st : St) :
    (pbLoop lvl card fuel st).Spec
      (lvl ≠ 0 ∧ st.weights.length = st.lits.length ∧ st.watched.length = st.lits.length ∧
        cnt st.m .indet st.lits < fuel)
      fun (b, st') => ∃ ps sk, Steps lvl (Short (st.weights.zip st.lits) card) st ps sk ∧ PbEnd lvl card sk b st' := by
  fun_induction pbLoop lvl card fuel st
  case case1 st => exact fun h => by have := cnt_nonneg st.m .indet st.lits; omega
  case case2 st slack hss =>
    exact ⟨[], _, .nil _, .sat (((slackSum_spec card st).of_ok hss).2 rfl)⟩
  case case3 st slack sat hss hsat hneg =>
    have := ((slackSum_spec card st).of_ok hss).1 (by simpa using hsat)
    exact ⟨[], _, .nil _, .confl (by omega)⟩
  case case4 st sat hsat hss _ =>
    have := ((slackSum_spec card st).of_ok hss).1 (by simpa using hsat)
    exact ⟨[], _, .nil _, .all (by omega)⟩
  case case5 st slack sat hss hsat _ _ st1 hpass ih =>
    have hsl := ((slackSum_spec card st).of_ok hss).1 (by simpa using hsat)
    obtain ⟨ps, hs, hfu⟩ := (pbPassLoop_spec _ _ _ _ fun _ h => h).of_ok hpass
    -- with the slack that `slackSum` reports the pass is a run for `Short`
    have hs := hs.short (ts := st.weights.zip st.lits) (card := card)
      (fun l ⟨w, hm, hw⟩ => ⟨w, hm, by rw [← wNF_eq_litSum]; omega⟩) fun _ _ => rfl
    obtain ⟨m1, rfl⟩ := hs.after
    refine ih.imp (fun ⟨hlvl, hw, hwt, hf⟩ => ⟨hlvl, hw, hwt, ?_⟩)
      fun _ ⟨ps', sk, hs', he⟩ => ⟨ps ++ ps', sk, hs.trans hs', he⟩
    -- `foundUnit` is set: a literal of the constraint has been bound
    have := hs.indet hlvl (L := st.lits) fun _ _ ⟨_, _, hm, _⟩ => (List.of_mem_zip hm).2
    cases ps with
    | nil => cases hfu
    | cons => simp only [List.length_cons] at this ⊢; omega
  case case6 st slack sat hss hsat _ _ st1 hpass st2 hu =>
    have hsl := ((slackSum_spec card st).of_ok hss).1 (by simpa using hsat)
    cases pbPassLoop_none hpass
    exact ⟨[], _, .nil _, .upd (by omega) hu⟩
  case case7 hpass hu =>
    cases pbPassLoop_none hpass
    exact fun ⟨_, hw, hwt, _⟩ => (updateWatchPB_spec _).of_panic hu ⟨hw, hwt⟩
  case case8 hpass hu =>
    cases pbPassLoop_none hpass
    exact fun ⟨_, hw, hwt, _⟩ => (updateWatchPB_spec _).of_fuel hu ⟨hw, hwt⟩
  case case9 hpass => exact fun ⟨_, hw, _⟩ => (pbPassLoop_spec _ _ _ _ fun _ h => h).of_panic hpass (by omega)
  case case10 hpass => exact fun ⟨_, hw, _⟩ => (pbPassLoop_spec _ _ _ _ fun _ h => h).of_fuel hpass (by omega)
  case case11 hss => exact fun ⟨_, hw, _⟩ => (slackSum_spec _ _).of_panic hss (by omega)
  case case12 hss => exact fun ⟨_, hw, _⟩ => (slackSum_spec _ _).of_fuel hss (by omega)

theorem pbLoop_run {lvl card : Int} {fuel : Nat} {st st' : St} {b : Bool}
    (h : pbLoop lvl card fuel st = .ok (b, st')) :
    ∃ ps m1, Steps lvl (Short (st.weights.zip st.lits) card) st ps (st.after m1 ps) ∧
      PbEnd lvl card (st.after m1 ps) b st' :=
  let ⟨ps, _, hs, he⟩ := (pbLoop_spec fuel st).of_ok h
  let ⟨m1, e⟩ := hs.after
  ⟨ps, m1, e ▸ hs, e ▸ he⟩

/-- (c) for `simplifyPseudoBool`: no panic, termination, with as many weights and watch flags as literals
    (`NewPBClause`) — in the model, where flags and watch lists agree; `removeFrom` is only reached under
    `watched[i]`.  `lvl ≠ 0` is needed for termination: `pb_loops_at_level_zero`. -/
theorem pb_no_panic {lvl card : Int} (hlvl : lvl ≠ 0) (st : St)
    (hw : st.weights.length = st.lits.length) (hwt : st.watched.length = st.lits.length) :
    ∃ b st', simplifyPB lvl card st = .ok (b, st') := by
  have h1 := cnt_total st.m st.lits
  have h2 := cnt_nonneg st.m .sat st.lits
  have h3 := cnt_nonneg st.m .unsat st.lits
  obtain ⟨⟨b, st'⟩, h, _⟩ := (pbLoop_spec (lvl := lvl) (card := card) (st.lits.length + 1) st).total
    ⟨hlvl, hw, hwt, by push_cast; omega⟩
  exact ⟨b, st', h⟩

/-- `propagateAll` at `slack == 0`: every unbound literal passes the test because its weight is `≥ 1`; all are
    bound afterwards. -/
theorem propagateAll_steps {lvl card : Int} {sk : St} (hpos : ∀ w ∈ sk.weights, 0 < w)
    (hlen : sk.weights.length = sk.lits.length) (hc : wNF sk.m sk.weights sk.lits = card) :
    ∃ ps, Steps lvl (Short (sk.weights.zip sk.lits) card) sk ps (propagateAll lvl sk) ∧
      (lvl ≠ 0 → ∀ l ∈ sk.lits, (propagateAll lvl sk).m l.natAbs ≠ 0) :=
  let ⟨ps, hs, hb⟩ := propAllLoop_steps (lvl := lvl) sk.lits sk fun _ h => h
  ⟨ps, hs.short (fun _ hl => let ⟨w, hm, hw⟩ := mem_zip_of_mem hlen hl
    ⟨w, hm, by have := hpos w hw; rw [← wNF_eq_litSum]; omega⟩) fun _ _ => rfl, hb⟩

theorem propagateAll_after (lvl : Int) (sk : St) : ∃ m' ps, propagateAll lvl sk = sk.after m' ps :=
  let ⟨ps, hs, _⟩ := propAllLoop_steps (lvl := lvl) sk.lits sk fun _ h => h
  let ⟨m', e⟩ := hs.after
  ⟨m', ps, e⟩

/-- (a) and (b) for `simplifyPseudoBool`. -/
theorem pb_sound {lvl card : Int} (hlvl : 0 < lvl) {st st' : St} {b : Bool}
    (hpos : ∀ w ∈ st.weights, 0 < w) (hlen : st.weights.length = st.lits.length)
    (h : simplifyPB lvl card st = .ok (b, st')) (hp : st.props = []) :
    (b = false → ∀ a, Ext a st.m → ¬ PbHolds a st.weights st.lits card) ∧
    (∀ l ∈ st'.props, Forced st.m (fun a => PbHolds a st.weights st.lits card) l) ∧
    Inv st.m st'.m (fun a => PbHolds a st.weights st.lits card) := by
  have hnn : ∀ w ∈ st.weights, 0 ≤ w := fun w hw => Int.le_of_lt (hpos w hw)
  obtain ⟨ps, m1, hs, he⟩ := pbLoop_run h
  have h1 := hs.sound hlvl (zip_nonneg hnn) (inv_refl st.m _) (by rw [hp]; exact fun _ hl => nomatch hl)
  cases he with
  | sat => exact ⟨(fun hb => nomatch hb), h1.2, h1.1⟩
  | confl hc =>
    refine ⟨fun _ a ha hpb => ?_, h1.2, h1.1⟩
    have := lhs_le_nf (h1.1.2 a ha hpb) (zip_nonneg (ls := st.lits) hnn)
    rw [← wNF_eq_litSum] at this
    exact absurd (Int.le_trans hpb this) (Int.not_le.2 hc)
  | all hc =>
    obtain ⟨ps', hs', _⟩ := propagateAll_steps (lvl := lvl) (sk := st.after m1 ps) hpos hlen hc
    have h2 := hs'.sound hlvl (zip_nonneg hnn) h1.1 h1.2
    exact ⟨(fun hb => nomatch hb), h2.2, h2.1⟩
  | upd _ hu =>
    have hf := updateWatchPB_frame hu
    rw [hf.1, hf.2.1]
    exact ⟨(fun hb => nomatch hb), h1.2, h1.1⟩

theorem pb_conflict_sound {lvl card : Int} (hlvl : 0 < lvl) {st st' : St}
    (hpos : ∀ w ∈ st.weights, 0 < w) (hlen : st.weights.length = st.lits.length)
    (h : simplifyPB lvl card st = .ok (false, st')) (hp : st.props = []) :
    ∀ a, Ext a st.m → ¬ PbHolds a st.weights st.lits card :=
  (pb_sound hlvl hpos hlen h hp).1 rfl

theorem pb_propagated_forced {lvl card : Int} (hlvl : 0 < lvl) {st st' : St} {b : Bool}
    (hpos : ∀ w ∈ st.weights, 0 < w) (hlen : st.weights.length = st.lits.length)
    (h : simplifyPB lvl card st = .ok (b, st')) (hp : st.props = []) :
    ∀ l ∈ st'.props, Forced st.m (fun a => PbHolds a st.weights st.lits card) l :=
  (pb_sound hlvl hpos hlen h hp).2.1

theorem wT_le_wNF (m : Nat → Int) (ws ls : List Int) (hnn : ∀ w ∈ ws, 0 ≤ w) : wT m ws ls ≤ wNF m ws ls := by
  rw [wT_eq_litSum, wNF_eq_litSum]
  refine litSum_mono (zip_nonneg hnn) fun t _ ht => ?_
  rw [nfFlag, beq_iff_eq.1 ht]; rfl

theorem PbEnd.slack_nonneg {lvl card : Int} {sk st' : St} (he : PbEnd lvl card sk true st')
    (hnn : ∀ w ∈ sk.weights, 0 ≤ w) : card ≤ wNF sk.m sk.weights sk.lits := by
  cases he with
  | sat hc => exact Int.le_trans (hc hnn) (wT_le_wNF _ _ _ hnn)
  | all hc => omega
  | upd hc => omega

/-- Completeness at a total assignment (the verdict comes from `slackSum`, recomputed from scratch, not from
    the watches). -/
theorem pb_true_of_total {lvl card : Int} {st st' : St}
    (hnn : ∀ w ∈ st.weights, 0 ≤ w)
    (h : simplifyPB lvl card st = .ok (true, st'))
    (htot : ∀ l ∈ st.lits, st.m l.natAbs ≠ 0) :
    ∀ a, Ext a st.m → PbHolds a st.weights st.lits card := by
  intro a ha
  obtain ⟨ps, m1, hs, he⟩ := pbLoop_run h
  generalize st.after m1 ps = sk at hs he
  -- nothing is unbound: the run is empty
  cases hs with
  | cons hu hg => exact let ⟨_, _, hm, _⟩ := hg; absurd hu (htot _ (List.of_mem_zip hm).2)
  | nil =>
    exact holds_of_total ha (fun t ht => htot _ (List.of_mem_zip ht).2)
      (by rw [← wNF_eq_litSum]; exact he.slack_nonneg hnn)

/-- Weight of the watched positions whose literal is not false. -/
def WW (m : Nat → Int) : List Int → List Int → List Bool → Int
  | w :: ws, l :: ls, b :: bs => (if b && nfFlag m l then w else 0) + WW m ws ls bs
  | _, _, _ => 0

theorem WW_nonneg (m : Nat → Int) (ws ls : List Int) (bs : List Bool) :
    (∀ w ∈ ws, 0 ≤ w) → 0 ≤ WW m ws ls bs := by
  fun_induction WW m ws ls bs
  case case1 w ws l ls b bs ih =>
    intro hnn
    have := ih fun x hx => hnn x (List.mem_cons_of_mem _ hx)
    have := hnn w List.mem_cons_self
    split <;> omega
  case case2 => exact fun _ => Int.le_refl _

theorem WW_le_wNF (m : Nat → Int) (ws ls : List Int) (bs : List Bool) :
    (∀ w ∈ ws, 0 ≤ w) → WW m ws ls bs ≤ wNF m ws ls := by
  fun_induction WW m ws ls bs
  case case1 w ws l ls b bs ih =>
    intro hnn
    have := ih fun x hx => hnn x (List.mem_cons_of_mem _ hx)
    have := hnn w List.mem_cons_self
    rw [wNF]
    by_cases hs : litStatus m l = .unsat
    · rw [nfFlag_eq_false.2 hs, Bool.and_false, if_pos hs, if_neg Bool.false_ne_true]; omega
    · rw [if_neg hs]; split <;> omega
  case case2 => exact fun hnn => by rw [wNF_eq_litSum]; exact litSum_nonneg _ (zip_nonneg hnn)

theorem WW_mono {m m' : Nat → Int} (ws ls : List Int) (bs : List Bool) :
    (∀ w ∈ ws, 0 ≤ w) →
      (∀ (k : Nat) (l : Int), ls[k]? = some l → bs[k]? = some true → litStatus m l ≠ .unsat →
        litStatus m' l ≠ .unsat) →
      WW m ws ls bs ≤ WW m' ws ls bs := by
  fun_induction WW m ws ls bs
  case case1 w ws l ls b bs ih =>
    intro hnn hG
    have := ih (fun x hx => hnn x (List.mem_cons_of_mem _ hx)) fun k l' hl' hb => hG (k + 1) l' hl' hb
    have := hnn w List.mem_cons_self
    rw [WW]
    by_cases hs : b = true ∧ litStatus m l ≠ .unsat
    · rw [hs.1, nfFlag_eq_true.2 hs.2, nfFlag_eq_true.2 (hG 0 l rfl (by rw [hs.1]; rfl) hs.2)]; omega
    · rw [if_neg (by rw [Bool.and_eq_true, nfFlag_eq_true]; exact hs)]; split <;> omega
  case case2 => exact fun hnn _ => WW_nonneg m' _ _ _ hnn

theorem WW_ge_of_char {m : Nat → Int} : ∀ (n : Nat) (ws ls : List Int) (bs : List Bool), (∀ w ∈ ws, 0 ≤ w) →
    (∀ (k : Nat) (l : Int), ls[k]? = some l → bs[k]? = some (decide (k < n) && nfFlag m l)) →
    wNF m (ws.take n) (ls.take n) ≤ WW m ws ls bs
  | 0, ws, ls, bs, hnn, _ => WW_nonneg m ws ls bs hnn
  | _ + 1, [], ls, bs, hnn, _ => WW_nonneg m [] ls bs hnn
  | _ + 1, w :: ws, [], bs, hnn, _ => WW_nonneg m (w :: ws) [] bs hnn
  | _ + 1, _ :: _, l :: _, [], _, hH => nomatch hH 0 l rfl
  | n + 1, w :: ws, l :: ls, b :: bs, hnn, hH => by
    have ih := WW_ge_of_char n ws ls bs (fun x hx => hnn x (List.mem_cons_of_mem _ hx))
      fun k l' hl' => by
        simpa only [Nat.add_lt_add_iff_right, List.getElem?_cons_succ] using hH (k + 1) l' hl'
    cases Option.some.inj (hH 0 l rfl)
    simp only [List.take_succ_cons, wNF, WW, Nat.zero_lt_succ, decide_true, Bool.true_and]
    by_cases hs : litStatus m l = .unsat
    · rw [if_pos hs, nfFlag_eq_false.2 hs]; exact Int.add_le_add_left ih _
    · rw [if_neg hs, nfFlag_eq_true.2 hs]; exact Int.add_le_add_left ih _

theorem updateWatchPB_ww_ge {card : Int} {st st' : St} (hw : st.weights.length = st.lits.length)
    (hwt : st.watched.length = st.lits.length) (hnn : ∀ w ∈ st.weights, 0 ≤ w)
    (h : updateWatchPB card st = .ok st') (h0 : card ≤ wNF st.m st.weights st.lits) :
    card ≤ WW st.m st.weights st.lits st'.watched := by
  obtain ⟨n, _, hH, hor⟩ := watchedEnough_after_update hw hwt h
  have h1 := WW_ge_of_char n st.weights st.lits st'.watched hnn hH
  rcases hor with h4 | h4
  · omega
  · subst h4
    rw [List.take_of_length_le (Nat.le_refl _), List.take_of_length_le (by omega)] at h1
    omega

/-- No missed conflict (watch side of completeness for a pseudo-boolean constraint): `updateWatchPB` is
    reached with `slack ≥ 0`; afterwards, under any assignment `m'` (later bindings, or fewer after a
    backjump) that makes no watched literal false, the slack is still `≥ 0`: the constraint cannot be
    violated without `propagate` visiting it (`wlistPb[lit]` holds it for the negation of every watched
    literal). -/
theorem pb_no_missed_conflict {card : Int} {st st' : St}
    (hw : st.weights.length = st.lits.length) (hwt : st.watched.length = st.lits.length)
    (hnn : ∀ w ∈ st.weights, 0 ≤ w) (h : updateWatchPB card st = .ok st')
    (hslack : card ≤ wNF st.m st.weights st.lits) (m' : Nat → Int)
    (hG : ∀ (k : Nat) (l : Int), st'.lits[k]? = some l → st'.watched[k]? = some true → litStatus m' l ≠ .unsat) :
    card ≤ wNF m' st.weights st.lits := by
  rw [(updateWatchPB_frame h).2.2.1] at hG
  exact Int.le_trans (updateWatchPB_ww_ge hw hwt hnn h hslack) (Int.le_trans
    (WW_mono st.weights st.lits st'.watched hnn fun k l hl hb _ => hG k l hl hb)
    (WW_le_wNF m' st.weights st.lits st'.watched hnn))

theorem pb_watch_complete_at_total {card : Int} {st st' : St}
    (hw : st.weights.length = st.lits.length) (hwt : st.watched.length = st.lits.length)
    (hnn : ∀ w ∈ st.weights, 0 ≤ w) (h : updateWatchPB card st = .ok st')
    (hslack : card ≤ wNF st.m st.weights st.lits) (m' : Nat → Int)
    (hG : ∀ (k : Nat) (l : Int), st'.lits[k]? = some l → st'.watched[k]? = some true → litStatus m' l ≠ .unsat)
    (htot : ∀ l ∈ st.lits, m' l.natAbs ≠ 0) :
    ∀ a, Ext a m' → PbHolds a st.weights st.lits card :=
  fun a ha => holds_of_total ha (fun t ht => htot _ (List.of_mem_zip ht).2)
    (by rw [← wNF_eq_litSum]; exact pb_no_missed_conflict hw hwt hnn h hslack m' hG)

/-- The watches of a pseudo-boolean constraint, per call.  `simplifyPseudoBool` returns early (without
    `updateWatchPB`) when `slackSum` reports `sat`, when `slack == 0` (`propagateAll`) and on a conflict;
    the watches are then those of an earlier call.  The statement: a call that answers `true` ends in a state
    from which no conflict can be missed.  It also assumes watches at the call as `updateWatchPB` leaves them;
    the proof, `pb_watch_invariant_call` in `GS.Props.C02_PbPropWatch`, does not use that (the call recomputes
    from scratch).  The invariant that holds across calls, these early returns and `cleanupBindings` is `WInv`
    there. -/
def pb_watch_invariant_call_statement : Prop :=
  ∀ (card lvl : Int) (st st' : St), st.weights.length = st.lits.length →
    st.watched.length = st.lits.length → (∀ w ∈ st.weights, 0 < w) → 0 < lvl →
    (st.lits.map Int.natAbs).Nodup →
    (∃ n, (∀ (k : Nat) (l : Int), st.lits[k]? = some l →
        st.watched[k]? = some (decide (k < n) && nfFlag st.m l)) ∧
      (card < wNF st.m (st.weights.take n) (st.lits.take n) ∨ n = st.lits.length)) →
    simplifyPB lvl card st = .ok (true, st') →
    ∀ m' : Nat → Int, (∀ v, st'.m v ≠ 0 → m' v = st'.m v) →
      (∀ (k : Nat) (l : Int), st'.lits[k]? = some l → st'.watched[k]? = some true → litStatus m' l ≠ .unsat) →
      card ≤ wNF m' st'.weights st'.lits

theorem amoScan_spec {m : Nat → Int} {lits : List Int} (n i : Nat) (ff b : Bool) :
    amoScan m lits n i ff = .ok b →
      (b = false → 2 ≤ (if ff then 1 else 0) + cnt m .unsat ((lits.drop i).take n)) ∧
      (b = true → n ≤ (lits.drop i).length ∧
        (if ff then 1 else 0) + cnt m .unsat ((lits.drop i).take n) ≤ 1) := by
  fun_induction amoScan m lits n i ff
  case case1 => exact fun h => by cases h; simp only [List.take_zero, cnt]; split <;> simp
  case case2 => exact fun h => nomatch h
  case case3 n i l hl hs =>
    intro h
    have := cnt_nonneg m .unsat ((lits.drop (i + 1)).take n)
    cases h
    rw [drop_cons_of_getElem? hl, List.take_succ_cons, cnt_cons, if_pos hs]
    exact ⟨fun _ => by simp only [if_true]; omega, fun h => nomatch h⟩
  case case4 n i ff l hl hs hff ih =>
    intro h
    rw [drop_cons_of_getElem? hl, List.take_succ_cons, cnt_cons, if_pos hs, if_neg hff, List.length_cons]
    have := ih h
    simp only [if_true] at this
    exact ⟨fun hb => by have := this.1 hb; omega, fun hb => by have := this.2 hb; omega⟩
  case case5 n i ff l hl hs ih =>
    intro h
    rw [drop_cons_of_getElem? hl, List.take_succ_cons, cnt_cons, if_neg hs, List.length_cons]
    have := ih h
    exact ⟨fun hb => by have := this.1 hb; omega, fun hb => by have := this.2 hb; omega⟩

theorem cnt_pos_of_mem {m : Nat → Int} {s : Status} {l : Int} {ls : List Int} (hl : l ∈ ls)
    (hs : litStatus m l = s) : 1 ≤ cnt m s ls := by
  have := litSum_mono_lt (p := fun _ => false) (q := fun l => litStatus m l == s) (ones_nonneg ls)
    (fun _ _ h => nomatch h) (mem_ones hl) rfl (beq_iff_eq.2 hs)
  rw [← cnt_eq_litSum] at this
  have := litSum_nonneg (fun _ => false) (ones_nonneg ls)
  omega

theorem simplifyCardAMO_run {lvl card : Int} {st st' : St} {b : Bool}
    (h : simplifyCardAMO lvl card st = .ok (b, st')) :
    (b = false ∧ st' = st ∧ amoScan st.m st.lits (card + 1).toNat 0 false = .ok false) ∨
    (b = true ∧ amoProp lvl (card + 1).toNat 0 st = .ok st') := by
  unfold simplifyCardAMO at h
  split at h
  · rename_i hsc; cases h; exact Or.inl ⟨rfl, rfl, hsc⟩
  · cases hq : amoProp lvl (card + 1).toNat 0 st <;> rw [hq] at h <;> cases h
    exact Or.inr ⟨rfl, rfl⟩
  · cases h
  · cases h

/-- (a) for `simplifyCardAMOConstr` on an at-most-one shaped constraint (`card = len − 1`). -/
theorem amo_conflict_sound {lvl card : Int} {st st' : St} (hshape : card + 1 = st.lits.length)
    (h : simplifyCardAMO lvl card st = .ok (false, st')) :
    ∀ a, Ext a st.m → ¬ CardHolds a st.lits card := by
  intro a ha hc
  have hn : (card + 1).toNat = st.lits.length := by omega
  rcases simplifyCardAMO_run h with ⟨_, _, hsc⟩ | ⟨hb, _⟩
  · have := (amoScan_spec _ _ _ _ hsc).1 rfl
    -- with `card + 1 = len` the scan has covered the whole constraint
    rw [hn, List.drop_zero, List.take_length, if_neg Bool.false_ne_true] at this
    have h2 := lhs_le_nf ha (ones_nonneg st.lits)
    rw [nf_ones] at h2
    have h3 := cnt_total st.m st.lits
    exact absurd (Int.le_trans hc h2) (by omega)
  · cases hb

/-- (b) for `simplifyCardAMOConstr`.  `hfalse`: one literal of the constraint is false (the function is
    meant to be called from `wlistCardAMO[lit]`, i.e. when `¬lit`, a literal of the constraint, has just
    become false); without it: `amo_unsound_without_false`. -/
theorem amo_propagated_forced {lvl card : Int} (hlvl : 0 < lvl) {st st' : St} {b : Bool}
    (hshape : card + 1 = st.lits.length)
    (hfalse : ∃ l ∈ st.lits, litStatus st.m l = .unsat)
    (h : simplifyCardAMO lvl card st = .ok (b, st')) (hp : st.props = []) :
    ∀ l ∈ st'.props, Forced st.m (fun a => CardHolds a st.lits card) l := by
  have hnil : ∀ l ∈ st.props, Forced st.m (fun a => CardHolds a st.lits card) l := by
    rw [hp]; exact fun _ hl => nomatch hl
  rcases simplifyCardAMO_run h with ⟨_, rfl, _⟩ | ⟨_, hq⟩
  · exact hnil
  · obtain ⟨l0, hl0, hs0⟩ := hfalse
    have h1 := cnt_pos_of_mem hl0 hs0
    have h3 := cnt_total st.m st.lits
    obtain ⟨ps, hs⟩ := amoProp_steps _ _ _ _ hq
    have hs := hs.short (card := card) (fun l hl => ⟨1, mem_ones hl, by rw [nf_ones]; omega⟩) fun _ _ => rfl
    exact (hs.sound hlvl (ones_nonneg _) (inv_refl _ _) hnil).2

/-- Witness for `hfalse`: `x1 + x2 + x3 ≥ 2`, nothing bound: `simplifyCardAMOConstr` propagates
    `x1, x2, x3`, but `x1` is false in the model `{¬x1, x2, x3}` of the constraint. (Dead code in the
    solver as it stands: nothing is ever put in `wlistCardAMO`, see `GS.Model.PbProp`.) -/
theorem amo_unsound_without_false :
    ∃ st', simplifyCardAMO 2 2 (St.init (fun _ => 0) [1, 2, 3] [1, 1, 1] [true, true, true]) = .ok (true, st') ∧
      st'.props = [1, 2, 3] ∧
      ¬ Forced (fun _ => 0) (fun a => CardHolds a [1, 2, 3] 2) 1 := by
  refine ⟨_, rfl, rfl, ?_⟩
  intro h
  have := h (fun v => decide (v ≠ 1)) (by intro v; constructor <;> intro h <;> simp at h)
    (by unfold CardHolds; decide)
  revert this; decide

def view : Res (Bool × St) → Option (Bool × List Int × List Int × List Bool × List (Bool × Int))
  | .ok (b, st) => some (b, st.props, st.lits, st.watched, st.edits)
  | _ => none

def mOf (ms : List Int) : Nat → Int := fun v => if v = 0 then 0 else (ms[v - 1]?).getD 0

theorem pb_loops_at_level_zero_aux :
    ∀ (fuel : Nat) (st : St), (∀ v, st.m v = 0) → st.lits = [1, 2] → st.weights = [2, 1] →
      pbLoop 0 2 fuel st = .fuel := by
  intro fuel
  induction fuel with
  | zero => intro st _ _ _; simp [pbLoop]
  | succ fuel ih =>
    intro st hm hL hW
    have h1 : litStatus st.m 1 = .indet := status_indet_iff.2 (hm _)
    have h2 : litStatus st.m 2 = .indet := status_indet_iff.2 (hm _)
    have hm' : ∀ v, (propagateUnit st 0 1).m v = 0 := by
      intro v; simp only [propagateUnit, bind, signedLvl]; split <;> simp [hm]
    have h3 : litStatus (propagateUnit st 0 1).m 2 = .indet := status_indet_iff.2 (hm' _)
    have := ih (propagateUnit st 0 1) hm' hL hW
    simp only [pbLoop, slackSum, hL, hW, slackLoop, h1, h2, pbPassLoop]
    simp [h3, this]

/-- At level `0` `propagateUnit` leaves the literal unbound and the `for foundUnit` loop never ends
    (the solver never uses level `0`: top-level bindings are at level `1`, the search starts at `2`): whatever
    the fuel, it runs out. -/
theorem pb_loops_at_level_zero (fuel : Nat) :
    pbLoop 0 2 fuel (St.init (fun _ => 0) [1, 2] [2, 1] [true, true]) = .fuel :=
  pb_loops_at_level_zero_aux fuel _ (fun _ => rfl) rfl rfl

/-- Witness for the distinct-variables hypothesis: `x1 + ¬x1 + x2 + x3 ≥ 3` with `x3` false:
    `nbUnb + nbTrue == card`, the loop `for nbUnb > 0` binds `x1`, finds `¬x1` bound, binds `x2`, then
    runs past the end of the constraint (`clause.Get(4)`). -/
theorem card_panics_on_duplicate_variable :
    (match simplifyCard 2 3 (St.init (fun v => if v = 3 then -1 else 0) [1, -1, 2, 3] [1, 1, 1, 1] [true, true, true, true]) with
     | .panic => true | _ => false) = true := by decide

/-- Witness for the comment above `swapFalse`: called with fewer than `card+1` non-false literals it
    indexes past the end of the constraint. -/
theorem swapFalse_panics_without_precondition :
    (match swapFalse 1 (St.init (fun _ => -1) [1, 2, 3] [1, 1, 1] [true, true, false]) with
     | .panic => true | _ => false) = true := by decide

/-- Witness for "watched flags consistent": `swapFalse` on a constraint that is not in the watch list
    of the literal it moves away panics in `removeFrom`. -/
theorem swapFalse_panics_when_not_watched :
    (match swapFalse 1 (St.init (fun v => if v = 1 then -1 else 0) [1, 2, 3] [1, 1, 1] [false, true, false]) with
     | .panic => true | _ => false) = true := by decide

/-- Witness for `weights ≥ 1` in `pb_sound`: `x1 + x2 + 0·x3 ≥ 1` with `x1` false: `slack == 0`,
    `propagateAll` propagates `x3` although `{¬x1, x2, ¬x3}` satisfies the constraint. -/
theorem pb_zero_weight_not_forced :
    view (simplifyPB 2 1 (St.init (mOf [-1, 0, 0]) [1, 2, 3] [1, 1, 0] [true, true, false]))
      = some (true, [2, 3], [1, 2, 3], [true, true, false], []) ∧
    ¬ Forced (mOf [-1, 0, 0]) (fun a => PbHolds a [1, 1, 0] [1, 2, 3] 1) 3 := by
  refine ⟨by rfl, ?_⟩
  intro h
  have := h (fun v => decide (v = 2)) (by intro v; constructor <;> intro h <;> revert h <;> unfold mOf <;> (rcases v with _ | _ | _ | _ | v <;> simp))
    (by unfold PbHolds; decide)
  revert this; decide

/-! ## Non-vacuity: concrete calls meeting the hypotheses -/

-- card_conflict_sound: x1+x2+x3+x4 ≥ 2 with x1,x2,x3 false
example : view (simplifyCard 2 2 (St.init (mOf [-1, -1, -1, 0]) [1, 2, 3, 4] [1, 1, 1, 1] [true, true, true, false]))
    = some (false, [], [1, 2, 3, 4], [true, true, true, false], []) := by rfl
-- card_propagated_forced: x1,x2 false: x3,x4 propagated
example : view (simplifyCard 2 2 (St.init (mOf [-1, -1, 0, 0]) [1, 2, 3, 4] [1, 1, 1, 1] [true, true, true, false]))
    = some (true, [3, 4], [1, 2, 3, 4], [true, true, true, false], []) := by rfl
-- card_up_strength / swapFalse: x1 false: swapped with x4, watch moved
example : view (simplifyCard 2 2 (St.init (mOf [-1, 0, 0, 0]) [1, 2, 3, 4] [1, 1, 1, 1] [true, true, true, false]))
    = some (true, [], [4, 2, 3, 1], [true, true, true, false], [(false, 1), (true, 4)]) := by rfl
-- card_true_of_total: total assignment, two true
example : view (simplifyCard 2 2 (St.init (mOf [-1, 1, 1, -1]) [1, 2, 3, 4] [1, 1, 1, 1] [true, true, true, false]))
    = some (true, [], [1, 2, 3, 4], [true, true, true, false], []) := by rfl
example : ∀ l ∈ [1, 2, 3, 4], (mOf [-1, 1, 1, -1]) (Int.natAbs l) ≠ 0 := by decide
example : ([1, 2, 3, 4].map Int.natAbs).Nodup := by decide
-- pb_sound: 3x1+2x2+x3 ≥ 3 with x1 false: x2, x3 propagated (slack 0); with x1, x2 false: conflict
example : view (simplifyPB 2 3 (St.init (mOf [-1, 0, 0]) [1, 2, 3] [3, 2, 1] [true, true, true]))
    = some (true, [2, 3], [1, 2, 3], [true, true, true], []) := by rfl
example : view (simplifyPB 2 3 (St.init (mOf [-1, -1, 0]) [1, 2, 3] [3, 2, 1] [true, true, true]))
    = some (false, [], [1, 2, 3], [true, true, true], []) := by rfl
-- the `for foundUnit` loop runs twice and `updateWatchPB` edits the lists: 4x1+3x2+2x3+x4+x5 ≥ 6, x2 false
example : view (simplifyPB 2 6 (St.init (mOf [0, -1, 0, 0, 0]) [1, 2, 3, 4, 5] [4, 3, 2, 1, 1] [true, true, true, true, false]))
    = some (true, [1], [1, 2, 3, 4, 5], [true, false, true, true, false], [(false, 2)]) := by rfl
example : ∀ w ∈ [3, 2, 1], (0 : Int) < w := by decide
-- pb_true_of_total
example : view (simplifyPB 2 3 (St.init (mOf [-1, 1, 1]) [1, 2, 3] [3, 2, 1] [true, true, true]))
    = some (true, [], [1, 2, 3], [true, true, true], []) := by rfl
-- amo: x1+x2+x3 ≥ 2, x1 false: x2, x3 propagated; x1, x2 false: conflict
example : view (simplifyCardAMO 2 2 (St.init (mOf [-1, 0, 0]) [1, 2, 3] [1, 1, 1] [true, true, true]))
    = some (true, [2, 3], [1, 2, 3], [true, true, true], []) := by rfl
example : view (simplifyCardAMO 2 2 (St.init (mOf [-1, -1, 0]) [1, 2, 3] [1, 1, 1] [true, true, true]))
    = some (false, [], [1, 2, 3], [true, true, true], []) := by rfl
example : ∃ l ∈ [1, 2, 3], litStatus (mOf [-1, 0, 0]) l = .unsat := ⟨1, by decide, by decide⟩

#print axioms card_conflict_sound
#print axioms card_propagated_forced
#print axioms card_true_of_total
#print axioms card_up_strength
#print axioms card_no_panic
#print axioms swapFalse_ok_and_watches
#print axioms swapFalse_precondition
#print axioms watchedEnough_after_update
#print axioms pb_no_missed_conflict
#print axioms pb_watch_complete_at_total
#print axioms pb_sound
#print axioms pb_true_of_total
#print axioms pb_no_panic
#print axioms pb_loops_at_level_zero
#print axioms amo_conflict_sound
#print axioms amo_propagated_forced
#print axioms amo_unsound_without_false
#print axioms pb_zero_weight_not_forced
#print axioms card_panics_on_duplicate_variable

end GS.PbProp
