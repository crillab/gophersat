import GS.Props.C01_WatchLevels
/-!
# C01 (support) — `propagate` and the levels: what happens to the bindings

Two facts towards `propagate_specL_statement`, about bindings only (nothing here speaks of watchers or of
trail positions): `propagate_ModelExt`, two conjuncts of `propagate_grows`, and `propagate_levels`, the
literals on the trail keep their level and no level exceeds `lvl`.
-/
namespace GS.Watch
open GS.Search (lvlAbs keepLen cleanup)

theorem propagate_ModelExt {ptr : Nat} {lvl : Int} {st st' : State} {c : Option Nat}
    (h : propagate ptr lvl st = .ok (c, st')) :
    ModelExt lvl st.model st'.model ∧ st'.model.length = st.model.length :=
  ⟨(propagate_grows h).2.1, (propagate_grows h).2.2.1⟩

#print axioms propagate_ModelExt

/-- **Levels after `propagate`**: the literals that were on the trail keep their level, and (when `lvl`
    bounds the levels of the trail before) every level after is `≤ lvl`: so `SemWL_of_top` applies to
    the watchers of every trail literal bound at `lvl`. -/
theorem propagate_levels {ptr : Nat} {lvl : Int} {st st' : State} {c : Option Nat}
    (hI : WatchInv st ptr) (hlvl : 0 < lvl) (hmax : ∀ t ∈ st.trail, lvlAbs st.model t ≤ lvl)
    (h : propagate ptr lvl st = .ok (c, st')) :
    (∀ t ∈ st.trail, lvlAbs st'.model t = lvlAbs st.model t) ∧ (∀ x, lvlAbs st'.model x ≤ lvl) := by
  obtain ⟨hE, _⟩ := propagate_ModelExt h
  constructor
  · intro t ht
    obtain ⟨_, a, ha, ha0, _⟩ := litTrueB_iff.mp (hI.trail_true t ht)
    rcases hE (t.natAbs - 1) with e | ⟨e0, _⟩
    · exact lvlAbs_congr e
    · rw [ha] at e0; cases e0; exact absurd rfl ha0
  · intro x
    rcases hE (x.natAbs - 1) with e | ⟨_, e | e⟩
    · rw [lvlAbs_congr e]
      cases hx : st.model[x.natAbs - 1]? with
      | none => unfold lvlAbs; rw [hx]; simp; omega
      | some a =>
        have hlt : x.natAbs - 1 < st.model.length := (List.getElem?_eq_some_iff.mp hx).1
        rcases hI.bound_on_trail _ hlt with hb | hb
        · unfold lvlAbs; rw [hb]; simp; omega
        · obtain ⟨t, ht, htv⟩ := List.mem_map.mp hb
          have : lvlAbs st.model x = lvlAbs st.model t := by
            unfold lvlAbs
            have : t.natAbs - 1 = x.natAbs - 1 := by omega
            rw [this]
          rw [this]; exact hmax t ht
    · unfold lvlAbs; rw [e]; simp; omega
    · unfold lvlAbs; rw [e]; simp; omega

#print axioms propagate_levels

/-- What is still open: `GS.Watch.propagate_specL_statement` (the watchers of the trail literals at
    positions `< ptr` keep an excuse at a level `≤` theirs; `mono` for the appended literals). -/
def propagate_specL_open : Prop := propagate_specL_statement

/-- non-vacuity: the hypotheses of `propagate_levels` on the backjump example of `C01_WatchLevels` -/
example : watchInv (bindSt (cleanup 2 exLevels) (-1) 2 1) 1 = true ∧
    (∀ t ∈ (bindSt (cleanup 2 exLevels) (-1) 2 1).trail,
      lvlAbs (bindSt (cleanup 2 exLevels) (-1) 2 1).model t ≤ 2) ∧
    (match propagate 1 2 (bindSt (cleanup 2 exLevels) (-1) 2 1) with
     | .ok (none, s) => s.model.all (fun a => decide (a.natAbs ≤ 2)) | _ => false) = true := by decide +kernel

end GS.Watch
