import GS.Check.Brute
import GS.Check.Rup
/-!
# C01 — CNF satisfiability verdicts and models are correct

The oracles that judge the answers of the implementation are proved against the spec in
`GS.Check.Brute`, `GS.Check.Rup`: `bruteSat_iff` (exhaustive verdict), `Problem.holds_congr`
(a model only matters on the declared variables), `rupRefutes_sound` (an accepted refutation
means no model exists).  Here the three judgements are stated on the clauses as written, sound for
**every** formula and answer, not only the sampled ones: `C01_sat_answer_sound`, and under the
property's name `C01_unsat_answer_sound` (= `rupRefutes_sound`) and `C01_verdict_oracle`
(= `bruteCnfSat_iff`); `props.json` audits these names, proofs cite the ones of `GS.Check`.

What ties it to /repo (DESIGN.md §3, §7 C01): every generated formula is solved by the
implementation and its answer is judged in the compiled driver (`GS.Ops`), the certificate by
`rupRefutes`, verdict and model on the clauses read as linear constraints (`Problem.ofCnf`, the same
truth value by `ofCnf_holds`): the verdict by `bruteSat`, a model by the op `eval`, which tests
`Problem.wf`, the length, and `Ops.firstViolated … = none`.  That the last is `Problem.holds` is read
off its three lines; no theorem states it.  `judgeSat` and `bruteCnfSat` are not what runs for C01.
-/
namespace GS

/-- What is asked of a `Sat` answer: the model has one value per declared variable and
    satisfies every clause as written. -/
def judgeSat (n : Nat) (f : List (List Int)) (m : List Bool) : Bool :=
  m.length == n && cnfTrue (asgOf m) f

theorem C01_sat_answer_sound (n : Nat) (f : List (List Int)) (m : List Bool)
    (h : judgeSat n f m = true) : m.length = n ∧ CnfSat f := by
  unfold judgeSat at h
  simp only [Bool.and_eq_true, beq_iff_eq] at h
  exact ⟨h.1, asgOf m, h.2⟩

/-- Judgement applied to an `Unsat` answer that comes with certificate lines. -/
theorem C01_unsat_answer_sound (n : Nat) (f lines : List (List Int))
    (h : rupRefutes n f lines = true) : ¬ CnfSat f := rupRefutes_sound n f lines h

/-- The exhaustive verdict on the clauses as written (the driver asks it for C07, C08, C19). -/
theorem C01_verdict_oracle (n : Nat) (f : List (List Int)) (hw : cnfWf n f = true) :
    (bruteCnfSat n f = true ↔ CnfSat f) := bruteCnfSat_iff n f hw

-- non-vacuity: a concrete formula meets the hypotheses
example : judgeSat 3 [[1, -2], [2, 3], [-1, -1, 3]] [true, true, true] = true := by decide +kernel
example : rupRefutes 2 [[1, 2], [-1, 2], [1, -2], [-1, -2]] [[2], []] = true := by decide +kernel

end GS
