import GS.Check.Rup
/-!
# C06 — every Unsat answer on CNF comes with a valid RUP refutation

`rupFirstBad`/`rupValid`/`rupRefutes` are the certificate checker: Lean code, which shares none with
the solver or with package `explain` (its clause scan has the design of `explain`'s, see the header of
`GS.Check.Rup`). Proved for every formula and every line sequence:
accepted lines are logical consequences (`rupValid_sound`, also used for certificates of
satisfiable runs) and an accepted refutation means the formula is unsatisfiable
(`rupRefutes_sound`). Repeated literals and tautological lines are handled (`scan`,
`assumeNeg`), the empty clause is a line like any other. The theorems below are those of
`GS.Check.Rup` under the property's name, which `props.json` audits; proofs cite the names there.
-/
namespace GS

theorem C06_lines_are_consequences (n : Nat) (f lines : List (List Int))
    (h : rupValid n f lines = true) : ∀ c ∈ lines, CnfEntails f c := rupValid_sound n f lines h

theorem C06_refutation_sound (n : Nat) (f lines : List (List Int))
    (h : rupRefutes n f lines = true) : ¬ CnfSat f := rupRefutes_sound n f lines h

theorem C06_step_sound (n : Nat) (f : List (List Int)) (c : List Int)
    (h : rupLine n f c = true) : CnfEntails f c := rupLine_sound n f c h

example : rupValid 3 [[1, 2], [-1, 2], [-2, 3]] [[2], [3]] = true := by decide +kernel
example : rupValid 3 [[1, 2], [-1, 2], [-2, 3]] [[1]] = false := by decide +kernel

end GS
