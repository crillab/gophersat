import GS.Model.Append
import GS.Props.C01_Simplify
/-!
# C09 — the simplification prologue of `(*Solver).AppendClause` is semantically correct

About the mirror `GS.Append.appendSimplify` (`GS/Model/Append.lean`) of `/repo/solver/solver.go`.

`appendSimplify_sem`: a constraint `c` with `WfInput c` holds under an assignment that agrees with the top-level
model **iff** the outcome is right for that assignment (`Result.holds`); in the unit case too: Go drops the
constraint and keeps only the units, and that is enough. `appendSimplify_units`, `appendSimplify_attach`: the shape
of what is handed to `propagateUnits` / `appendClause`. `appendSimplify_clause_nodup` (no hypothesis): the
duplicate-removal loops are complete.

Each of the three loops is read on a split of the slice, `P` before the index and `T` from it on: it leaves
`P` as it is and, of `T`, what it keeps, in some order (`dedupInner_eq`, `dedupOuter_eq`, `scan_spec` with
`ScanSpec`; the fuel `Len()` suffices: `len(T) ≤ fuel`). What the kept part means under an assignment that agrees
with the model is said once, for any list of terms: `lhs_resid`.

Null weights are inside `WfInput`: the Go loop drops their literals
(`if clause.Weight(i) == 0 { clause.removeLit(i); continue }`), see the examples at the end of the file.
-/
namespace GS.Append
open GS GS.Simplify

theorem removeAt_nil {α : Type} (i : Nat) : removeAt ([] : List α) i = [] := rfl

theorem removeAt_cons_zero {α : Type} (x : α) (xs : List α) : removeAt (x :: xs) 0 = rot xs := by
  cases xs with
  | nil => simp [removeAt, rot]
  | cons y ys =>
    simp only [removeAt, rot, List.getLast?_cons_cons]
    cases h : (y :: ys).getLast? with
    | none => simp at h
    | some z => simp

theorem removeAt_cons_succ {α : Type} (x : α) (xs : List α) (i : Nat) (h : i < xs.length) :
    removeAt (x :: xs) (i + 1) = x :: removeAt xs i := by
  cases xs with
  | nil => simp at h
  | cons y ys =>
    simp only [removeAt, List.getLast?_cons_cons]
    cases hl : (y :: ys).getLast? with
    | none => simp at hl
    | some z =>
      simp only [List.set_cons_succ]
      cases hs : (y :: ys).set i z with
      | nil => simp at hs
      | cons a as => simp [List.dropLast]

theorem removeAt_append {α : Type} (P : List α) (x : α) (T : List α) :
    removeAt (P ++ x :: T) P.length = P ++ rot T := by
  induction P with
  | nil => exact removeAt_cons_zero x T
  | cons p P ih => rw [List.cons_append, List.length_cons, removeAt_cons_succ _ _ _ (by simp), ih]; rfl

theorem removeAt_eq {α : Type} (xs : List α) (i : Nat) (h : i < xs.length) :
    removeAt xs i = xs.take i ++ rot (xs.drop (i + 1)) := by
  have e := removeAt_append (xs.take i) xs[i] (xs.drop (i + 1))
  rwa [← List.drop_eq_getElem_cons h, List.take_append_drop, List.length_take, Nat.min_eq_left (Nat.le_of_lt h)] at e

theorem removeAt_perm {α : Type} (xs : List α) (i : Nat) (x : α) (h : xs[i]? = some x) :
    (x :: removeAt xs i).Perm xs := by
  obtain ⟨hi, rfl⟩ := List.getElem?_eq_some_iff.mp h
  have e : xs.take i ++ xs[i] :: xs.drop (i + 1) = xs := by
    rw [← List.drop_eq_getElem_cons hi, List.take_append_drop]
  rw [removeAt_eq xs i hi]
  exact ((List.Perm.cons _ (List.Perm.append_left _ (rot_perm _))).trans List.perm_middle.symm).trans
    (List.Perm.of_eq e)

theorem removeAt_take {α : Type} (xs : List α) (i : Nat) (h : i < xs.length) :
    (removeAt xs i).take i = xs.take i := by
  rw [removeAt_eq xs i h, List.take_left' (by rw [List.length_take]; exact Nat.min_eq_left (Nat.le_of_lt h))]

theorem getElem?_removeAt_lt {α : Type} (xs : List α) (k j : Nat) (hkj : k < j) (h : j < xs.length) :
    (removeAt xs j)[k]? = xs[k]? := by
  rw [removeAt_eq xs j h, List.getElem?_append_left (by rw [List.length_take]; omega),
    List.getElem?_take_of_lt hkj]

theorem map_removeAt {α β : Type} (f : α → β) (xs : List α) (i : Nat) :
    (removeAt xs i).map f = removeAt (xs.map f) i := by
  unfold removeAt
  rw [List.getLast?_map]
  cases xs.getLast? with
  | none => simp
  | some y => simp [List.map_set, List.map_dropLast]

theorem zip_rot {α β : Type} (ws : List α) (ls : List β) (h : ws.length = ls.length) :
    (rot ws).zip (rot ls) = rot (ws.zip ls) := by
  rcases List.eq_nil_or_concat ws with h1 | ⟨wi, wl, h1⟩
  · subst h1
    have : ls = [] := by simpa using h.symm
    subst this; simp [rot]
  · rcases List.eq_nil_or_concat ls with h2 | ⟨li, ll, h2⟩
    · subst h1 h2; simp at h
    · subst h1 h2
      simp only [List.concat_eq_append] at h ⊢
      have hl : wi.length = li.length := by simpa using h
      rw [List.zip_append hl]
      simp [rot]

theorem zip_removeAt {α β : Type} (ws : List α) (ls : List β) (i : Nat) (h : ws.length = ls.length)
    (hi : i < ws.length) : (removeAt ws i).zip (removeAt ls i) = removeAt (ws.zip ls) i := by
  rw [removeAt_eq ws i hi, removeAt_eq ls i (h ▸ hi),
    removeAt_eq (ws.zip ls) i (by rw [List.length_zip, ← h, Nat.min_self]; exact hi),
    List.zip_append (by rw [List.length_take, List.length_take, h]),
    zip_rot _ _ (by rw [List.length_drop, List.length_drop, h])]
  unfold List.zip
  rw [List.take_zipWith, List.drop_zipWith]

theorem length_removeAt {α : Type} (xs : List α) (i : Nat) (h : i < xs.length) :
    (removeAt xs i).length + 1 = xs.length := by
  have := (removeAt_perm xs i xs[i] (by simp [h])).length_eq
  simpa using this

theorem mem_removeAt {α : Type} {xs : List α} {i : Nat} {y : α} (h : y ∈ removeAt xs i) : y ∈ xs := by
  by_cases hi : i < xs.length
  · exact (removeAt_perm xs i xs[i] (by simp [hi])).mem_iff.mp (List.mem_cons_of_mem _ h)
  · unfold removeAt at h
    cases hl : xs.getLast? with
    | none => rw [hl] at h; exact h
    | some z =>
      rw [hl] at h
      simp only [] at h
      rw [List.set_eq_of_length_le (by omega)] at h
      exact List.dropLast_subset _ h

theorem wsum_perm {xs ys : List (Int × Int)} (h : xs.Perm ys) : wsum xs = wsum ys :=
  GS.Simplify.wsum_perm h

/-- `len(pbData.weights) == len(lits)` whenever `pbData != nil`. -/
def WfCl (c : Cl) : Prop := ∀ ws, c.weights = some ws → ws.length = c.lits.length

theorem terms_length {c : Cl} (h : WfCl c) : c.terms.length = c.lits.length := by
  unfold Cl.terms
  cases hw : c.weights with
  | none => simp
  | some ws => simp [List.length_zip, h ws hw]

theorem terms_getElem? {c : Cl} (h : WfCl c) {i : Nat} (hi : i < c.lits.length) :
    c.terms[i]? = some (weight c i, get c i) := by
  unfold Cl.terms weight get
  cases hw : c.weights with
  | none => simp [hi]
  | some ws =>
    have := h ws hw
    simp only []
    rw [List.getElem?_eq_getElem (by simp [List.length_zip]; omega)]
    simp [hi, this]

theorem terms_removeLit {c : Cl} (h : WfCl c) {i : Nat} (hi : i < c.lits.length) :
    (removeLit c i).terms = removeAt c.terms i := by
  unfold Cl.terms removeLit
  cases hw : c.weights with
  | none => simp [map_removeAt]
  | some ws =>
    have := h ws hw
    simp only [Option.map_some]
    exact zip_removeAt ws c.lits i this (by omega)

theorem wf_removeLit {c : Cl} (h : WfCl c) {i : Nat} (hi : i < c.lits.length) : WfCl (removeLit c i) := by
  intro ws hws
  unfold removeLit at hws ⊢
  cases hw : c.weights with
  | none => rw [hw] at hws; simp at hws
  | some ws0 =>
    rw [hw] at hws
    simp at hws
    subst hws
    have e := h ws0 hw
    have l1 := length_removeAt ws0 i (by omega)
    have l2 := length_removeAt c.lits i hi
    simp only []
    omega

theorem terms_snd {c : Cl} (h : WfCl c) : c.terms.map (·.2) = c.lits := by
  unfold Cl.terms
  cases hw : c.weights with
  | none => simp [Function.comp_def]
  | some ws =>
    simp only []
    rw [List.map_snd_zip]
    have := h ws hw; omega

theorem litStatus_eq (m : List Int) (l : Int) :
    (litStatus m l = .indet ↔ mget m (varOf l) = 0) ∧
    (litStatus m l = .sat ↔ mget m (varOf l) ≠ 0 ∧ (mget m (varOf l) > 0 ↔ l > 0)) ∧
    (litStatus m l = .unsat ↔ mget m (varOf l) ≠ 0 ∧ ¬ (mget m (varOf l) > 0 ↔ l > 0)) := by
  unfold litStatus
  by_cases h0 : mget m (varOf l) = 0
  · simp [h0]
  · by_cases h1 : (mget m (varOf l) > 0 ↔ l > 0) <;> simp [h0, h1]

theorem litStatus_sat {a : Asg} {m : List Int} {l : Int} (hA : Agrees a m) (hl : l ≠ 0)
    (h : litStatus m l = .sat) : litTrue a l = true :=
  have h := (litStatus_eq m l).2.1.mp h
  (litTrue_iff_of_bound hA hl h.1).mpr h.2

theorem litStatus_unsat {a : Asg} {m : List Int} {l : Int} (hA : Agrees a m) (hl : l ≠ 0)
    (h : litStatus m l = .unsat) : litTrue a l = false := by
  have h := (litStatus_eq m l).2.2.mp h
  rw [← Bool.not_eq_true, litTrue_iff_of_bound hA hl h.1]
  exact h.2

theorem get_append {c : Cl} {P T : List Int} {y : Int} (h : c.lits = P ++ y :: T) :
    P.length < c.lits.length ∧ get c P.length = y := by
  unfold get
  rw [h]
  simp

theorem terms_at {c : Cl} (h : WfCl c) {P T : List (Int × Int)} {t : Int × Int} (ht : c.terms = P ++ t :: T) :
    P.length < c.lits.length ∧ weight c P.length = t.1 ∧ get c P.length = t.2 ∧
    (removeLit c P.length).terms = P ++ rot T := by
  have hi : P.length < c.lits.length := by rw [← terms_length h, ht]; simp
  have e := terms_getElem? h hi
  rw [ht, List.getElem?_append_right (Nat.le_refl _), Nat.sub_self] at e
  cases e
  exact ⟨hi, rfl, rfl, by rw [terms_removeLit h hi, ht, removeAt_append]⟩

/-- A term the main loop keeps: its weight is not null and its literal is unbound. -/
def live (m : List Int) (t : Int × Int) : Bool := decide (t.1 ≠ 0 ∧ litStatus m t.2 = .indet)

/-- A term the main loop counts as satisfied: its weight is not null and its literal is true. -/
def won (m : List Int) (t : Int × Int) : Bool := decide (t.1 ≠ 0 ∧ litStatus m t.2 = .sat)

theorem lhs_resid {a : Asg} {m : List Int} (hA : Agrees a m) : ∀ (T : List (Int × Int)), (∀ t ∈ T, t.2 ≠ 0) →
    lhs a T = lhs a (T.filter (live m)) + wsum (T.filter (won m)) := by
  intro T
  induction T with
  | nil => intro _; rfl
  | cons t T ih =>
    intro hnz
    have ih := ih fun x hx => hnz x (List.mem_cons_of_mem _ hx)
    have hl := hnz t (List.mem_cons_self ..)
    rw [lhs_cons, ih]
    by_cases hz : t.1 = 0
    · rw [List.filter_cons_of_neg (by simp [live, hz]), List.filter_cons_of_neg (by simp [won, hz])]
      simp [termVal, hz]
    · cases hst : litStatus m t.2 with
      | indet =>
        rw [List.filter_cons_of_pos (by simp [live, hz, hst]), List.filter_cons_of_neg (by simp [won, hst]), lhs_cons]
        omega
      | sat =>
        rw [List.filter_cons_of_neg (by simp [live, hst]), List.filter_cons_of_pos (by simp [won, hz, hst]), wsum_cons,
          termVal, if_pos (litStatus_sat hA hl hst)]
        omega
      | unsat =>
        rw [List.filter_cons_of_neg (by simp [live, hst]), List.filter_cons_of_neg (by simp [won, hst]),
          termVal, if_neg (by rw [litStatus_unsat hA hl hst]; exact Bool.false_ne_true)]
        omega

/-- What the `for i < clause.Len()` loop computes, entered at position `len(P)` of a clause with the terms
    `P ++ T` and left in the state `r`: `P` stays, of `T` the terms to keep are left, in some order (`removeLit`
    moves the last term forward). `K` is the cardinality read before the loop; while `minW < K` the stored
    cardinality is what is left of `K`. -/
structure ScanSpec (m : List Int) (K : Int) (c : Cl) (mn mx : Int) (P T : List (Int × Int)) (r : ScanR) :
    Prop where
  wf : WfCl r.clause
  wnone : r.clause.weights = none ↔ c.weights = none
  terms : ∃ L, r.clause.terms = P ++ L ∧ L.Perm (T.filter (live m))
  minW : r.minW = mn + wsum (T.filter (won m))
  maxW : r.maxW = mx + wsum (T.filter (won m)) + wsum (T.filter (live m))
  card : r.minW < K → r.clause.card = K - r.minW

section scan
variable {m : List Int} {K : Int} {c c' : Cl} {mn mx mn' mx' δ : Int} {P T : List (Int × Int)} {t : Int × Int}
  {r : ScanR}

theorem ScanSpec.stop (hwf : WfCl c) (ht : c.terms = P) (hc : mn < K → c.card = K - mn) :
    ScanSpec m K c mn mx P [] ⟨c, mn, mx⟩ :=
  ⟨hwf, Iff.rfl, ⟨[], by rw [List.append_nil]; exact ht, .refl _⟩, (Int.add_zero _).symm,
    ((Int.add_zero _).trans (Int.add_zero _)).symm, hc⟩

/-- `removeLit(i)` on the term `t`, worth `δ` to `minW` and `maxW`. -/
theorem ScanSpec.drop (R : ScanSpec m K c' mn' mx' P (rot T) r) (hw : c'.weights = none ↔ c.weights = none)
    (hmn : mn' = mn + δ) (hmx : mx' = mx + δ) (hl : live m t = false)
    (hδ : wsum ([t].filter (won m)) = δ) : ScanSpec m K c mn mx P (t :: T) r := by
  have e : ∀ p : Int × Int → Bool, wsum ((t :: T).filter p) = wsum ([t].filter p) + wsum ((rot T).filter p) := fun p => by
    rw [wsum_perm ((rot_perm T).filter p), ← wsum_append, ← List.filter_append]; rfl
  have hl : ¬ live m t = true := by rw [hl]; exact Bool.false_ne_true
  refine ⟨R.wf, R.wnone.trans hw, R.terms.imp fun L h => ⟨h.1, h.2.trans ?_⟩, ?_, ?_, R.card⟩
  · rw [R.minW, e, hδ, hmn]; omega
  · rw [R.maxW, e, e, hδ, hmx, List.filter_cons_of_neg hl]
    simp only [List.filter_nil, wsum_nil]; omega
  · rw [List.filter_cons_of_neg hl]; exact (rot_perm T).filter _

theorem scan_spec (m : List Int) (K : Int) : ∀ (n : Nat) (c : Cl) (mn mx : Int) (P T : List (Int × Int)),
    WfCl c → c.terms = P ++ T → T.length ≤ n → (∀ t ∈ T, 0 ≤ t.1) → (mn < K → c.card = K - mn) →
    ScanSpec m K c mn mx P T (scan m n c P.length mn mx) := by
  intro n
  induction n with
  | zero =>
    intro c mn mx P T hwf ht hn _ hc
    rw [List.length_eq_zero_iff.mp (Nat.le_zero.mp hn)] at ht ⊢
    exact .stop hwf (by rw [ht, List.append_nil]) hc
  | succ n ih =>
    intro c mn mx P T hwf ht hn hnn hc
    rcases T with _ | ⟨t, T⟩
    · have : ¬ P.length < c.lits.length := by rw [← terms_length hwf, ht]; simp
      rw [scan, if_neg this]
      exact .stop hwf (by rw [ht, List.append_nil]) hc
    obtain ⟨hi, hw, hg, hrm⟩ := terms_at hwf ht
    have hw0 : 0 ≤ t.1 := hnn t (List.mem_cons_self ..)
    have hrot : (rot T).length ≤ n := by rw [length_rot]; exact Nat.le_of_succ_le_succ hn
    have hnnr : ∀ x ∈ rot T, 0 ≤ x.1 := fun x hx => hnn x (List.mem_cons_of_mem _ (mem_rot.mp hx))
    have hwr := wf_removeLit hwf hi
    have hwn : (removeLit c P.length).weights = none ↔ c.weights = none := by rw [removeLit]; simp
    -- a null weight, a false literal: the term goes and counts for nothing
    have dead := (ih _ mn mx P (rot T) hwr hrm hrot hnnr hc).drop (t := t) hwn (Int.add_zero _).symm (Int.add_zero _).symm
    simp only [scan]
    rw [if_pos hi, hw, hg]
    by_cases hz : t.1 = 0
    · rw [if_pos hz]
      exact dead (by simp [live, hz]) (by simp [won, hz, wsum_nil])
    rw [if_neg hz]
    cases hst : litStatus m t.2 with
    | sat =>
      refine (ih (updateCardinality (removeLit c P.length) (-t.1)) (mn + t.1) (mx + t.1) P (rot T) hwr hrm hrot hnnr
        fun hlt => ?_).drop hwn rfl rfl (by simp [live, hst]) (by simp [won, hz, hst, wsum_cons, wsum_nil])
      -- `updateCardinality` clamps at 1, which `minW < K` excludes
      show updCard c.card (-t.1) = K - (mn + t.1)
      rw [hc (by omega), updCard_of_lt (by omega)]; omega
    | unsat => exact dead (by simp [live, hst]) (by simp [won, hst, wsum_nil])
    | indet =>
      have R := ih c mn (mx + t.1) (P ++ [t]) T hwf (by rw [ht, List.append_assoc]; rfl)
        (Nat.le_of_succ_le_succ hn) (fun x hx => hnn x (List.mem_cons_of_mem _ hx)) hc
      rw [List.length_append, List.length_singleton] at R
      have hl : live m t = true := by simp [live, hz, hst]
      have hwon : ¬ won m t = true := by simp [won, hst]
      obtain ⟨L, h1, h2⟩ := R.terms
      refine ⟨R.wf, R.wnone, ⟨t :: L, by rw [h1, List.append_assoc]; rfl, ?_⟩, ?_, ?_, R.card⟩
      · rw [List.filter_cons_of_pos hl]; exact h2.cons t
      · rw [R.minW, List.filter_cons_of_neg hwon]
      · rw [R.maxW, List.filter_cons_of_neg hwon, List.filter_cons_of_pos hl, wsum_cons]; omega

end scan

theorem cl_eq {c : Cl} {L : List Int} (hw : c.weights = none) (hl : c.lits = L) : c = ⟨L, none, c.card⟩ := by
  cases c; cases hw; cases hl; rfl

theorem dedupInner_eq (i : Nat) (x : Int) : ∀ (n : Nat) (c : Cl) (P T : List Int), c.weights = none →
    c.lits = P ++ T → P[i]? = some x → T.length ≤ n →
    ∃ S, dedupInner i n c P.length = ⟨P ++ S, none, c.card⟩ ∧ S.Perm (T.filter (· ≠ x)) := by
  intro n
  induction n with
  | zero =>
    intro c P T hw hl _ hn
    rw [List.length_eq_zero_iff.mp (Nat.le_zero.mp hn)] at hl ⊢
    exact ⟨[], cl_eq hw hl, .refl _⟩
  | succ n ih =>
    intro c P T hw hl hx hn
    have hgi : get c i = x := by
      unfold get
      rw [hl, List.getElem?_append_left (List.getElem?_eq_some_iff.mp hx).1, hx]; rfl
    rw [dedupInner]
    rcases T with _ | ⟨y, T⟩
    · rw [if_neg (by rw [hl]; simp)]; exact ⟨[], cl_eq hw hl, .refl _⟩
    · obtain ⟨hj, hgj⟩ := get_append hl
      rw [if_pos hj, hgj, hgi]
      by_cases hyx : y = x
      · obtain ⟨S, h1, h2⟩ := ih (removeLit c P.length) P (rot T) (by rw [removeLit, hw]; rfl)
          (by show removeAt c.lits _ = _; rw [hl, removeAt_append]) hx
          (by rw [length_rot]; exact Nat.le_of_succ_le_succ hn)
        rw [if_pos hyx, h1, List.filter_cons_of_neg (by simpa using hyx)]
        exact ⟨S, rfl, h2.trans ((rot_perm T).filter _)⟩
      · obtain ⟨S, h1, h2⟩ := ih c (P ++ [y]) T hw (by rw [hl, List.append_assoc]; rfl)
          (by rw [List.getElem?_append_left (List.getElem?_eq_some_iff.mp hx).1]; exact hx)
          (Nat.le_of_succ_le_succ hn)
        rw [List.length_append, List.length_singleton] at h1
        rw [if_neg hyx, h1, List.filter_cons_of_pos (by simpa using hyx)]
        exact ⟨y :: S, by rw [List.append_assoc]; rfl, h2.cons y⟩

theorem dedupOuter_eq : ∀ (n : Nat) (c : Cl) (P T : List Int), c.weights = none → c.lits = P ++ T →
    T.length ≤ n → ∃ D, dedupOuter n c P.length = ⟨P ++ D, none, c.card⟩ ∧ D.Nodup ∧ ∀ l, l ∈ D ↔ l ∈ T := by
  intro n
  induction n with
  | zero =>
    intro c P T hw hl hn
    exact ⟨T, cl_eq hw hl, by rw [List.length_eq_zero_iff.mp (Nat.le_zero.mp hn)]; exact List.nodup_nil, fun _ => Iff.rfl⟩
  | succ n ih =>
    intro c P T hw hl hn
    rw [dedupOuter]
    rcases T with _ | ⟨x, T⟩
    · rw [if_neg (by rw [hl]; simp)]; exact ⟨[], cl_eq hw hl, List.nodup_nil, fun _ => Iff.rfl⟩
    · obtain ⟨S, hin, hS⟩ := dedupInner_eq P.length x c.lits.length c (P ++ [x]) T hw
        (by rw [hl, List.append_assoc]; rfl) (by simp) (by rw [hl]; simp; omega)
      rw [List.length_append, List.length_singleton] at hin
      rw [if_pos (get_append hl).1, hin]
      obtain ⟨D, h1, h2, h3⟩ := ih ⟨(P ++ [x]) ++ S, none, c.card⟩ (P ++ [x]) S rfl rfl
        (Nat.le_trans (hS.length_eq ▸ List.length_filter_le _ _) (Nat.le_of_succ_le_succ hn))
      -- what is left after `x` are the literals of `T` other than `x`
      have hD : ∀ l, l ∈ D ↔ l ∈ T ∧ l ≠ x := fun l => (h3 l).trans (hS.mem_iff.trans (by simp))
      rw [List.length_append, List.length_singleton] at h1
      refine ⟨x :: D, by rw [h1, List.append_assoc]; rfl, List.nodup_cons.mpr ⟨fun h => ((hD x).mp h).2 rfl, h2⟩,
        fun l => ?_⟩
      rw [List.mem_cons, List.mem_cons, hD]
      by_cases hlx : l = x
      · simp [hlx]
      · simp [hlx]

theorem dedup_eq (c : Cl) (hw : c.weights = none) :
    ∃ D, dedup c = ⟨D, none, c.card⟩ ∧ D.Nodup ∧ ∀ l, l ∈ D ↔ l ∈ c.lits :=
  dedupOuter_eq _ c [] c.lits hw rfl (Nat.le_refl _)

/-- What `dedup_holds` needs of `dedup` (`dedup_eq` says more: no literal is left twice). -/
structure DedupSpec (c c' : Cl) : Prop where
  weights : c'.weights = none
  card : c'.card = c.card
  mem : ∀ l, l ∈ c'.lits ↔ l ∈ c.lits

theorem dedup_spec (c : Cl) (hw : c.weights = none) : DedupSpec c (dedup c) := by
  obtain ⟨D, h1, -, h3⟩ := dedup_eq c hw
  rw [h1]; exact ⟨rfl, rfl, h3⟩

theorem dedup_nodup (c : Cl) (hw : c.weights = none) : (dedup c).lits.Nodup := by
  obtain ⟨D, h1, h2, -⟩ := dedup_eq c hw
  rw [h1]; exact h2

/-- A propositional clause (`pbData == nil`, cardinality 1) only depends on its set of literals. -/
theorem dedup_holds (a : Asg) {c c' : Cl} (h : DedupSpec c c') (hw : c.weights = none) (hc : c.card = 1) :
    (c'.lin.holds a = true ↔ c.lin.holds a = true) := by
  rw [holds_card h.weights, holds_card hw, h.card, hc, one_le_cnt, one_le_cnt]
  constructor
  · rintro ⟨l, hl, ht⟩; exact ⟨l, (h.mem l).mp hl, ht⟩
  · rintro ⟨l, hl, ht⟩; exact ⟨l, (h.mem l).mpr hl, ht⟩

/-- Meaning of what `AppendClause` does with the result of its prologue: nothing is added;
    the solver becomes `Unsat`; the literals are made top-level facts; the constraint is attached. -/
def Result.holds (a : Asg) : Result → Prop
  | .trivial => True
  | .unsat => False
  | .units ls => ∀ l ∈ ls, litTrue a l = true
  | .attach c => c.lin.holds a = true

/-- Well-formedness of the constraint handed to `AppendClause`. -/
structure WfInput (c : Cl) : Prop where
  /-- `len(pbData.weights) == len(lits)` when `pbData != nil` -/
  len : WfCl c
  /-- no null literal -/
  nz : ∀ l ∈ c.lits, l ≠ 0
  /-- no weight is negative (automatic when `pbData == nil`); null weights are allowed: the main loop
      drops their literals -/
  pos : ∀ t ∈ c.terms, 0 ≤ t.1

/-- The clause the main loop starts from. -/
def afterDedup (c : Cl) : Cl := if c.card = 1 ∧ c.weights = none then dedup c else c

/-- The end of `AppendClause`: `card` is the cardinality read at the start, `r` the state after the main loop. -/
def verdict (card : Int) (r : ScanR) : Result :=
  if r.minW ≥ card then .trivial else if r.maxW < card then .unsat
  else if r.maxW = card then .units r.clause.lits else .attach r.clause

theorem appendSimplify_eq (m : List Int) (c : Cl) :
    appendSimplify m c = verdict c.card (scan m (afterDedup c).lits.length (afterDedup c) 0 0 0) := rfl

theorem verdict_cases (card : Int) (r : ScanR) :
    (card ≤ r.minW ∧ verdict card r = .trivial) ∨
    (r.minW < card ∧ r.maxW < card ∧ verdict card r = .unsat) ∨
    (r.minW < card ∧ r.maxW = card ∧ verdict card r = .units r.clause.lits) ∨
    (r.minW < card ∧ card < r.maxW ∧ verdict card r = .attach r.clause) := by
  unfold verdict
  by_cases c1 : r.minW ≥ card
  · exact Or.inl ⟨c1, if_pos c1⟩
  · by_cases c2 : r.maxW < card
    · exact Or.inr (Or.inl ⟨by omega, c2, by rw [if_neg c1, if_pos c2]⟩)
    · by_cases c3 : r.maxW = card
      · exact Or.inr (Or.inr (Or.inl ⟨by omega, c3, by rw [if_neg c1, if_neg c2, if_pos c3]⟩))
      · exact Or.inr (Or.inr (Or.inr ⟨by omega, by omega, by rw [if_neg c1, if_neg c2, if_neg c3]⟩))

theorem afterDedup_spec (c : Cl) (h : WfInput c) :
    WfInput (afterDedup c) ∧ (afterDedup c).card = c.card ∧
    ((afterDedup c).weights = none ↔ c.weights = none) ∧
    (∀ t ∈ (afterDedup c).terms, t ∈ c.terms) ∧
    ∀ a, ((afterDedup c).lin.holds a = true ↔ c.lin.holds a = true) := by
  unfold afterDedup
  by_cases hc : c.card = 1 ∧ c.weights = none
  · rw [if_pos hc]
    have d := dedup_spec c hc.2
    have hts : ∀ t ∈ (dedup c).terms, t ∈ c.terms := fun t ht => by
      rw [terms_none d.weights] at ht; rw [terms_none hc.2]
      obtain ⟨l, hl, rfl⟩ := List.mem_map.mp ht
      exact List.mem_map.mpr ⟨l, (d.mem l).mp hl, rfl⟩
    exact ⟨⟨fun ws hws => (by rw [d.weights] at hws; cases hws), fun l hl => h.nz l ((d.mem l).mp hl),
      fun t ht => h.pos t (hts t ht)⟩, d.card, by simp [d.weights, hc.2], hts, fun a => dedup_holds a d hc.2 hc.1⟩
  · rw [if_neg hc]
    exact ⟨h, rfl, Iff.rfl, fun _ ht => ht, fun _ => Iff.rfl⟩

theorem mem_lits_of_terms {c : Cl} (h : WfCl c) {l : Int} : l ∈ c.lits ↔ ∃ t ∈ c.terms, t.2 = l := by
  rw [← terms_snd h]; simp

theorem scan_top (m : List Int) {c : Cl} {K : Int} (hK : c.card = K) (hwf : WfCl c) (hnn : ∀ t ∈ c.terms, 0 ≤ t.1) :
    let r := scan m c.lits.length c 0 0 0
    WfCl r.clause ∧ (r.clause.weights = none ↔ c.weights = none) ∧
    r.clause.terms.Perm (c.terms.filter (live m)) ∧ r.minW = wsum (c.terms.filter (won m)) ∧
    r.maxW - r.minW = wsum r.clause.terms ∧ (r.minW < K → r.clause.card = K - r.minW) := by
  intro r
  have sp := scan_spec m K _ c 0 0 [] c.terms hwf rfl (Nat.le_of_eq (terms_length hwf)) hnn fun _ => by omega
  obtain ⟨L, h1, h2⟩ := sp.terms
  have hp : r.clause.terms.Perm (c.terms.filter (live m)) := h1 ▸ h2
  have hmn : r.minW = 0 + _ := sp.minW
  have hmx : r.maxW = 0 + _ + _ := sp.maxW
  exact ⟨sp.wf, sp.wnone, hp, hmn.trans (Int.zero_add _), by rw [wsum_perm hp]; omega, sp.card⟩

/-- The state `r` in which the main loop leaves a well-formed constraint `c`, in the terms of `c`. -/
structure ScanOut (m : List Int) (c : Cl) (r : ScanR) : Prop where
  wf : WfCl r.clause
  wnone : r.clause.weights = none ↔ c.weights = none
  mem : ∀ t ∈ r.clause.terms, t ∈ c.terms ∧ 0 < t.1 ∧ litStatus m t.2 = .indet
  maxW : r.maxW - r.minW = wsum r.clause.terms
  card : r.minW < c.card → r.clause.card = c.card - r.minW
  sem : ∀ a, Agrees a m → (c.lin.holds a = true ↔ c.card ≤ lhs a r.clause.terms + r.minW)

theorem ScanOut.lits {m : List Int} {c : Cl} {r : ScanR} (h : ScanOut m c r) (hc : WfCl c) {l : Int}
    (hl : l ∈ r.clause.lits) : l ∈ c.lits ∧ litStatus m l = .indet := by
  obtain ⟨t, ht, rfl⟩ := (mem_lits_of_terms h.wf).mp hl
  exact ⟨(mem_lits_of_terms hc).mpr ⟨t, (h.mem t ht).1, rfl⟩, (h.mem t ht).2.2⟩

theorem scan_out (m : List Int) (c : Cl) (hc : WfInput c) :
    ScanOut m c (scan m (afterDedup c).lits.length (afterDedup c) 0 0 0) := by
  obtain ⟨h1, hcard, hwn, hts, hsem⟩ := afterDedup_spec c hc
  obtain ⟨swf, swn, hp, hmn, hmx, hcd⟩ := scan_top m hcard h1.len h1.pos
  refine ⟨swf, swn.trans hwn, fun t ht => ?_, hmx, hcd, fun a hA => ?_⟩
  · have h := List.mem_filter.mp (hp.mem_iff.mp ht)
    have h2 := of_decide_eq_true h.2
    exact ⟨hts t h.1, by have := h1.pos t h.1; have := h2.1; omega, h2.2⟩
  · rw [← hsem a, holds_pb, hcard, lhs_perm a hp, hmn,
      lhs_resid hA _ fun t ht => h1.nz _ ((mem_lits_of_terms h1.len).mpr ⟨t, ht, rfl⟩)]

/-- **Semantic correctness of the prologue of `AppendClause`.** `c` (clause, cardinality or PB
    constraint with weights `≥ 0`) holds under `a` iff what `AppendClause` does next is right for `a`:
    nothing to add (`c` is true), `Unsat` (`c` is false), all the unit literals are true
    (an equivalence: the constraint itself is dropped), the attached constraint holds. -/
theorem appendSimplify_sem (m : List Int) (c : Cl) (a : Asg) (hc : WfInput c) (hA : Agrees a m) :
    (c.lin.holds a = true ↔ (appendSimplify m c).holds a) := by
  have hs := scan_out m c hc
  rw [appendSimplify_eq]
  generalize scan m (afterDedup c).lits.length (afterDedup c) 0 0 0 = r at hs ⊢
  have hpos : ∀ t ∈ r.clause.terms, 0 < t.1 := fun t ht => (hs.mem t ht).2.1
  have hb := lhs_bounds a r.clause.terms (fun t ht => Int.le_of_lt (hpos t ht))
  have hmx := hs.maxW
  rw [hs.sem a hA]
  rcases verdict_cases c.card r with ⟨c1, e⟩ | ⟨c1, c2, e⟩ | ⟨c1, c2, e⟩ | ⟨c1, c2, e⟩ <;> rw [e] <;>
    simp only [Result.holds, iff_true, iff_false]
  · omega
  · omega
  · -- all of what is left is needed
    rw [← terms_snd hs.wf, List.forall_mem_map, ← lhs_full a r.clause.terms hpos]
    omega
  · rw [holds_pb, hs.card c1]; omega

#print axioms appendSimplify_sem

/-- The literals handed to `propagateUnits`. -/
theorem appendSimplify_units (m : List Int) (c : Cl) (hc : WfInput c) {ls : List Int}
    (h : appendSimplify m c = .units ls) :
    ls ≠ [] ∧ ∀ l ∈ ls, l ∈ c.lits ∧ litStatus m l = .indet := by
  have hs := scan_out m c hc
  rw [appendSimplify_eq] at h
  generalize scan m (afterDedup c).lits.length (afterDedup c) 0 0 0 = r at hs h
  rcases verdict_cases c.card r with ⟨_, e⟩ | ⟨_, _, e⟩ | ⟨c1, c2, e⟩ | ⟨_, _, e⟩ <;> rw [e] at h <;> cases h
  refine ⟨fun he => ?_, fun l => hs.lits hc.len⟩
  have : r.clause.terms = [] := List.eq_nil_of_length_eq_zero (by rw [terms_length hs.wf, he]; rfl)
  have hmx := hs.maxW
  rw [this, wsum_nil] at hmx
  omega

/-- The constraint handed to `appendClause`: of the same kind (`pbData == nil` or not), with strictly
    positive weights, neither unit nor falsified nor trivially true. -/
theorem appendSimplify_attach (m : List Int) (c : Cl) (hc : WfInput c) {c' : Cl}
    (h : appendSimplify m c = .attach c') :
    WfInput c' ∧ (∀ t ∈ c'.terms, 0 < t.1) ∧
    (c'.weights = none ↔ c.weights = none) ∧ 1 ≤ c'.card ∧ c'.card < wsum c'.terms ∧
    (∀ l ∈ c'.lits, l ∈ c.lits ∧ litStatus m l = .indet) ∧ ∀ t ∈ c'.terms, t ∈ c.terms := by
  have hs := scan_out m c hc
  rw [appendSimplify_eq] at h
  generalize scan m (afterDedup c).lits.length (afterDedup c) 0 0 0 = r at hs h
  rcases verdict_cases c.card r with ⟨_, e⟩ | ⟨_, _, e⟩ | ⟨_, _, e⟩ | ⟨c1, c2, e⟩ <;> rw [e] at h <;> cases h
  have hcard := hs.card c1
  have hmx := hs.maxW
  exact ⟨⟨hs.wf, fun l hl => hc.nz l (hs.lits hc.len hl).1, fun t ht => Int.le_of_lt (hs.mem t ht).2.1⟩,
    fun t ht => (hs.mem t ht).2.1, hs.wnone, by omega, by omega, fun l => hs.lits hc.len,
    fun t ht => (hs.mem t ht).1⟩

#print axioms appendSimplify_units
#print axioms appendSimplify_attach

/-- A propositional clause (`Cardinality() == 1`, `pbData == nil`) is attached, or propagated,
    without any repeated literal — whatever the input (no hypothesis). -/
theorem appendSimplify_clause_nodup (m : List Int) (c : Cl) (hc : c.card = 1) (hw : c.weights = none) :
    match appendSimplify m c with
    | .attach c' => c'.lits.Nodup
    | .units ls => ls.Nodup
    | _ => True := by
  have hn : (scan m (afterDedup c).lits.length (afterDedup c) 0 0 0).clause.lits.Nodup := by
    rw [show afterDedup c = dedup c from if_pos ⟨hc, hw⟩]
    have hw' := (dedup_spec c hw).weights
    have hwf : WfCl (dedup c) := fun ws h => by rw [hw'] at h; cases h
    obtain ⟨swf, -, hp, -⟩ := scan_top m rfl hwf fun t ht => by
      rw [terms_none hw'] at ht
      obtain ⟨l, -, rfl⟩ := List.mem_map.mp ht
      exact Int.zero_le_ofNat 1
    -- what is left is part of the terms of `dedup c`, up to order
    rw [← terms_snd swf]
    refine (hp.map _).nodup_iff.mpr (List.Nodup.sublist (List.filter_sublist.map _) ?_)
    rw [terms_snd hwf]; exact dedup_nodup c hw
  rw [appendSimplify_eq]
  rcases verdict_cases c.card _ with ⟨_, e⟩ | ⟨_, _, e⟩ | ⟨_, _, e⟩ | ⟨_, _, e⟩ <;> rw [e]
  · trivial
  · trivial
  · exact hn
  · exact hn

#print axioms appendSimplify_clause_nodup

/-! Concrete runs; the results are those of the Go code on the same inputs. `s.model` is written as the array
(`modelOfLits [1, -3] = some [1, 0, -1]`). -/

example : modelOfLits [1, -3] = some [1, 0, -1] := by decide +kernel
-- a true literal: nothing to add
example : appendSimplify [1, 0, -1] ⟨[1, 2, 3], none, 1⟩ = .trivial := by decide +kernel
-- duplicates and a false literal are removed, order as in Go
example : appendSimplify [0, 0, -1] ⟨[1, 2, 3, 2, 1], none, 1⟩ = .attach ⟨[1, 2], none, 1⟩ := by decide +kernel
-- without the duplicate removal this would be attached as `2 2`
example : appendSimplify [0, 0, -1] ⟨[3, 2, 3, 2], none, 1⟩ = .units [2] := by decide +kernel
example : appendSimplify [0, 0, -1] ⟨[3, 3], none, 1⟩ = .unsat := by decide +kernel
-- PB: 5 ¬x3… : x3 false (weight 5 dropped), x4 true (weight 1, cardinality 6 → 5), literal 7 is a new variable
example : appendSimplify [0, 0, -1, 1] ⟨[3, 1, 2, 4, 7], some [5, 3, 2, 1, 1], 6⟩
    = .attach ⟨[7, 1, 2], some [1, 3, 2], 5⟩ := by decide +kernel
-- cardinality constraints
example : appendSimplify [-1] ⟨[1, 2, 3, 4], none, 3⟩ = .units [4, 2, 3] := by decide +kernel
example : appendSimplify [1] ⟨[1, 2, 3, 4], none, 3⟩ = .attach ⟨[4, 2, 3], none, 2⟩ := by decide +kernel
-- `x2 + ¬x2 ≥ 2`: both are propagated, `propagateUnits` then finds the conflict
example : appendSimplify [] ⟨[2, -2], none, 2⟩ = .units [2, -2] := by decide +kernel

/-- The hypotheses of `appendSimplify_sem` on a concrete PB constraint and model. -/
example : WfInput ⟨[3, 1, 2, 4, 7], some [5, 3, 2, 1, 1], 6⟩ :=
  ⟨by intro ws h; cases h; rfl, by decide +kernel, by decide +kernel⟩

example : Agrees (fun v => v == 4) [0, 0, -1, 1] := by
  intro v
  match v with
  | 0 => decide
  | 1 => decide
  | 2 => decide
  | 3 => decide
  | v + 4 => simp [mget]

/-! ### Null weights (`if clause.Weight(i) == 0 { clause.removeLit(i); continue }`)

The literal of a null weight is dropped whatever its status, the cardinality is untouched. -/

-- `NewPBClause([x1,x2],[1,0],1)`: `x2` is not asserted
example : appendSimplify [] ⟨[1, 2], some [1, 0], 1⟩ = .units [1] := by decide +kernel
example : (⟨[1, 2], some [1, 0], 1⟩ : Cl).lin.holds (fun v => v == 1) = true := by decide +kernel
example : WfInput ⟨[1, 2], some [1, 0], 1⟩ := ⟨by intro ws h; cases h; rfl, by decide +kernel, by decide +kernel⟩
-- a null-weight literal on a new variable (9 > nbVars): dropped (Go still calls `newVar(9)`)
example : appendSimplify [0, 0, -1, 1] ⟨[3, 1, 2, 4, 9], some [5, 3, 2, 1, 0], 5⟩
    = .attach ⟨[2, 1], some [2, 3], 4⟩ := by decide +kernel
example : appendSimplify [0, 0, -1, 1] ⟨[3, 1, 2, 4, 9], some [5, 3, 2, 1, 0], 6⟩
    = .units [2, 1] := by decide +kernel
-- null weights on a true, a false and an unbound literal; removal by swap with the last element
example : appendSimplify [1, -1, 0, 0, 0] ⟨[4, 5, 1, 2, 3], some [2, 2, 0, 0, 0], 3⟩
    = .attach ⟨[4, 5], some [2, 2], 3⟩ := by decide +kernel
-- only null weights: `maxW = 0 < card`
example : appendSimplify [] ⟨[1, 2], some [0, 0], 1⟩ = .unsat := by decide +kernel
-- a true literal of weight 0 does not lower the cardinality
example : appendSimplify [1] ⟨[2, 3, 1], some [2, 1, 0], 2⟩ = .attach ⟨[2, 3], some [2, 1], 2⟩ := by decide +kernel

end GS.Append
