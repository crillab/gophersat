import GS.Model.Enum
import GS.Check.Brute
/-!
# C05 — model counting and enumeration are exact (mirror of `Enumerate` / `CountModels`)

* `expand_spec` : `addCurrentModels` delivers each completion of the current model exactly once.
* `block_exact` : a round removes exactly the models it reports.
* `enum_exact`  : with `countOver n F + 1` rounds (so `2^n + 1` suffice) the loop delivers
  every model of `F` over `1..n` exactly once and the count is `countOver n F`.
-/
namespace GS.Enum

/-- The bit-mask loop, reformulated with the remaining bits `i / 2^j`. -/
def fill : List (Option Bool) → Nat → List Bool
  | [], _ => []
  | some b :: m, i => b :: fill m i
  | none :: m, i => decide (i % 2 = 1) :: fill m (i / 2)

theorem fillFrom_eq_fill (i : Nat) : ∀ (m : List (Option Bool)) (j : Nat),
    fillFrom i j m = fill m (i / 2 ^ j) := by
  intro m
  induction m with
  | nil => intro j; rfl
  | cons o m ih =>
    intro j
    cases o with
    | some b => simp only [fillFrom, fill, ih j]
    | none =>
      simp only [fillFrom, fill, ih (j + 1)]
      rw [Nat.testBit_eq_decide_div_mod_eq, Nat.div_div_eq_div_mul, Nat.pow_succ]

theorem expand_eq (m : List (Option Bool)) :
    expand m = (List.range (2 ^ nbUnbound m)).map (fill m) := by
  unfold expand
  apply List.map_congr_left
  intro i _
  rw [fillFrom_eq_fill]; simp

theorem agreesB_iff : ∀ (m : List (Option Bool)) (bs : List Bool),
    agreesB m bs = true ↔
      bs.length = m.length ∧ ∀ (i : Nat) (b : Bool), m[i]? = some (some b) → bs[i]? = some b
  | [], [] => ⟨fun _ => ⟨rfl, fun _ _ h => by cases h⟩, fun _ => rfl⟩
  | [], _ :: _ => ⟨fun h => (nomatch h), fun h => (nomatch h.1)⟩
  | o :: m, [] => ⟨fun h => (by cases o <;> cases h), fun h => (nomatch h.1)⟩
  | o :: m, c :: bs => by
    have hcons : (∀ (i : Nat) (b : Bool), (o :: m)[i]? = some (some b) → (c :: bs)[i]? = some b) ↔
        (∀ b, o = some b → c = b) ∧
          ∀ (i : Nat) (b : Bool), m[i]? = some (some b) → bs[i]? = some b := by
      constructor
      · intro h
        exact ⟨fun b hb => Option.some.inj (h 0 b (congrArg some hb)), fun i b hb => h (i + 1) b hb⟩
      · rintro ⟨h0, h1⟩ i b hb
        cases i with
        | zero => exact congrArg some (h0 b (Option.some.inj hb))
        | succ i => exact h1 i b hb
    rw [hcons, List.length_cons, List.length_cons, Nat.add_right_cancel_iff]
    cases o with
    | none =>
      simp only [agreesB, agreesB_iff m bs]
      exact ⟨fun h => ⟨h.1, (fun _ hb => nomatch hb), h.2⟩, fun h => ⟨h.1, h.2.2⟩⟩
    | some b0 =>
      simp only [agreesB, Bool.and_eq_true, beq_iff_eq, agreesB_iff m bs]
      exact ⟨fun h => ⟨h.2.1, fun b hb => Option.some.inj hb ▸ h.1.symm, h.2.2⟩,
        fun h => ⟨(h.2.1 b0 rfl).symm, h.1, h.2.2⟩⟩

theorem agreesB_length (m : List (Option Bool)) (bs : List Bool) (h : agreesB m bs = true) :
    bs.length = m.length :=
  ((agreesB_iff m bs).1 h).1

theorem agreesB_fill : ∀ (m : List (Option Bool)) (i : Nat), agreesB m (fill m i) = true := by
  intro m
  induction m with
  | nil => intro i; rfl
  | cons o m ih =>
    intro i
    cases o with
    | none => simp only [fill, agreesB, ih]
    | some b => simp [fill, agreesB, ih]

theorem fill_inj : ∀ (m : List (Option Bool)) (i i' : Nat),
    i < 2 ^ nbUnbound m → i' < 2 ^ nbUnbound m → fill m i = fill m i' → i = i' := by
  intro m
  induction m with
  | nil => intro i i' h h' _; simp [nbUnbound] at h h'; omega
  | cons o m ih =>
    intro i i' h h' he
    cases o with
    | some b =>
      simp only [fill, List.cons.injEq, true_and] at he
      exact ih i i' h h' he
    | none =>
      simp only [fill, List.cons.injEq, decide_eq_decide] at he
      simp only [nbUnbound, Nat.pow_succ] at h h'
      have := ih (i / 2) (i' / 2) (by omega) (by omega) he.2
      have h1 := he.1
      omega

theorem fill_surj : ∀ (m : List (Option Bool)) (bs : List Bool), agreesB m bs = true →
    ∃ i, i < 2 ^ nbUnbound m ∧ fill m i = bs := by
  intro m
  induction m with
  | nil =>
    intro bs h
    cases bs with
    | nil => exact ⟨0, by simp [nbUnbound], rfl⟩
    | cons _ _ => simp [agreesB] at h
  | cons o m ih =>
    intro bs h
    cases bs with
    | nil => cases o <;> simp [agreesB] at h
    | cons c bs =>
      cases o with
      | some b =>
        simp only [agreesB, Bool.and_eq_true, beq_iff_eq] at h
        obtain ⟨i, hi, he⟩ := ih bs h.2
        exact ⟨i, by simpa [nbUnbound] using hi, by simp [fill, he, h.1]⟩
      | none =>
        simp only [agreesB] at h
        obtain ⟨i, hi, he⟩ := ih bs h
        refine ⟨2 * i + (if c then 1 else 0), ?_, ?_⟩
        · simp only [nbUnbound, Nat.pow_succ]; split <;> omega
        · have h2 : (2 * i + (if c then 1 else 0)) / 2 = i := by split <;> omega
          simp only [fill, h2, he, List.cons.injEq, and_true]
          cases c <;> simp <;> omega

theorem mem_expand (m : List (Option Bool)) (bs : List Bool) :
    bs ∈ expand m ↔ agreesB m bs = true := by
  rw [expand_eq, List.mem_map]
  constructor
  · rintro ⟨i, _, rfl⟩; exact agreesB_fill m i
  · intro h
    obtain ⟨i, hi, he⟩ := fill_surj m bs h
    exact ⟨i, List.mem_range.2 hi, he⟩

theorem expand_nodup (m : List (Option Bool)) : (expand m).Nodup := by
  rw [expand_eq, List.nodup_iff_pairwise_ne, List.pairwise_map]
  have h := @List.nodup_range (2 ^ nbUnbound m)
  rw [List.nodup_iff_pairwise_ne] at h
  refine List.Pairwise.imp_of_mem ?_ h
  intro a b ha hb hne he
  exact hne (fill_inj m a b (List.mem_range.1 ha) (List.mem_range.1 hb) he)

theorem expand_length (m : List (Option Bool)) : (expand m).length = 2 ^ nbUnbound m := by
  simp [expand]

/-- **`addCurrentModels` is exact**, and `countCurrentModels` is the number of models it sends. -/
theorem expand_spec (m : List (Option Bool)) :
    (expand m).length = 2 ^ nbUnbound m ∧ (expand m).Nodup ∧
    (∀ bs, bs ∈ expand m ↔
      (bs.length = m.length ∧ ∀ (i : Nat) (b : Bool), m[i]? = some (some b) → bs[i]? = some b)) ∧
    countCurrent m = (expand m).length :=
  ⟨expand_length m, expand_nodup m, fun bs => by rw [mem_expand, agreesB_iff],
   by rw [expand_length]; rfl⟩

example : expand [some true, none, some false, none] =
    [[true, false, false, false], [true, true, false, false],
     [true, false, false, true], [true, true, false, true]] := by decide +kernel

theorem nbUnbound_map_some (bs : List Bool) : nbUnbound (bs.map some) = 0 := by
  induction bs with
  | nil => rfl
  | cons b bs ih => simpa [nbUnbound] using ih

theorem fillFrom_map_some (i j : Nat) : ∀ bs : List Bool, fillFrom i j (bs.map some) = bs
  | [] => rfl
  | b :: bs => by rw [List.map_cons, fillFrom, fillFrom_map_some i j bs]

theorem expand_total (bs : List Bool) : expand (bs.map some) = [bs] := by
  rw [expand, nbUnbound_map_some]
  exact congrArg (· :: []) (fillFrom_map_some 0 0 bs)

theorem nbUnbound_replicate (n : Nat) : nbUnbound (List.replicate n none) = n := by
  induction n with
  | zero => rfl
  | succ n ih => simp [List.replicate_succ, nbUnbound, ih]

/-- The Go counter (`uint64` then `int`) equals the exact count iff at most 62 variables are
    unbound (its values at 63 and 64: the last `example` of this file). -/
theorem countCurrentGo_exact_iff (m : List (Option Bool)) :
    countCurrentGo m = (countCurrent m : Int) ↔ nbUnbound m ≤ 62 := by
  unfold countCurrentGo countCurrent
  generalize nbUnbound m = k
  have hlt : 2 ^ k % 2 ^ 64 < 2 ^ 64 := Nat.mod_lt _ (by decide)
  constructor
  · -- `int(nb) < 2^63`, whereas `2^63 ≤ 2^k` from 63 on
    intro h
    apply Nat.le_of_not_lt
    intro hk
    have h63 : (2:Nat) ^ 63 ≤ 2 ^ k := Nat.pow_le_pow_right (by omega) hk
    simp only at h
    split at h <;> omega
  · intro hk
    have h1 : (2:Nat) ^ k ≤ 2 ^ 62 := Nat.pow_le_pow_right (by omega) hk
    simp only [Nat.mod_eq_of_lt (show 2 ^ k < 2 ^ 64 by omega)]
    rw [if_pos (by omega)]

theorem enumLoop_none (step : Step) (fuel : Nat) (p : Problem) (h : step p = none) :
    enumLoop step (fuel + 1) p = [] := by
  simp only [enumLoop, h]

theorem enumLoop_last (step : Step) (fuel : Nat) (p : Problem) (m) (h : step p = some (m, [])) :
    enumLoop step (fuel + 1) p = expand m := by
  simp [enumLoop, h, negLits]

theorem enumLoop_more (step : Step) (fuel : Nat) (p : Problem) (m D) (h : step p = some (m, D))
    (hD : D ≠ []) :
    enumLoop step (fuel + 1) p = expand m ++ enumLoop step fuel (p ++ [block D]) := by
  cases D with
  | nil => exact absurd rfl hD
  | cons d ds =>
    simp only [enumLoop, h, negLits, List.map_cons, addBlock_eq, block]

theorem countLoop_eq_length (step : Step) : ∀ (fuel : Nat) (p : Problem),
    countLoop step fuel p = (enumLoop step fuel p).length := by
  intro fuel
  induction fuel with
  | zero => intro p; rfl
  | succ fuel ih =>
    intro p
    simp only [countLoop, enumLoop]
    cases hs : step p with
    | none => rfl
    | some r =>
      obtain ⟨m, D⟩ := r
      simp only [List.length_append, countCurrent, expand_length]
      cases hn : negLits D with
      | nil => rfl
      | cons l ls => simp only [ih]

/-- What one call of the search (the abstract oracle `step`) must guarantee on problem `p`
    (variables `1..n`); `GS.Props.C05_EnumRound` derives it from the state `search` answers `Sat`
    in.  `propagated`: everything bound follows from the decisions. -/
structure Contract (n : Nat) (step : Step) (p : Problem) : Prop where
  sound : ∀ m D, step p = some (m, D) → ∀ bs, agreesB m bs = true →
    bs ∈ modelsOver n p ∧ allTrue bs D = true
  nonzero : ∀ m D, step p = some (m, D) → ∀ l ∈ D, l ≠ 0
  propagated : ∀ m D, step p = some (m, D) → ∀ bs, bs ∈ modelsOver n p →
    allTrue bs D = true → agreesB m bs = true
  complete : step p = none → modelsOver n p = []

theorem Contract.of_some {n : Nat} {step : Step} {p : Problem} {m : List (Option Bool)}
    {D : List Int} (hs : step p = some (m, D))
    (sound : ∀ bs, agreesB m bs = true → bs ∈ modelsOver n p ∧ allTrue bs D = true)
    (nonzero : ∀ l ∈ D, l ≠ 0)
    (propagated : ∀ bs, bs ∈ modelsOver n p → allTrue bs D = true → agreesB m bs = true) :
    Contract n step p :=
  ⟨fun _ _ h => by cases hs.symm.trans h; exact sound,
    fun _ _ h => by cases hs.symm.trans h; exact nonzero,
    fun _ _ h => by cases hs.symm.trans h; exact propagated,
    fun h => (nomatch h.symm.trans hs)⟩

theorem Contract.of_none {n : Nat} {step : Step} {p : Problem} (hs : step p = none)
    (complete : modelsOver n p = []) : Contract n step p :=
  ⟨fun _ _ h => (nomatch hs.symm.trans h), fun _ _ h => (nomatch hs.symm.trans h),
    fun _ _ h => (nomatch hs.symm.trans h), fun _ => complete⟩

theorem block_holds (bs : List Bool) : ∀ (D : List Int), (∀ l ∈ D, l ≠ 0) →
    (block D).holds (asgOf bs) = !allTrue bs D := by
  intro D hD
  unfold block
  rw [ofClause_holds]
  unfold clauseTrue negLits allTrue
  induction D with
  | nil => rfl
  | cons d ds ih =>
    simp only [List.map_cons, List.any_cons, List.all_cons]
    rw [ih (fun l hl => hD l (List.mem_cons_of_mem _ hl)), litTrue_neg _ _ (hD d (List.mem_cons_self))]
    cases litTrue (asgOf bs) d <;> simp

theorem mem_modelsOver_append (n : Nat) (p : Problem) (c : Lin) (bs : List Bool) :
    bs ∈ modelsOver n (p ++ [c]) ↔ bs ∈ modelsOver n p ∧ c.holds (asgOf bs) = true := by
  simp only [mem_modelsOver, Problem.holds_snoc, Bool.and_eq_true, and_assoc]

theorem block_exact (n : Nat) (step : Step) (p : Problem) (hc : Contract n step p)
    (m : List (Option Bool)) (D : List Int) (h : step p = some (m, D)) :
    (∀ bs, (bs ∈ modelsOver n p ∧ (block D).holds (asgOf bs) = false) ↔ bs ∈ expand m) ∧
    (∀ bs, bs ∈ modelsOver n p ↔ (bs ∈ expand m ∨ bs ∈ modelsOver n (p ++ [block D]))) ∧
    (∀ bs, bs ∈ expand m → bs ∉ modelsOver n (p ++ [block D])) := by
  have hnz := hc.nonzero m D h
  have key : ∀ bs, (bs ∈ modelsOver n p ∧ (block D).holds (asgOf bs) = false) ↔ bs ∈ expand m := by
    intro bs
    rw [block_holds bs D hnz, mem_expand]
    constructor
    · rintro ⟨h1, h2⟩
      exact hc.propagated m D h bs h1 (by simpa using h2)
    · intro ha
      have := hc.sound m D h bs ha
      exact ⟨this.1, by simp [this.2]⟩
  refine ⟨key, ?_, ?_⟩
  · intro bs
    rw [mem_modelsOver_append, ← key bs]
    cases (block D).holds (asgOf bs) <;> simp
  · intro bs hb
    rw [mem_modelsOver_append]
    have := (key bs).2 hb
    simp [this.2]

theorem block_exact_total (n : Nat) (step : Step) (p : Problem) (hc : Contract n step p)
    (m : List Bool) (D : List Int) (h : step p = some (m.map some, D)) (bs : List Bool) :
    (bs ∈ modelsOver n p ∧ (block D).holds (asgOf bs) = false) ↔ bs = m := by
  rw [(block_exact n step p hc _ D h).1 bs, expand_total]; simp

theorem round_perm (n : Nat) (step : Step) (p : Problem) (hc : Contract n step p)
    (m : List (Option Bool)) (D : List Int) (h : step p = some (m, D)) :
    (modelsOver n p).Perm (expand m ++ modelsOver n (p ++ [block D])) := by
  obtain ⟨_, h2, h3⟩ := block_exact n step p hc m D h
  refine (List.perm_ext_iff_of_nodup (modelsOver_nodup n p) ?_).2 fun bs => by
    rw [h2 bs, List.mem_append]
  exact List.nodup_append.2
    ⟨expand_nodup m, modelsOver_nodup n _, fun a ha b hb hab => h3 a ha (hab ▸ hb)⟩

theorem count_split (n : Nat) (step : Step) (p : Problem) (hc : Contract n step p)
    (m : List (Option Bool)) (D : List Int) (h : step p = some (m, D)) :
    countOver n p = 2 ^ nbUnbound m + countOver n (p ++ [block D]) := by
  have := (round_perm n step p hc m D h).length_eq
  rwa [List.length_append, expand_length] at this

/-- Invariant form of `enum_exact`, over the reachable problems `F ++ bl`: what is delivered is
    a permutation of the models.  A round reports at least one model (`count_split`), which keeps
    `countOver < fuel`. -/
theorem enum_aux (n : Nat) (step : Step) (F : Problem) (hc : ∀ bl, Contract n step (F ++ bl)) :
    ∀ (fuel : Nat) (bl : Problem), countOver n (F ++ bl) < fuel →
      (enumLoop step fuel (F ++ bl)).Perm (modelsOver n (F ++ bl)) := by
  intro fuel
  induction fuel with
  | zero => intro bl h; omega
  | succ fuel ih =>
    intro bl hf
    cases hs : step (F ++ bl) with
    | none =>
      rw [enumLoop_none step fuel _ hs, (hc bl).complete hs]
    | some r =>
      obtain ⟨m, D⟩ := r
      by_cases hD : D = []
      · subst hD
        rw [enumLoop_last step fuel _ m hs]
        refine (List.perm_ext_iff_of_nodup (expand_nodup m) (modelsOver_nodup n _)).2 fun bs => ?_
        rw [mem_expand]
        exact ⟨fun ha => ((hc bl).sound m [] hs bs ha).1,
          fun hm => (hc bl).propagated m [] hs bs hm rfl⟩
      · rw [enumLoop_more step fuel _ m D hs hD]
        have hp := round_perm n step _ (hc bl) m D hs
        have hcnt := count_split n step _ (hc bl) m D hs
        have hpos : 0 < 2 ^ nbUnbound m := Nat.pow_pos (by omega)
        rw [List.append_assoc] at *
        exact ((ih (bl ++ [block D]) (by omega)).append_left _).trans hp.symm

theorem countOver_le (n : Nat) (p : Problem) : countOver n p ≤ 2 ^ n := by
  unfold countOver modelsOver
  exact Nat.le_trans (List.length_filter_le _ _) (Nat.le_of_eq (length_leaves n))

/-- **Enumeration and counting are exact** (C05), if every call of the search on `F` extended by
    blocking clauses meets the contract.  `enumLoop` is what `Enumerate` delivers, `countLoop`
    the number returned by `Enumerate` and by `CountModels`. -/
theorem enum_exact (n : Nat) (step : Step) (F : Problem)
    (hc : ∀ bl, Contract n step (F ++ bl)) (fuel : Nat) (hf : countOver n F < fuel) :
    (enumLoop step fuel F).Nodup ∧
    (∀ bs, bs ∈ enumLoop step fuel F ↔ bs ∈ modelsOver n F) ∧
    (∀ bs, bs ∈ enumLoop step fuel F → bs.length = n ∧ Problem.holds (asgOf bs) F = true) ∧
    (enumLoop step fuel F).length = countOver n F ∧
    countLoop step fuel F = countOver n F := by
  have h := enum_aux n step F hc fuel [] (by simpa using hf)
  rw [List.append_nil] at h
  have hn := h.nodup_iff.2 (modelsOver_nodup n F)
  have hlen : (enumLoop step fuel F).length = countOver n F := h.length_eq
  refine ⟨hn, fun bs => h.mem_iff, ?_, hlen, ?_⟩
  · intro bs hb
    exact (mem_modelsOver n F bs).1 (h.mem_iff.1 hb)
  · rw [countLoop_eq_length, hlen]

theorem enum_exact_pow (n : Nat) (step : Step) (F : Problem)
    (hc : ∀ bl, Contract n step (F ++ bl)) :
    (enumLoop step (2 ^ n + 1) F).Nodup ∧
    (∀ bs, bs ∈ enumLoop step (2 ^ n + 1) F ↔ bs ∈ modelsOver n F) ∧
    (enumLoop step (2 ^ n + 1) F).length = countOver n F ∧
    countLoop step (2 ^ n + 1) F = countOver n F := by
  have h := enum_exact n step F hc (2 ^ n + 1) (Nat.lt_succ_of_le (countOver_le n F))
  exact ⟨h.1, h.2.1, h.2.2.2.1, h.2.2.2.2⟩

theorem enum_unsat (n : Nat) (step : Step) (F : Problem)
    (hc : ∀ bl, Contract n step (F ++ bl)) (hu : modelsOver n F = []) (fuel : Nat)
    (hf : 0 < fuel) : enumLoop step fuel F = [] ∧ countLoop step fuel F = 0 := by
  have hz : countOver n F = 0 := by unfold countOver; rw [hu]; rfl
  have h := enum_exact n step F hc fuel (by omega)
  rw [hz] at h
  exact ⟨List.eq_nil_of_length_eq_zero h.2.2.2.1, h.2.2.2.2⟩

theorem enum_trivial (n : Nat) (step : Step)
    (h : step [] = some (List.replicate n none, [])) (fuel : Nat) :
    enumLoop step (fuel + 1) [] = expand (List.replicate n none) ∧
    (enumLoop step (fuel + 1) []).length = 2 ^ n ∧
    countLoop step (fuel + 1) [] = 2 ^ n ∧
    (∀ bs, bs ∈ enumLoop step (fuel + 1) [] ↔ bs.length = n) := by
  have he := enumLoop_last step fuel [] _ h
  refine ⟨he, ?_, ?_, ?_⟩
  · rw [he, expand_length, nbUnbound_replicate]
  · rw [countLoop_eq_length, he, expand_length, nbUnbound_replicate]
  · intro bs
    rw [he, mem_expand, agreesB_iff]
    simp only [List.length_replicate]
    constructor
    · exact fun h => h.1
    · intro hl
      refine ⟨hl, ?_⟩
      intro i b hib
      rw [List.getElem?_replicate] at hib
      split at hib <;> simp at hib

/-- `propagated` against the original problem `F` implies `propagated` against `F ++ bl`.
    The converse fails for the Go search: it propagates with the blocking clauses too. With
    `F = []`, `n = 2`, first model `x1 x2` with decisions `[1, 2]`, the blocking clause
    `¬x1 ∨ ¬x2` makes the second run decide `x1` and *propagate* `¬x2`: decisions `[1]`, but
    both `x1 x2` and `x1 ¬x2` are models of `F` that make `[1]` true. -/
theorem propagated_of_original (n : Nat) (F bl : Problem) (m : List (Option Bool)) (D : List Int)
    (h : ∀ bs, bs ∈ modelsOver n F → allTrue bs D = true → agreesB m bs = true) :
    ∀ bs, bs ∈ modelsOver n (F ++ bl) → allTrue bs D = true → agreesB m bs = true := by
  intro bs hb
  apply h bs
  rw [mem_modelsOver] at hb ⊢
  refine ⟨hb.1, ?_⟩
  have := hb.2
  rw [Problem.holds_append, Bool.and_eq_true] at this
  exact this.1

/-- The remark, evaluated: against `F = []` the second run (model `x1 ¬x2`, decisions `[1]`) fails
    `propagated` at `[true, true]`; against `F ++ [block [1, 2]]` it meets it. -/
example : [true, true] ∈ modelsOver 2 [] ∧ allTrue [true, true] [1] = true ∧
    agreesB [some true, some false] [true, true] = false ∧
    (∀ bs, bs ∈ modelsOver 2 ([] ++ [block [1, 2]]) → allTrue bs [1] = true →
      agreesB [some true, some false] bs = true) := by decide +kernel

/-- `Contract` for an oracle that reports a total model `bs` and its decisions `D`. -/
structure ContractT (n : Nat) (f : Problem → Option (List Bool × List Int)) (p : Problem) : Prop where
  sound : ∀ bs D, f p = some (bs, D) → bs ∈ modelsOver n p ∧ allTrue bs D = true
  nonzero : ∀ bs D, f p = some (bs, D) → ∀ l ∈ D, l ≠ 0
  propagated : ∀ bs D, f p = some (bs, D) → ∀ bs', bs' ∈ modelsOver n p →
    allTrue bs' D = true → bs' = bs
  complete : f p = none → modelsOver n p = []

theorem agreesB_map_some_iff (bs bs' : List Bool) : agreesB (bs.map some) bs' = true ↔ bs' = bs := by
  rw [← mem_expand, expand_total]; simp

theorem contract_of_total (n : Nat) (f : Problem → Option (List Bool × List Int)) (p : Problem)
    (h : ContractT n f p) : Contract n (totalStep f) p := by
  cases hf : f p with
  | none => exact .of_none (by rw [totalStep, hf]) (h.complete hf)
  | some r =>
    obtain ⟨bs, D⟩ := r
    refine .of_some (m := bs.map some) (by rw [totalStep, hf]) (fun bs' ha => ?_) (h.nonzero bs D hf)
      (fun bs' hb ht => (agreesB_map_some_iff bs bs').2 (h.propagated bs D hf bs' hb ht))
    rw [(agreesB_map_some_iff bs bs').1 ha]
    exact h.sound bs D hf

theorem enum_exact_total (n : Nat) (f : Problem → Option (List Bool × List Int)) (F : Problem)
    (hc : ∀ bl, ContractT n f (F ++ bl)) :
    (enumLoop (totalStep f) (2 ^ n + 1) F).Nodup ∧
    (∀ bs, bs ∈ enumLoop (totalStep f) (2 ^ n + 1) F ↔ bs ∈ modelsOver n F) ∧
    (enumLoop (totalStep f) (2 ^ n + 1) F).length = countOver n F ∧
    countLoop (totalStep f) (2 ^ n + 1) F = countOver n F :=
  enum_exact_pow n (totalStep f) F (fun bl => contract_of_total n f _ (hc bl))

theorem litTrue_asgOf_eq (bs : List Bool) {l : Int} {v : Nat} (hv : l.natAbs = v + 1) :
    litTrue (asgOf bs) l = (bs.getD v false == decide (l > 0)) := by
  rw [litTrue, hv, asgOf]
  by_cases hp : l > 0 <;> simp [hp]

theorem litTrue_asgOf_iff {bs : List Bool} {l : Int} {v : Nat} (hv : l.natAbs = v + 1)
    (hlt : v < bs.length) : litTrue (asgOf bs) l = true ↔ bs[v]? = some (decide (l > 0)) := by
  rw [litTrue_asgOf_eq bs hv, beq_iff_eq, List.getD_eq_getElem?_getD, List.getElem?_eq_getElem hlt,
    Option.getD_some, Option.some.injEq]

theorem litTrue_litOf (bs' : List Bool) (i : Nat) (b : Bool) :
    litTrue (asgOf bs') (if b then ((i : Int) + 1) else -((i : Int) + 1)) =
      (bs'.getD i false == b) := by
  have hn : ((i : Int) + 1).natAbs = i + 1 := Int.natAbs_natCast (i + 1)
  cases b
  · rw [if_neg Bool.false_ne_true, litTrue_asgOf_eq bs' ((Int.natAbs_neg _).trans hn),
      decide_eq_false (by omega)]
  · rw [if_pos rfl, litTrue_asgOf_eq bs' hn, decide_eq_true (by omega)]

theorem allTrue_litsOf (bs bs' : List Bool) (hl : bs'.length = bs.length) :
    allTrue bs' (litsOf bs) = true ↔ bs' = bs := by
  unfold allTrue litsOf
  simp only [List.all_map, List.all_eq_true, List.mem_range, Function.comp]
  constructor
  · intro h
    apply List.ext_getElem hl
    intro i h1 h2
    have := h i h2
    rw [litTrue_litOf] at this
    simp only [beq_iff_eq] at this
    simpa [List.getD_eq_getElem?_getD, List.getElem?_eq_getElem h1, List.getElem?_eq_getElem h2] using this
  · rintro rfl i _
    rw [litTrue_litOf]; simp

theorem litsOf_nonzero (bs : List Bool) : ∀ l ∈ litsOf bs, l ≠ 0 := by
  intro l hl
  unfold litsOf at hl
  simp only [List.mem_map, List.mem_range] at hl
  obtain ⟨i, _, rfl⟩ := hl
  split <;> omega

theorem bruteStepT_some {n : Nat} {p : Problem} {bs : List Bool} {D : List Int}
    (hs : bruteStepT n p = some (bs, D)) : bs ∈ modelsOver n p ∧ D = litsOf bs := by
  unfold bruteStepT at hs
  match hm : modelsOver n p, hs with
  | b :: rest, hs =>
    obtain ⟨rfl, rfl⟩ := Prod.mk.inj (Option.some.inj hs)
    exact ⟨List.mem_cons_self, rfl⟩

theorem bruteStepT_none {n : Nat} {p : Problem} (hs : bruteStepT n p = none) :
    modelsOver n p = [] := by
  unfold bruteStepT at hs
  match hm : modelsOver n p, hs with
  | [], _ => rfl

theorem bruteStep_contractT (n : Nat) (p : Problem) :
    ContractT n (bruteStepT n) p := by
  constructor
  · intro bs D hs
    obtain ⟨hb, rfl⟩ := bruteStepT_some hs
    exact ⟨hb, (allTrue_litsOf bs bs rfl).2 rfl⟩
  · intro bs D hs
    obtain ⟨_, rfl⟩ := bruteStepT_some hs
    exact litsOf_nonzero bs
  · intro bs D hs bs' hb' ht
    obtain ⟨hb, rfl⟩ := bruteStepT_some hs
    have l1 := ((mem_modelsOver n p bs).1 hb).1
    have l2 := ((mem_modelsOver n p bs').1 hb').1
    exact (allTrue_litsOf bs bs' (l2.trans l1.symm)).1 ht
  · exact bruteStepT_none

/-- Non-vacuity: the hypotheses of `enum_exact` are met by the executable oracle `bruteStep`. -/
theorem bruteStep_contract (n : Nat) (p : Problem) : Contract n (bruteStep n) p :=
  contract_of_total n _ p (bruteStep_contractT n p)

theorem enum_brute (n : Nat) (F : Problem) :
    (enumLoop (bruteStep n) (2 ^ n + 1) F).Nodup ∧
    (∀ bs, bs ∈ enumLoop (bruteStep n) (2 ^ n + 1) F ↔ bs ∈ modelsOver n F) ∧
    (enumLoop (bruteStep n) (2 ^ n + 1) F).length = countOver n F ∧
    countLoop (bruteStep n) (2 ^ n + 1) F = countOver n F :=
  enum_exact_pow n (bruteStep n) F (fun bl => bruteStep_contract n (F ++ bl))

example : enumLoop (bruteStep 3) 9 [Lin.ofClause [1, 2], Lin.ofClause [-1, 3]] =
    [[false, true, false], [false, true, true], [true, false, true], [true, true, true]] ∧
    countLoop (bruteStep 3) 9 [Lin.ofClause [1, 2], Lin.ofClause [-1, 3]] = 4 := by decide +kernel

/-- A run with fewer decisions than variables, as the Go search produces them
    (`F = ¬x1 ∨ x2` over 2 variables: decide `x1` (`x2` follows), then under `¬x1` decide `x2`,
    then nothing is left to decide): the per-round contract holds on the problems visited and
    the loop delivers the 3 models. -/
def demoStep : Step := fun p =>
  match p.length with
  | 1 => some ([some true, some true], [1])
  | 2 => some ([some false, some true], [2])
  | 3 => some ([some false, some false], [])
  | _ => none

example : enumLoop demoStep 5 [Lin.ofClause [-1, 2]] =
    [[true, true], [false, true], [false, false]] ∧
    countLoop demoStep 5 [Lin.ofClause [-1, 2]] = countOver 2 [Lin.ofClause [-1, 2]] := by decide +kernel

example : let F : Problem := [Lin.ofClause [-1, 2]]
    (∀ bs ∈ leaves 2, (bs ∈ modelsOver 2 F ∧ (block [1]).holds (asgOf bs) = false) ↔
      bs ∈ expand [some true, some true]) ∧
    (∀ bs ∈ leaves 2, (bs ∈ modelsOver 2 (F ++ [block [1]]) ∧ (block [2]).holds (asgOf bs) = false) ↔
      bs ∈ expand [some false, some true]) := by decide +kernel

example : (enumLoop (fun _ => some (List.replicate 3 none, [])) 1 []).length = 8 := by decide

/-- The Go counter on 62 / 63 / 64 unbound variables (observed on /repo: `CountModels` of 63
    variables without clause prints `-9223372036854775808`, of 64 variables prints `0`). -/
example : countCurrentGo (List.replicate 62 none) = 2 ^ 62 ∧
    countCurrentGo (List.replicate 63 none) = -9223372036854775808 ∧
    countCurrentGo (List.replicate 64 none) = 0 := by decide +kernel

end GS.Enum
