import GS.Props.C07_Mus
import GS.Model.MusFixed
/-!
# C07 — the repaired MaxSat strategy (`MUSMaxSat` after the fix 8b39c56) returns a MUS

`GS.Mus.maxsatFixed` (`GS/Model/MusFixed.lean`) mirrors the repaired `MUSMaxSat` of
`explain/mus.go`: the clauses gathered by the MaxSat rounds (`maxsatStrategy`, what the function
returned before the repair, not minimal: `maxsat_mus_counterexample(_dup)`) are minimized by
`MUSDeletion`.

The rounds (`maxsatLoop_spec`): the clause list of the state is constant, `musClauses` is a
permutation of the hardened clauses, and the loop answers `some` only when the hard clauses have no
model among `leaves n` (exhaustive when `cnfWf n cs`: `bruteCnfSat_iff`), so the gathered set is
an unsatisfiable sub-multiset of the input. Fuel `|cs| + 1` suffices (`maxsatLoop_progress`): each
round hardens `cost ≥ 1` clauses, and `cost == 0` is impossible on an unsatisfiable input.
-/
namespace GS.Mus
open GS

theorem argmin_none (f : List Bool → Nat) (l : List (List Bool)) : argmin f l = none ↔ l = [] := by
  fun_cases argmin f l <;> simp_all

theorem argmin_mem (f : List Bool → Nat) (l : List (List Bool)) (b : List Bool) :
    argmin f l = some b → b ∈ l := by
  fun_induction argmin f l with
  | case1 => nofun
  | case2 x xs h ih => exact fun e => Option.some.inj e ▸ List.mem_cons_self
  | case3 x xs b' h hle ih => exact fun e => Option.some.inj e ▸ List.mem_cons_self
  | case4 x xs b' h hle ih => exact fun e => List.mem_cons_of_mem _ (ih (h.trans e))

theorem optModel_none (n : Nat) (st : MState) :
    optModel n st = none ↔ bruteCnfSat n (hardOf st) = false := by
  unfold optModel bruteCnfSat
  rw [argmin_none, List.filter_eq_nil_iff, List.any_eq_false]

theorem optModel_some (n : Nat) (st : MState) (bs : List Bool) (h : optModel n st = some bs) :
    cnfTrue (asgOf bs) (hardOf st) = true := by
  unfold optModel at h
  have := argmin_mem _ _ _ h
  rw [List.mem_filter] at this
  exact this.2

theorem markFalsified_map_fst (a : Asg) (st : MState) :
    (markFalsified a st).1.map (·.1) = st.map (·.1) := by
  fun_induction markFalsified a st with
  | case1 => rfl
  | case2 c d rest r h ih => exact congrArg (c :: ·) ih
  | case3 c d rest r h ih => exact congrArg (c :: ·) ih

theorem hardOf_cons (c : List Int) (d : Bool) (st : MState) :
    hardOf ((c, d) :: st) = if d then c :: hardOf st else hardOf st := by
  cases d <;> rfl

theorem markFalsified_hardOf (a : Asg) (st : MState) :
    (hardOf (markFalsified a st).1).Perm (hardOf st ++ (markFalsified a st).2) := by
  fun_induction markFalsified a st with
  | case1 => exact .refl _
  | case2 c d rest r h ih =>
    -- a clause that becomes hard goes behind the old hard ones
    obtain rfl : d = false := by simpa using (Bool.and_eq_true_iff.1 h).1
    exact (ih.cons c).trans List.perm_middle.symm
  | case3 c d rest r h ih =>
    rw [hardOf_cons, hardOf_cons]
    split
    · exact ih.cons c
    · exact ih

/-- Clauses not yet hardened. -/
def undone (st : MState) : Nat := (st.filter (fun p => !p.2)).length

theorem markFalsified_undone (a : Asg) :
    ∀ st : MState, undone (markFalsified a st).1 + costOf a st = undone st := by
  intro st
  induction st with
  | nil => rfl
  | cons p rest ih =>
    obtain ⟨c, d⟩ := p
    unfold undone costOf at *
    simp only [markFalsified]
    cases d with
    | true => simpa using ih
    | false =>
      by_cases hc : clauseTrue a c = true
      · simp [hc]; omega
      · have hc' : clauseTrue a c = false := by simpa using hc
        simp [hc']; omega

theorem hardOf_sublist (st : MState) : List.Sublist (hardOf st) (st.map (·.1)) := by
  unfold hardOf
  exact List.Sublist.map _ List.filter_sublist

theorem cost_zero_sat (a : Asg) (st : MState) (h0 : costOf a st = 0)
    (hh : cnfTrue a (hardOf st) = true) : cnfTrue a (st.map (·.1)) = true := by
  unfold costOf at h0
  rw [List.length_eq_zero_iff, List.filter_eq_nil_iff] at h0
  unfold cnfTrue hardOf at *
  rw [List.all_eq_true] at hh ⊢
  intro c hc
  rw [List.mem_map] at hc
  obtain ⟨⟨c', d⟩, hp, rfl⟩ := hc
  cases d with
  | true =>
    apply hh
    rw [List.mem_map]
    exact ⟨(c', true), by simp [hp], rfl⟩
  | false =>
    have := h0 _ hp
    simpa using this

theorem maxsatLoop_spec (n : Nat) (fuel : Nat) (st : MState) (mc m : List (List Int)) :
    mc.Perm (hardOf st) → maxsatLoop n fuel st mc = some m →
    ∃ st' : MState, st'.map (·.1) = st.map (·.1) ∧ m.Perm (hardOf st') ∧ optModel n st' = none := by
  fun_induction maxsatLoop n fuel st mc with
  | case1 => nofun
  | case2 fuel st mc ho => exact fun hp h => ⟨st, rfl, Option.some.inj h ▸ hp, ho⟩
  | case3 => nofun
  | case4 fuel st mc bs ho h0 r ih =>
    intro hp h
    obtain ⟨st', h1, h2, h3⟩ := ih ((hp.append_right _).trans (markFalsified_hardOf (asgOf bs) st).symm) h
    exact ⟨st', h1.trans (markFalsified_map_fst _ st), h2, h3⟩

theorem maxsatLoop_progress (n : Nat) (fuel : Nat) (st : MState) (mc : List (List Int)) :
    ¬ CnfSat (st.map (·.1)) → undone st < fuel → ∃ m, maxsatLoop n fuel st mc = some m := by
  fun_induction maxsatLoop n fuel st mc with
  | case1 => exact fun _ hf => nomatch hf
  | case2 fuel st mc ho => exact fun _ _ => ⟨mc, rfl⟩
  | case3 fuel st mc bs ho h0 =>
    exact fun hun _ => absurd ⟨asgOf bs, cost_zero_sat _ st h0 (optModel_some n st bs ho)⟩ hun
  | case4 fuel st mc bs ho h0 r ih =>
    intro hun hf
    have hu : undone r.1 + _ = _ := markFalsified_undone (asgOf bs) st
    exact ih (by rw [markFalsified_map_fst]; exact hun) (by omega)

theorem hardOf_init (cs : List (List Int)) : hardOf (cs.map (fun c => (c, false))) = [] := by
  simp [hardOf]

theorem undone_init (cs : List (List Int)) : undone (cs.map (fun c => (c, false))) = cs.length := by
  have h : ∀ p ∈ cs.map (fun c => (c, false)), (!p.2) = true := fun p hp => by
    obtain ⟨c, _, rfl⟩ := List.mem_map.1 hp; rfl
  rw [undone, List.filter_eq_self.2 h, List.length_map]

theorem map_fst_init (cs : List (List Int)) :
    (cs.map (fun c => (c, false))).map (·.1) = cs := by
  rw [List.map_map]; exact List.map_id _

theorem maxsatStrategy_unsat_sub (n : Nat) (cs : List (List Int)) (hw : cnfWf n cs = true)
    (m : List (List Int)) (h : maxsatStrategy n cs = some m) :
    subMultiset m cs = true ∧ m ⊆ cs ∧ ¬ CnfSat m := by
  unfold maxsatStrategy at h
  obtain ⟨st', h1, h2, h3⟩ := maxsatLoop_spec n _ _ [] m (by rw [hardOf_init]) h
  rw [map_fst_init] at h1
  have hsl : List.Sublist (hardOf st') cs := h1 ▸ hardOf_sublist st'
  have hsub : m ⊆ cs := fun x hx => hsl.subset (h2.subset hx)
  refine ⟨?_, hsub, ?_⟩
  · rw [subMultiset_iff_count]
    intro x
    rw [h2.count_eq]
    exact hsl.count_le x
  · intro hs
    have hs' : CnfSat (hardOf st') := CnfSat.mono h2.symm.subset hs
    have := (bruteCnfSat_iff n _ (cnfWf_subset n hsl.subset hw)).2 hs'
    rw [(optModel_none n st').1 h3] at this
    cases this

theorem maxsatStrategy_progress (n : Nat) (cs : List (List Int)) (hun : ¬ CnfSat cs) :
    ∃ m, maxsatStrategy n cs = some m := by
  unfold maxsatStrategy
  apply maxsatLoop_progress
  · rw [map_fst_init]; exact hun
  · rw [undone_init]; omega

theorem maxsatStrategy_sat (n : Nat) (cs : List (List Int)) (hw : cnfWf n cs = true)
    (hs : CnfSat cs) : maxsatStrategy n cs = none := by
  cases h : maxsatStrategy n cs with
  | none => rfl
  | some m =>
    obtain ⟨_, hsub, hun⟩ := maxsatStrategy_unsat_sub n cs hw m h
    exact absurd (CnfSat.mono hsub hs) hun

/-- C07 for the repaired `MUSMaxSat`, over an arbitrary `UnsatSubset` (the one called by its
`MUSDeletion` pass) whose contract on the clause lists drawn from the input (`f ⊆ cs`) is a
hypothesis. -/
theorem maxsatFixedWith_mus (n : Nat) (sub : List (List Int) → Option (List (List Int)))
    (cs : List (List Int)) (hw : cnfWf n cs = true)
    (hsub : ∀ f, f ⊆ cs → (∀ s, sub f = some s → List.Sublist s f ∧ ¬ CnfSat s) ∧
      (sub f = none ↔ CnfSat f)) :
    (∀ m, maxsatFixedWith n sub cs = some m → subMultiset m cs = true ∧ ¬ CnfSat m ∧ IsMUS m) ∧
    (CnfSat cs → maxsatFixedWith n sub cs = none) ∧
    (¬ CnfSat cs → ∃ m, maxsatFixedWith n sub cs = some m) := by
  unfold maxsatFixedWith
  cases h : maxsatStrategy n cs with
  | none =>
    refine ⟨nofun, fun _ => rfl, fun hun => ?_⟩
    obtain ⟨g, hg⟩ := maxsatStrategy_progress n cs hun
    cases h.symm.trans hg
  | some g =>
    -- the rounds gathered an unsatisfiable `g ⊆ cs`, which the deletion pass minimizes
    obtain ⟨hsm, hg, hun⟩ := maxsatStrategy_unsat_sub n cs hw g h
    obtain ⟨m', e, _, h2, h3, h4⟩ := (deletionWith_mus (bruteCnfSat n) sub g
      (brute_contract n g (cnfWf_subset n hg hw)) (hsub g hg).1 (hsub g hg).2).1 hun
    rw [Option.bind_some, e]
    exact ⟨fun m hm => Option.some.inj hm ▸ ⟨subMultiset_trans h2 hsm, h3, h4⟩,
      fun hs => absurd (CnfSat.mono hg hs) hun, fun _ => ⟨m', rfl⟩⟩

theorem maxsatFixed_eq (n : Nat) (cs : List (List Int)) :
    maxsatFixed n cs = maxsatFixedWith n (unsatSubsetId (bruteCnfSat n)) cs := rfl

/-- C07 for the repaired `MUSMaxSat`, brute-force oracles. -/
theorem maxsatFixed_mus (n : Nat) (cs : List (List Int)) (hw : cnfWf n cs = true) :
    (∀ m, maxsatFixed n cs = some m → subMultiset m cs = true ∧ ¬ CnfSat m ∧ IsMUS m) ∧
    (CnfSat cs → maxsatFixed n cs = none) := by
  rw [maxsatFixed_eq]
  have h := maxsatFixedWith_mus n _ cs hw fun f hf =>
    unsatSubsetId_some _ f (brute_contract n f (cnfWf_subset n hf hw))
  exact ⟨h.1, h.2.1⟩

theorem maxsatFixed_progress (n : Nat) (cs : List (List Int)) (hw : cnfWf n cs = true) :
    ¬ CnfSat cs → ∃ m, maxsatFixed n cs = some m :=
  maxsatFixed_eq n cs ▸ (maxsatFixedWith_mus n _ cs hw fun f hf =>
    unsatSubsetId_some _ f (brute_contract n f (cnfWf_subset n hf hw))).2.2

/-! The two inputs of `maxsat_mus_counterexample`, `maxsat_mus_counterexample_dup` give a MUS; a
satisfiable input gives `none` (the Go function returns the error "cannot extract MUS from
satisfiable problem"). -/

example : cnfWf 2 [[1], [-1], [2], [-2]] = true ∧ cnfWf 1 [[1], [1], [-1]] = true := by decide

/-- Two disjoint cores: the rounds gather all four clauses, the deletion pass keeps `{x₂, ¬x₂}`
(Go: `[[-2] [2]]`, the same MUS in another order). -/
example : maxsatStrategy 2 [[1], [-1], [2], [-2]] = some [[1], [2], [-1], [-2]] ∧
    maxsatFixed 2 [[1], [-1], [2], [-2]] = some [[2], [-2]] ∧
    isMUSB 2 [[2], [-2]] = true := by decide +kernel

/-- A repeated clause: only one copy of `[1]` is kept (Go: `[[-1] [1]]`, identical). -/
example : maxsatStrategy 1 [[1], [1], [-1]] = some [[-1], [1], [1]] ∧
    maxsatFixed 1 [[1], [1], [-1]] = some [[-1], [1]] ∧
    isMUSB 1 [[-1], [1]] = true := by decide +kernel

example : maxsatFixed 2 [[1, 2], [-1]] = none := by decide

/-- The empty clause; an implication chain next to a two-clause core; an over-constrained square. -/
example : maxsatFixed 2 [[1, 2], [], [1]] = some [[]] := by decide +kernel
example : maxsatFixed 3 [[1], [-1, 2], [-2, 3], [-3], [2], [-2]] = some [[2], [-2]] := by decide +kernel
example : maxsatFixed 2 [[1, 2], [-1, 2], [1, -2], [-1, -2], [1]]
    = some [[-1, 2], [-1, -2], [1]] := by decide +kernel

/-- The statement instantiated: the answer on the input of `maxsat_mus_counterexample` is a MUS of the spec. -/
example : IsMUS [[2], [-2]] ∧ subMultiset [[2], [-2]] [[1], [-1], [2], [-2]] = true :=
  let h := (maxsatFixed_mus 2 [[1], [-1], [2], [-2]] (by decide +kernel)).1 [[2], [-2]] (by decide +kernel)
  ⟨h.2.2, h.1⟩

end GS.Mus

#print axioms GS.Mus.maxsatLoop_spec
#print axioms GS.Mus.maxsatLoop_progress
#print axioms GS.Mus.maxsatStrategy_unsat_sub
#print axioms GS.Mus.maxsatStrategy_progress
#print axioms GS.Mus.maxsatFixedWith_mus
#print axioms GS.Mus.maxsatFixed_mus
#print axioms GS.Mus.maxsatFixed_progress
