import GS.Model.TrailPb
import GS.Props.C01_Trail
/-!
# C02 (C01 / C06) — the hypotheses of `analyze_sound_pb` are an inductive invariant of the trail
machine with cardinality / pseudo-boolean antecedents

`GS.Model.TrailPb` extends the trail machine of `GS.Model.Trail` by `propagatePb l c`
(`propagateUnit` called from `simplifyPseudoBool`, `simplifyCardConstr`, and from
`simplifyCardAMOConstr`, which no run reaches: `watchClause` never fills `wlistCardAMO`).
Proved here, for every operation sequence:

* a clause is the special case weights 1, degree 1 (`isUnit_eq_forcedPb`,
  `propagate_eq_propagatePb`); the tests written in `watcher.go` imply the guard `forcedPb`
  (`goPbTest_forced`, `goCardTest_forced`); on clause operations the machine is `GS.Trail`'s, through
  the projection `State.toTrail`, acceptance included (`step_toTrail_eq`, `step_toTrail`): a fact
  about the model, which the proofs below cannot go through, the projection forgetting the
  constraint an entry carries;
* `InvPb` is inductive (`step_preserves_invPb`, `reachable_invPb`).  Its condition on antecedents,
  `ReasonsPb`, has the exact shape of hypothesis `hR` of `analyze_sound_pb`; the rest is
  `GS.Trail.Inv0` of the projected state, so a push and a backjump keep it by the lemmas of
  `GS.Props.C01_Trail`.  (`InvPb s` does not give `GS.Trail.Inv s.toTrail`: a cardinality antecedent
  is not a clause made unit.)  The development then runs as in `GS.Props.C01_Trail`, over `PEntry`
  with `Lin` for clauses, up to `reachable_analyze_sound_pb` (no hypothesis on the state left) and
  `reachable_entailed_pb`.
-/
namespace GS.TrailPb
open GS GS.Analyze

theorem litsOf_ofClause (c : List Int) : litsOf (Lin.ofClause c) = c := by
  simp [litsOf, Lin.ofClause, List.map_map, Function.comp_def]

/-- The first conjunct is there for the induction: at a literal that counts, `1 + slack rest < 1`
    is refuted by `0 ≤ slack rest`. -/
theorem slack_ofClause (fb : Int → Bool) (ex : List Int) (c : List Int) :
    0 ≤ slack fb ex (c.map (fun l => ((1 : Int), l))) ∧
    (slack fb ex (c.map (fun l => ((1 : Int), l))) < 1 ↔ ∀ f ∈ c, fb f = true ∨ f ∈ ex) := by
  induction c with
  | nil => simp [slack]
  | cons x xs ih =>
    simp only [List.map_cons, slack, List.mem_cons, forall_eq_or_imp]
    by_cases hx : (fb x || ex.contains x) = true
    · rw [if_pos hx]
      have hx' : fb x = true ∨ x ∈ ex := by simpa using hx
      refine ⟨by omega, ?_⟩
      rw [Int.zero_add, ih.2]
      exact ⟨fun h => ⟨hx', h⟩, fun h => h.2⟩
    · rw [if_neg hx]
      have hx' : ¬ (fb x = true ∨ x ∈ ex) := by simpa using hx
      refine ⟨by omega, ?_⟩
      constructor
      · intro h; omega
      · intro h; exact absurd h.1 hx'

theorem pbExplains_ofClause (fb : Int → Bool) (ex c : List Int) :
    pbExplains fb ex (Lin.ofClause c) = true ↔ ∀ f ∈ c, fb f = true ∨ f ∈ ex := by
  unfold pbExplains
  simp only [Bool.and_eq_true, List.all_eq_true, decide_eq_true_eq]
  refine ⟨fun h => (slack_ofClause fb ex c).2.1 h.2,
    fun h => ⟨fun t ht => ?_, (slack_ofClause fb ex c).2.2 h⟩⟩
  obtain ⟨x, _, rfl⟩ := List.mem_map.1 ht
  exact Int.zero_le_ofNat 1

theorem forcedPb_iff (es : List Entry) (l : Int) (c : Lin) :
    forcedPb es l c = true ↔ l ∈ litsOf c ∧ pbExplains (isFalse es) [l] c = true := by
  simp [forcedPb]

theorem isUnit_eq_forcedPb (es : List Entry) (l : Int) (c : List Int) :
    forcedPb es l (Lin.ofClause c) = GS.Trail.isUnit es l c := by
  rw [Bool.eq_iff_iff, forcedPb_iff, GS.Trail.isUnit_iff, litsOf_ofClause, pbExplains_ofClause]
  refine and_congr_right fun _ => forall_congr' fun f => forall_congr' fun _ => ?_
  rw [List.mem_singleton, or_comm]
  exact Decidable.or_iff_not_imp_left

theorem propagate_eq_propagatePb (s : State) (l : Int) (c : List Int) :
    step s (.propagate l c) = step s (.propagatePb l (Lin.ofClause c)) := by
  simp only [step, propagateOp, propagatePbOp, isUnit_eq_forcedPb]

theorem slack_remove (fb : Int → Bool) (l w : Int) (hl : fb l = false) (ts : List (Int × Int))
    (hpos : ∀ t ∈ ts, 0 ≤ t.1) (hm : (w, l) ∈ ts) : slack fb [l] ts + w ≤ slack fb [] ts := by
  rw [slack_eq_litSum, slack_eq_litSum]
  exact litSum_mono_lt hpos (fun t _ => by cases fb t.2 <;> simp) hm (by simp) (by simp [hl])

theorem isFalse_of_unbound {es : List Entry} {l : Int} (hu : GS.Trail.unbound es l = true) :
    isFalse es l = false := by
  cases h : isFalse es l with
  | false => rfl
  | true =>
    obtain ⟨e, he, hel⟩ := (isFalse_iff es l).1 h
    exact absurd (natAbs_of_lit_eq_neg hel) ((GS.Trail.unbound_iff es l).1 hu e he)

/-- `simplifyPseudoBool` (`Weight(i) > slack`, `propagateAll`) propagates only forced literals. -/
theorem goPbTest_forced {es : List Entry} {l : Int} {c : Lin} (hu : GS.Trail.unbound es l = true)
    (h : goPbTest es l c = true) : forcedPb es l c = true := by
  unfold goPbTest at h
  simp only [Bool.and_eq_true, List.all_eq_true, decide_eq_true_eq, List.any_eq_true,
    beq_iff_eq] at h
  obtain ⟨⟨hpos, _⟩, t, ht, htl, htw⟩ := h
  have hpos' : ∀ t ∈ c.terms, 0 ≤ t.1 := fun t ht => Int.le_of_lt (hpos t ht)
  have hmem : (t.1, l) ∈ c.terms := by rw [← htl]; exact ht
  have := slack_remove (isFalse es) l t.1 (isFalse_of_unbound hu) c.terms hpos' hmem
  rw [forcedPb_iff]
  refine ⟨List.mem_map.2 ⟨t, ht, htl⟩, ?_⟩
  unfold pbExplains
  simp only [Bool.and_eq_true, List.all_eq_true, decide_eq_true_eq]
  exact ⟨hpos', by omega⟩

/-- The cardinality test is the pseudo-boolean one at weights 1: `slack = card` is slack 0 and any
    position holding `l` has weight `1 > 0` (`simplifyCardConstr` against `propagateAll`). -/
theorem goCardTest_goPbTest {es : List Entry} {l : Int} {c : Lin} (h : goCardTest es l c = true) :
    goPbTest es l c = true := by
  unfold goCardTest at h
  simp only [Bool.and_eq_true, List.all_eq_true, decide_eq_true_eq, beq_iff_eq,
    List.contains_iff_mem] at h
  obtain ⟨⟨hone, hl⟩, heq⟩ := h
  obtain ⟨t, ht, htl⟩ := List.mem_map.1 hl
  unfold goPbTest
  simp only [Bool.and_eq_true, List.all_eq_true, decide_eq_true_eq, List.any_eq_true, beq_iff_eq]
  refine ⟨⟨fun t ht => by rw [hone t ht]; decide, by omega⟩, t, ht, htl, ?_⟩
  rw [hone t ht]; omega

/-- `simplifyCardConstr` (and the unreachable `simplifyCardAMOConstr`; `nbUnb + nbTrue == card`)
    propagate only forced literals. -/
theorem goCardTest_forced {es : List Entry} {l : Int} {c : Lin}
    (hu : GS.Trail.unbound es l = true) (h : goCardTest es l c = true) :
    forcedPb es l c = true :=
  goPbTest_forced hu (goCardTest_goPbTest h)

theorem ents_push (s : State) (l : Int) (k : Nat) (a : Bool) (r : Option Lin) :
    (push s l k a r).ents = s.ents ++ [⟨l, k, a, r.map litsOf⟩] := by
  simp [State.ents, push, PEntry.toEntry]

theorem entries_toSt (s : State) (confl : List Int) : (s.toSt confl).entries = s.ents :=
  GS.Trail.entries_toSt s.toTrail confl

theorem analyze_toSt (s : State) (confl : List Int) :
    analyze (s.toSt confl) = analyzeE s.ents s.lvl confl :=
  GS.Trail.analyze_toSt s.toTrail confl

theorem map_split {es : List PEntry} {pre post : List Entry} {e : Entry}
    (h : es.map PEntry.toEntry = pre ++ e :: post) :
    ∃ pre' e' post', es = pre' ++ e' :: post' ∧ pre'.map PEntry.toEntry = pre ∧
      e'.toEntry = e ∧ post'.map PEntry.toEntry = post := by
  obtain ⟨l1, l2, rfl, h1, h2⟩ := List.map_eq_append_iff.1 h
  obtain ⟨e', post', rfl, h3, h4⟩ := List.map_eq_cons_iff.1 h2
  exact ⟨l1, e', post', rfl, h1, h3, h4⟩

theorem toTrail_push (s : State) (l : Int) (k : Nat) (a : Bool) (r : Option Lin) :
    (push s l k a r).toTrail = GS.Trail.push s.toTrail l k a (r.map litsOf) := by
  simp only [State.toTrail, GS.Trail.push, ents_push]
  rfl

theorem backjumpOp_some {s s' : State} {k : Nat} (hs : backjumpOp s k = some s') :
    1 ≤ k ∧ k ≤ s.lvl ∧ s' = ⟨k, s.es.takeWhile (fun e => decide (e.lvl ≤ k))⟩ := by
  simp only [backjumpOp, Option.ite_none_right_eq_some, Bool.and_eq_true, decide_eq_true_eq,
    Option.some.injEq] at hs
  exact ⟨hs.1.1, hs.1.2, hs.2.symm⟩

theorem toTrail_backjump (s : State) (k : Nat) :
    (backjumpOp s k).map State.toTrail = GS.Trail.backjumpOp s.toTrail k := by
  simp only [backjumpOp, GS.Trail.backjumpOp, apply_ite (Option.map State.toTrail), Option.map_some,
    Option.map_none, State.toTrail, State.ents, List.takeWhile_map]
  rfl

/-- `reasonsPb` as a `Prop`: antecedents in the shape hypothesis `hR` of `analyze_sound_pb` asks
    for, the slack being taken over the literals false **before** the entry on the trail. -/
def ReasonsPb (es : List PEntry) : Prop :=
  ∀ pre e post c, es = pre ++ e :: post → e.reason = some c →
    e.lit ∈ litsOf c ∧ pbExplains (isFalse (pre.map PEntry.toEntry)) [e.lit] c = true

theorem ReasonsPb.prefix {es rest : List PEntry} (h : ReasonsPb (es ++ rest)) : ReasonsPb es :=
  fun pre e post c hes => h pre e (post ++ rest) c (by rw [hes]; simp)

theorem ReasonsPb.snoc {es : List PEntry} {x : PEntry} (h : ReasonsPb es)
    (hx : ∀ c, x.reason = some c → forcedPb (es.map PEntry.toEntry) x.lit c = true) :
    ReasonsPb (es ++ [x]) := by
  intro pre e post c hsp hc
  rcases snoc_split hsp with ⟨_, rfl, rfl⟩ | ⟨post', _, hsp'⟩
  · exact (forcedPb_iff _ _ _).1 (hx c hc)
  · exact h pre e post' c hsp' hc

structure InvPb (s : State) : Prop where
  trail : TrailInv s.ents s.lvl
  reasons : ReasonsPb s.es
  decisions : ∀ k, 2 ≤ k → GS.Trail.DecisionsOkP s.ents k
  lvl_pos : 1 ≤ s.lvl
  lvls_pos : ∀ e ∈ s.ents, 1 ≤ e.lvl

theorem InvPb.inv0 {s : State} (h : InvPb s) : GS.Trail.Inv0 s.toTrail :=
  ⟨h.trail, h.decisions, h.lvl_pos, h.lvls_pos⟩

theorem InvPb.of_inv0 {s : State} (h : GS.Trail.Inv0 s.toTrail) (hr : ReasonsPb s.es) : InvPb s :=
  ⟨h.trail, hr, h.decisions, h.lvl_pos, h.lvls_pos⟩

theorem push_invPb {s : State} (h : InvPb s) {l : Int} {k : Nat} {a : Bool} {r : Option Lin}
    (hl : l ≠ 0) (hu : GS.Trail.unbound s.ents l = true) (hk : s.lvl ≤ k)
    (hr : ∀ c, r = some c → forcedPb s.ents l c = true)
    (hd : r = none → a = false → 2 ≤ k → s.lvl < k) : InvPb (push s l k a r) := by
  have h0 := GS.Trail.push_inv0 (r := r.map litsOf) h.inv0 hl hu hk
    (fun hn => hd (Option.map_eq_none_iff.1 hn))
  rw [← toTrail_push] at h0
  exact .of_inv0 h0 (ReasonsPb.snoc h.reasons hr)

theorem backjump_preserves_invPb {s s' : State} {k : Nat} (h : InvPb s)
    (hs : backjumpOp s k = some s') : InvPb s' := by
  refine .of_inv0 (GS.Trail.backjump_inv0 h.inv0
    ((toTrail_backjump s k).symm.trans (congrArg (Option.map State.toTrail) hs))) ?_
  obtain ⟨_, _, rfl⟩ := backjumpOp_some hs
  refine ReasonsPb.prefix (rest := s.es.dropWhile (fun e => decide (e.lvl ≤ k))) ?_
  rw [List.takeWhile_append_dropWhile]
  exact h.reasons

/-- What an operation with constraint `oc = opConstr o` pushes on `s`
    (as `GS.Trail.PushOk`, with the guard `forcedPb`). -/
structure PushOk (oc : Option Lin) (s : State) (l : Int) (k : Nat) (a : Bool) (r : Option Lin) :
    Prop where
  nonzero : l ≠ 0
  unbound : GS.Trail.unbound s.ents l = true
  lvl : GS.Trail.LvlOk s.lvl k a (r = none)
  forced : ∀ c, r = some c → forcedPb s.ents l c = true ∧ oc = some c
  fact : r = none → a = false → k = s.lvl → oc = some (Lin.ofClause [l])

theorem propagatePbOp_some {s s' : State} {l : Int} {c : Lin}
    (hs : propagatePbOp s l c = some s') :
    PushOk (some c) s l s.lvl false (some c) ∧ s' = push s l s.lvl false (some c) := by
  simp only [propagatePbOp, Option.ite_none_right_eq_some, Bool.and_eq_true, bne_iff_ne, ne_eq,
    Option.some.injEq] at hs
  exact ⟨⟨hs.1.1.1, hs.1.1.2, Or.inl ⟨rfl, fun h => (by cases h)⟩,
    fun c' hc => (by cases hc; exact ⟨hs.1.2, rfl⟩), fun h => (by cases h)⟩, hs.2.symm⟩

theorem step_cases {s s' : State} {o : Op} (hs : step s o = some s') :
    (∃ k, backjumpOp s k = some s') ∨
    ∃ s1 l k a r, (s1 = s ∨ ∃ j, backjumpOp s j = some s1) ∧ PushOk (opConstr o) s1 l k a r ∧
      s' = push s1 l k a r := by
  cases o with
  | decide l =>
    simp only [step, decideOp, Option.ite_none_right_eq_some, Bool.and_eq_true, bne_iff_ne, ne_eq,
      Option.some.injEq] at hs
    exact Or.inr ⟨s, l, _, _, _, Or.inl rfl, ⟨hs.1.1, hs.1.2, Or.inr ⟨rfl, rfl, rfl⟩,
      fun _ h => (by cases h), fun _ _ h => absurd h (Nat.succ_ne_self _)⟩, hs.2.symm⟩
  | propagate l c =>
    obtain ⟨ok, rfl⟩ := propagatePbOp_some ((propagate_eq_propagatePb s l c).symm.trans hs)
    exact Or.inr ⟨s, l, _, _, _, Or.inl rfl, ok, rfl⟩
  | propagatePb l c =>
    obtain ⟨ok, rfl⟩ := propagatePbOp_some hs
    exact Or.inr ⟨s, l, _, _, _, Or.inl rfl, ok, rfl⟩
  | backjump k => exact Or.inl ⟨k, hs⟩
  | assertLearned l c k =>
    simp only [step, assertLearnedOp] at hs
    split at hs
    · rename_i s1 h1
      obtain ⟨ok, rfl⟩ := propagatePbOp_some ((propagate_eq_propagatePb s1 l c).symm.trans hs)
      exact Or.inr ⟨s1, l, _, _, _, Or.inr ⟨k, h1⟩, ok, rfl⟩
    · cases hs
  | addFact l =>
    simp only [step, addFactOp, Option.ite_none_right_eq_some, Bool.and_eq_true, bne_iff_ne, ne_eq,
      beq_iff_eq, Option.some.injEq] at hs
    exact Or.inr ⟨s, l, _, _, _, Or.inl rfl, ⟨hs.1.1.1, hs.1.1.2, Or.inl ⟨hs.1.2.symm, fun _ => rfl⟩,
      fun _ h => (by cases h), fun _ _ _ => rfl⟩, hs.2.symm⟩
  | assume l =>
    simp only [step, assumeOp, Option.ite_none_right_eq_some, Bool.and_eq_true, bne_iff_ne, ne_eq,
      beq_iff_eq, Option.some.injEq] at hs
    exact Or.inr ⟨s, l, _, _, _, Or.inl rfl, ⟨hs.1.1.1, hs.1.1.2, Or.inl ⟨hs.1.2.symm, fun _ => rfl⟩,
      fun _ h => (by cases h), fun _ h => (by cases h)⟩, hs.2.symm⟩

theorem step_preserves_invPb {s s' : State} {o : Op} (h : InvPb s) (hs : step s o = some s') :
    InvPb s' := by
  rcases step_cases hs with ⟨k, hb⟩ | ⟨s1, l, k, a, r, h1, ok, rfl⟩
  · exact backjump_preserves_invPb h hb
  · have hi1 : InvPb s1 := h1.elim (fun e => e ▸ h) fun ⟨j, hj⟩ => backjump_preserves_invPb h hj
    exact push_invPb hi1 ok.nonzero ok.unbound ok.lvl.le (fun c hc => (ok.forced c hc).1)
      fun hr _ => ok.lvl.opens hr

theorem run_induction {P : State → Prop} : ∀ (ops : List Op) {s s' : State},
    (∀ o ∈ ops, ∀ t t', P t → step t o = some t' → P t') → P s → run s ops = some s' → P s'
  | [], s, s', _, h, hr => by cases hr; exact h
  | o :: os, s, s', hstep, h, hr => by
    rw [run] at hr
    split at hr
    · rename_i s1 h1
      exact run_induction os (fun o' ho' => hstep o' (List.mem_cons_of_mem _ ho'))
        (hstep o List.mem_cons_self s s1 h h1) hr
    · cases hr

theorem run_preserves_invPb (ops : List Op) {s s' : State} (h : InvPb s)
    (hr : run s ops = some s') : InvPb s' :=
  run_induction ops (fun _ _ _ _ ht => step_preserves_invPb ht) h hr

theorem toTrail_init (units : List Int) : (init units).toTrail = GS.Trail.init units := by
  simp [State.toTrail, State.ents, init, GS.Trail.init, PEntry.toEntry, List.map_map,
    Function.comp_def]

/-- `New` on a problem whose unit literals are non-zero over pairwise distinct variables. -/
theorem init_units_invPb_partial {units : List Int} (hu : GS.Trail.unitsOk units = true) :
    InvPb (init units) := by
  have h0 := (GS.Trail.init_units_inv_partial hu).inv0
  rw [← toTrail_init] at h0
  refine .of_inv0 h0 ?_
  intro pre e post c hsp hc
  have he : e ∈ (init units).es := by rw [hsp]; simp
  simp only [init, List.mem_map] at he
  obtain ⟨u, _, rfl⟩ := he
  cases hc

theorem init_invPb : InvPb empty := init_units_invPb_partial (units := []) rfl

theorem reachable_invPb {ops : List Op} {s : State} (hr : run empty ops = some s) : InvPb s :=
  run_preserves_invPb ops init_invPb hr

/-- The guard `unitsOk` is needed: `GS.Trail.init_units_inv_statement_false`. -/
theorem reachable_invPb_partial {units : List Int} {ops : List Op} {s : State}
    (hu : GS.Trail.unitsOk units = true) (hr : run (init units) ops = some s) : InvPb s :=
  run_preserves_invPb ops (init_units_invPb_partial hu) hr

theorem reasonsPb_iff (es : List PEntry) : reasonsPb es = true ↔ ReasonsPb es := by
  have h := splitCheck_iff PEntry.toEntry
    (fun p e => match e.reason with
      | none => true
      | some c => forcedPb p e.lit c)
    reasonsPbAux (fun _ => rfl) (fun _ _ _ => rfl) es []
  simp only [List.nil_append] at h
  refine h.trans (forall_congr' fun pre => forall_congr' fun e => ?_)
  constructor
  · intro h post c hes hc
    have := h post hes
    rw [hc] at this
    exact (forcedPb_iff _ _ _).1 this
  · intro h post hes
    cases hc : e.reason with
    | none => rfl
    | some c => exact (forcedPb_iff _ _ _).2 (h post c hes hc)

theorem invPbB_iff (s : State) : invPbB s = true ↔ InvPb s := by
  simp only [invPbB, Bool.and_eq_true, decide_eq_true_eq, trailInv_iff, reasonsPb_iff]
  constructor
  · rintro ⟨⟨⟨⟨h1, h2⟩, h3⟩, h4⟩, h5⟩
    exact ⟨h1, h2, (GS.Trail.decisionsRange_iff h1.bound).1 h3, h4, by simpa using h5⟩
  · intro h
    exact ⟨⟨⟨⟨h.trail, h.reasons⟩, (GS.Trail.decisionsRange_iff h.trail.bound).2 h.decisions⟩,
      h.lvl_pos⟩, by simpa using h.lvls_pos⟩

theorem step_preserves_invPbB {s s' : State} {o : Op} (h : invPbB s = true)
    (hs : step s o = some s') : invPbB s' = true :=
  (invPbB_iff s').2 (step_preserves_invPb ((invPbB_iff s).1 h) hs)

theorem reachable_invPbB {units : List Int} {ops : List Op} {s : State}
    (hu : GS.Trail.unitsOk units = true) (hr : run (init units) ops = some s) :
    invPbB s = true :=
  (invPbB_iff s).2 (reachable_invPb_partial hu hr)

theorem toTrail_propagate (s : State) (l : Int) (c : List Int) :
    (propagateOp s l c).map State.toTrail = GS.Trail.propagateOp s.toTrail l c := by
  simp only [propagateOp, GS.Trail.propagateOp, apply_ite (Option.map State.toTrail),
    Option.map_some, Option.map_none, toTrail_push, litsOf_ofClause]
  rfl

theorem step_toTrail_eq (s : State) {o : Op} {o' : GS.Trail.Op} (ho : o.toTrail = some o') :
    (step s o).map State.toTrail = GS.Trail.step s.toTrail o' := by
  cases o with
  | propagatePb l c => cases ho
  | propagate l c => cases ho; exact toTrail_propagate s l c
  | backjump k => cases ho; exact toTrail_backjump s k
  | assertLearned l c k =>
    cases ho
    simp only [step, GS.Trail.step, assertLearnedOp, GS.Trail.assertLearnedOp, ← toTrail_backjump]
    cases backjumpOp s k with
    | none => rfl
    | some s1 => exact toTrail_propagate s1 l c
  | _ =>
    cases ho
    simp only [step, GS.Trail.step, decideOp, GS.Trail.decideOp, addFactOp, GS.Trail.addFactOp,
      assumeOp, GS.Trail.assumeOp, apply_ite (Option.map State.toTrail), Option.map_some,
      Option.map_none, toTrail_push]
    rfl

/-- **Conservativity**: an accepted clause operation is the same operation of `GS.Model.Trail` on
    the projected state. -/
theorem step_toTrail {s s' : State} {o : Op} {o' : GS.Trail.Op} (ho : o.toTrail = some o')
    (hs : step s o = some s') : GS.Trail.step s.toTrail o' = some s'.toTrail :=
  (step_toTrail_eq s ho).symm.trans (congrArg (Option.map State.toTrail) hs)

/-- Side condition on an operation: the constraint it installs as antecedent / the fact it adds
    satisfies `P` (in the applications `P = Entails p`: a constraint of the problem, a learned
    clause, a learned unit). -/
def OpOk (P : Lin → Prop) : Op → Prop
  | .propagate _ c => P (Lin.ofClause c)
  | .propagatePb _ c => P c
  | .assertLearned _ c _ => P (Lin.ofClause c)
  | .addFact l => P (Lin.ofClause [l])
  | _ => True

structure SourcedPb (P : Lin → Prop) (s : State) : Prop where
  reasons : ∀ e ∈ s.es, ∀ c, e.reason = some c → P c
  facts : ∀ e ∈ s.es, e.reason = none → e.assumed = false → e.lvl = 1 → P (Lin.ofClause [e.lit])

theorem push_sourced {P : Lin → Prop} {s : State} (h : SourcedPb P s) {l : Int} {k : Nat}
    {a : Bool} {r : Option Lin} (hr : ∀ c, r = some c → P c)
    (hf : r = none → a = false → k = 1 → P (Lin.ofClause [l])) : SourcedPb P (push s l k a r) :=
  ⟨List.forall_mem_append.2 ⟨h.reasons, List.forall_mem_singleton.2 hr⟩,
   List.forall_mem_append.2 ⟨h.facts, List.forall_mem_singleton.2 hf⟩⟩

theorem opOk_iff {P : Lin → Prop} {o : Op} : OpOk P o ↔ ∀ c, opConstr o = some c → P c := by
  cases o <;> simp [OpOk, opConstr]

theorem opsFrom_ok {p : Problem} {ops : List Op} (h : opsFrom p ops = true) :
    ∀ o ∈ ops, OpOk (Entails p) o := by
  intro o ho
  rw [opOk_iff]
  intro c hc
  have := List.all_eq_true.1 h o ho
  rw [hc] at this
  exact Entails.of_mem (List.contains_iff_mem.1 this)

theorem backjump_sourced {P : Lin → Prop} {s s' : State} {k : Nat} (h : SourcedPb P s)
    (hs : backjumpOp s k = some s') : SourcedPb P s' := by
  obtain ⟨_, _, rfl⟩ := backjumpOp_some hs
  exact ⟨fun e he => h.reasons e ((List.takeWhile_sublist _).subset he),
    fun e he => h.facts e ((List.takeWhile_sublist _).subset he)⟩

theorem step_preserves_sourced {P : Lin → Prop} {s s' : State} {o : Op} (hl : 1 ≤ s.lvl)
    (h : SourcedPb P s) (ho : OpOk P o) (hs : step s o = some s') : SourcedPb P s' := by
  rcases step_cases hs with ⟨k, hb⟩ | ⟨s1, l, k, a, r, h1, ok, rfl⟩
  · exact backjump_sourced h hb
  · have hs1 : SourcedPb P s1 := h1.elim (fun e => e ▸ h) fun ⟨j, hj⟩ => backjump_sourced h hj
    have hl1 : 1 ≤ s1.lvl := h1.elim (fun e => e ▸ hl) fun ⟨j, hj⟩ => by
      obtain ⟨hj1, _, rfl⟩ := backjumpOp_some hj; exact hj1
    refine push_sourced hs1 (fun c hc => opOk_iff.1 ho c (ok.forced c hc).2)
      fun hr ha hk => opOk_iff.1 ho _ (ok.fact hr ha ?_)
    rcases ok.lvl with h' | h' <;> omega

theorem run_preserves_sourced {P : Lin → Prop} (ops : List Op) {s s' : State} (hi : InvPb s)
    (h : SourcedPb P s) (ho : ∀ o ∈ ops, OpOk P o) (hr : run s ops = some s') : SourcedPb P s' :=
  (run_induction (P := fun t => InvPb t ∧ SourcedPb P t) ops
    (fun o hmem _ _ ht hs => ⟨step_preserves_invPb ht.1 hs,
      step_preserves_sourced ht.1.lvl_pos ht.2 (ho o hmem) hs⟩) ⟨hi, h⟩ hr).2

theorem init_sourced {P : Lin → Prop} {units : List Int} (hu : ∀ u ∈ units, P (Lin.ofClause [u])) :
    SourcedPb P (init units) :=
  ⟨List.forall_mem_map.2 (fun _ _ _ hc => nomatch hc),
   List.forall_mem_map.2 fun u hu' _ _ _ => hu u hu'⟩

theorem empty_sourced {P : Lin → Prop} : SourcedPb P empty :=
  init_sourced (units := []) fun _ h => nomatch h

/-- What `analyze_sound_pb`, `analyze_asserting`, `analyze_not_stuck` give together on the snapshot
    `st` with analysed trail `es` at level `lvl`, against the problem `p`. -/
def AnalysisOkPb (p : Problem) (es : List Entry) (lvl : Nat) (st : St) : Prop :=
  analyze st ≠ .stuck ∧
  (∀ a rest, analyze st = .learned a rest →
    Entails p (Lin.ofClause (a :: rest)) ∧ rest ≠ [] ∧ isFalse es a = true ∧
    lvOf es a.natAbs = lvl ∧
    (∀ l ∈ rest, isFalse es l = true ∧ lvOf es l.natAbs < lvl) ∧
    rest.Pairwise (fun x y => lvOf es y.natAbs ≤ lvOf es x.natAbs)) ∧
  (∀ l, analyze st = .unit l →
    Entails p (Lin.ofClause [l]) ∧ isFalse es l = true ∧ lvOf es l.natAbs = lvl)

/-- Hypothesis `hR` of `analyze_sound_pb` (with `Q = Entails p`), from the invariant and a
    property `Q` of the antecedents. -/
theorem inv_hR {Q : Lin → Prop} {s : State} (h : InvPb s)
    (hs : ∀ e ∈ s.es, ∀ c, e.reason = some c → Q c) :
    ∀ pre e post r, s.ents = pre ++ e :: post → e.reason = some r →
      ∃ c : Lin, Q c ∧ c.terms.map (·.2) = r ∧ pbExplains (isFalse pre) [e.lit] c = true := by
  intro pre e post r h1 h2
  obtain ⟨pre', e', post', hsp, rfl, rfl, _⟩ := map_split h1
  obtain ⟨c, hc, rfl⟩ := Option.map_eq_some_iff.1 h2
  exact ⟨c, hs e' (by rw [hsp]; simp) c hc, rfl, (h.reasons pre' e' post' c hsp hc).2⟩

/-- Hypothesis `hF` of `analyze_sound_pb`: vacuous at a level `≥ 2` (only the decision has no
    antecedent), the facts at level 1. -/
theorem inv_hF (p : Problem) {s : State} (h : InvPb s) (hs : SourcedPb (Entails p) s) :
    ∀ pre e post, s.ents = pre ++ e :: post → e.reason = none → e.assumed = false →
      e.lvl = s.lvl → (∃ x ∈ pre, x.lvl = s.lvl) → Entails p (Lin.ofClause [e.lit]) := by
  intro pre e post hsp hr ha hlv ⟨x, hx, hxl⟩
  by_cases h2 : 2 ≤ s.lvl
  · exact absurd hxl (h.decisions _ h2 pre e post hsp hr ha hlv x hx)
  · obtain ⟨pre', e', post', hsp', rfl, rfl, _⟩ := map_split hsp
    have he' : e' ∈ s.es := by rw [hsp']; simp
    have := h.lvl_pos
    exact hs.facts e' he' (Option.map_eq_none_iff.1 hr) ha (by change e'.lvl = s.lvl at hlv; omega)

theorem inv_analyze_sound_pb (p : Problem) {s : State} {confl : Lin} (h : InvPb s)
    (hs : SourcedPb (Entails p) s) (hf : falsifiedPb s confl = true) (hc : Entails p confl) :
    AnalysisOkPb p s.ents s.lvl (s.toSt (litsOf confl)) := by
  have he := entries_toSt s (litsOf confl)
  unfold falsifiedPb at hf
  rw [Bool.and_eq_true] at hf
  have h1 := analyze_sound_pb p (s.toSt (litsOf confl))
    (by rw [he]; exact (trailInv_iff _ _).2 h.trail) (by rw [he]; exact inv_hR h hs.reasons)
    (by rw [he]; exact inv_hF p h hs) ⟨confl, hc, rfl, by rw [he]; exact hf.1⟩
  unfold AnalysisOkPb
  rw [analyze_toSt] at h1 ⊢
  exact analyzeE_ok (Q := fun K => Entails p (Lin.ofClause K)) h.trail hf.2 h1

/-- **The hypotheses `hinv`, `hR`, `hF` of `analyze_sound_pb`, literally, in every reachable
    state.** -/
theorem reachable_analyze_hyps (p : Problem) {ops : List Op} {s : State} (confl : List Int)
    (hrun : run empty ops = some s) (hops : ∀ o ∈ ops, OpOk (Entails p) o) :
    trailInv (s.toSt confl).entries (s.toSt confl).lvl = true ∧
    (∀ pre e post r, (s.toSt confl).entries = pre ++ e :: post → e.reason = some r →
      ∃ c : Lin, Entails p c ∧ c.terms.map (·.2) = r ∧
        pbExplains (isFalse pre) [e.lit] c = true) ∧
    (∀ pre e post, (s.toSt confl).entries = pre ++ e :: post → e.reason = none →
      e.assumed = false → e.lvl = (s.toSt confl).lvl → (∃ x ∈ pre, x.lvl = (s.toSt confl).lvl) →
      Entails p (Lin.ofClause [e.lit])) := by
  have h := reachable_invPb hrun
  have hs := run_preserves_sourced ops init_invPb empty_sourced hops hrun
  have he := entries_toSt s confl
  have hl : (s.toSt confl).lvl = s.lvl := rfl
  rw [he, hl]
  exact ⟨(trailInv_iff _ _).2 h.trail, inv_hR h hs.reasons, inv_hF p h hs⟩

theorem reachable_analyze_sound_pb_partial (p : Problem) {units : List Int} {ops : List Op}
    {s : State} {confl : Lin} (hu : GS.Trail.unitsOk units = true)
    (hrun : run (init units) ops = some s)
    (hunits : ∀ u ∈ units, Entails p (Lin.ofClause [u]))
    (hops : ∀ o ∈ ops, OpOk (Entails p) o)
    (hf : falsifiedPb s confl = true) (hc : Entails p confl) :
    AnalysisOkPb p s.ents s.lvl (s.toSt (litsOf confl)) :=
  inv_analyze_sound_pb p (reachable_invPb_partial hu hrun)
    (run_preserves_sourced ops (init_units_invPb_partial hu) (init_sourced hunits) hops hrun) hf hc

/-- **Conflict analysis is sound in every reachable conflict state of the extended machine**
    (clause and cardinality / PB propagations mixed): the hypotheses are on the operations
    (antecedents and facts entailed by `p`) and on the conflict constraint (entailed by `p`,
    violated at the current level: `falsifiedPb`), none on the state. -/
theorem reachable_analyze_sound_pb (p : Problem) {ops : List Op} {s : State} {confl : Lin}
    (hrun : run empty ops = some s) (hops : ∀ o ∈ ops, OpOk (Entails p) o)
    (hf : falsifiedPb s confl = true) (hc : Entails p confl) :
    AnalysisOkPb p s.ents s.lvl (s.toSt (litsOf confl)) :=
  reachable_analyze_sound_pb_partial p (units := []) rfl hrun (fun _ h => nomatch h) hops hf hc

theorem falsified_clause {s : State} {confl : List Int}
    (hf : GS.Trail.falsified s.toTrail confl = true) :
    falsifiedPb s (Lin.ofClause confl) = true := by
  unfold falsifiedPb
  rw [Bool.and_eq_true, litsOf_ofClause, pbExplains_ofClause]
  exact ⟨fun f hf' => Or.inl (((GS.Trail.falsified_iff _ _).1 hf).1 f hf'), GS.Trail.conflict_ok hf⟩

/-- A selection of trail literals that looks only at whether an entry has an antecedent, at its
    flag and at its level is the same on the projected state. -/
theorem filter_toEntry (p : Bool → Bool → Nat → Bool) (es : List PEntry) :
    ((es.map PEntry.toEntry).filter fun e => p e.reason.isNone e.assumed e.lvl).map (·.lit) =
      (es.filter fun e => p e.reason.isNone e.assumed e.lvl).map (·.lit) := by
  rw [List.filter_map, List.map_map]
  exact congrArg _ (List.filter_congr fun e _ => by simp [PEntry.toEntry])

theorem facts_toTrail (s : State) : GS.Trail.facts s.toTrail = facts s :=
  filter_toEntry (fun r a k => r && !a && decide (k ≤ 1)) s.es

theorem decisions_toTrail (s : State) : GS.Trail.decisions s.toTrail = decisions s :=
  filter_toEntry (fun r a k => r && !a && decide (2 ≤ k)) s.es

theorem assumptions_toTrail (s : State) : GS.Trail.assumptions s.toTrail = assumptions s :=
  filter_toEntry (fun r a _ => r && a) s.es

theorem inv_entailed_pb {s : State} (h : InvPb s) (A : Asg)
    (hR : ∀ c ∈ reasonConstrs s, c.holds A = true)
    (hF : ∀ l ∈ facts s, litTrue A l = true)
    (hD : ∀ l ∈ decisions s, litTrue A l = true)
    (hAs : ∀ l ∈ assumptions s, litTrue A l = true) :
    ∀ e ∈ s.es, litTrue A e.lit = true := by
  rw [← facts_toTrail] at hF
  rw [← decisions_toTrail] at hD
  rw [← assumptions_toTrail] at hAs
  have := trail_true (es := s.ents) (A := A) h.trail.nonzero
    (reasonsTrue_of_pb (inv_hR h fun e he c hc => hR c (List.mem_filterMap.2 ⟨e, he, hc⟩)))
    fun e he hr => (GS.Trail.noReason_cases (s := s.toTrail) he hr).elim (hF _)
      fun h' => h'.elim (hD _) (hAs _)
  exact fun e he => this e.toEntry (List.mem_map_of_mem he)

theorem reachable_entailed {ops : List Op} {s : State} (hrun : run empty ops = some s) (A : Asg)
    (hR : ∀ c ∈ reasonConstrs s, c.holds A = true)
    (hF : ∀ l ∈ facts s, litTrue A l = true)
    (hD : ∀ l ∈ decisions s, litTrue A l = true)
    (hAs : ∀ l ∈ assumptions s, litTrue A l = true) :
    ∀ e ∈ s.es, litTrue A e.lit = true :=
  inv_entailed_pb (reachable_invPb hrun) A hR hF hD hAs

theorem reachable_entailed_pb (p : Problem) {ops : List Op} {s : State}
    (hrun : run empty ops = some s) (hops : ∀ o ∈ ops, OpOk (Entails p) o) :
    ∀ e ∈ s.es, Entails (p ++ (decisions s ++ assumptions s).map (fun l => Lin.ofClause [l]))
      (Lin.ofClause [e.lit]) := by
  intro e he A hA
  have hi := reachable_invPb hrun
  have hs := run_preserves_sourced ops init_invPb empty_sourced hops hrun
  rw [Problem.holds, List.all_append, Bool.and_eq_true] at hA
  have hunit : ∀ l ∈ decisions s ++ assumptions s, litTrue A l = true := fun l hl => by
    rw [← ofClause_singleton_holds]
    exact List.all_eq_true.1 hA.2 _ (List.mem_map_of_mem hl)
  rw [ofClause_singleton_holds]
  refine inv_entailed_pb hi A (fun c hc => ?_) (fun l hl => ?_)
    (fun l hl => hunit l (List.mem_append_left _ hl))
    (fun l hl => hunit l (List.mem_append_right _ hl)) e he
  · obtain ⟨x, hx, hxr⟩ := List.mem_filterMap.1 hc
    exact hs.reasons x hx c hxr A hA.1
  · obtain ⟨x, hx, rfl, hr, ha, hl1⟩ := GS.Trail.mem_facts.1 (facts_toTrail s ▸ hl)
    obtain ⟨x', hx', rfl⟩ := List.mem_map.1 hx
    rw [← ofClause_singleton_holds]
    exact hs.facts x' hx' (Option.map_eq_none_iff.1 hr) ha
      (Nat.le_antisymm hl1 (hi.lvls_pos _ hx)) A hA.1

def exCard : Lin := Lin.ofCard [5, 6, -1] 2

def exOps1 : List Op := [.decide 1, .propagatePb 5 exCard, .propagatePb 6 exCard]

def exState1 : State :=
  { lvl := 2, es := [⟨1, 2, false, none⟩, ⟨5, 2, false, some exCard⟩, ⟨6, 2, false, some exCard⟩] }

def exP1 : Problem := [exCard, Lin.ofClause [-5, -6, -1]]

example : run empty exOps1 = some exState1 := by decide +kernel
example : invPbB exState1 = true := by decide +kernel
example : falsifiedPb exState1 (Lin.ofClause [-5, -6, -1]) = true := by decide +kernel
example : analyze (exState1.toSt [-5, -6, -1]) = .unit (-1) := by decide +kernel
example : opsFrom exP1 exOps1 = true := by decide +kernel
example : goCardTest [⟨1, 2, false, none⟩] 5 exCard = true := by decide +kernel
example : goCardTest [⟨1, 2, false, none⟩, ⟨5, 2, false, some [5, 6, -1]⟩] 6 exCard = true := by
  decide +kernel

theorem exP1_unit : Entails exP1 (Lin.ofClause [-1]) :=
  ((reachable_analyze_sound_pb exP1 (ops := exOps1) (s := exState1)
    (confl := Lin.ofClause [-5, -6, -1]) (by decide +kernel) (opsFrom_ok (by decide +kernel)) (by decide +kernel)
    (Entails.of_mem (by decide +kernel))).2.2 (-1) (by decide +kernel)).1

example : Entails exP1 (Lin.ofClause [-1]) := exP1_unit

/-- `exP1` written out; `exState1.toSt [-5, -6, -1]` is the snapshot `GS.Analyze.exCard`, so this is
    the conclusion of `analyze_sound_pb` on that snapshot (through `reachable_analyze_sound_pb`). -/
example : Entails [Lin.ofCard [5, 6, -1] 2, Lin.ofClause [-5, -6, -1]] (Lin.ofClause [-1]) := exP1_unit

example : Entails (exP1 ++ [Lin.ofClause [1]]) (Lin.ofClause [6]) :=
  reachable_entailed_pb exP1 (ops := exOps1) (s := exState1) (by decide +kernel) (opsFrom_ok (by decide +kernel))
    ⟨6, 2, false, some exCard⟩ (by decide +kernel)

/-! The run `exOps2`: a cardinality antecedent `exCard2` (twice), a clause antecedent, and a
**weighted conflict** `exPbConfl`, `2·¬4 + ¬3 + ¬6 + 8 ≥ 3` (only `8` is not false: slack
`1 − 3 < 0`).  `learnClause` uses its false literals `¬4`, `¬3` (level 3) and `¬6` (level 2),
resolves on `4`, `3`, `2` (the cardinality antecedent contributes its false literal `¬1` only) and
stops at the first UIP `1`. -/

def exCard2 : Lin := Lin.ofCard [2, 3, -1] 2
def exPbConfl : Lin := ⟨[(2, -4), (1, -3), (1, -6), (1, 8)], 3⟩

def exOps2 : List Op :=
  [.addFact 7, .decide 6, .decide 1, .propagatePb 2 exCard2, .propagatePb 3 exCard2,
   .propagate 4 [-2, -3, 4]]

def exState2 : State :=
  { lvl := 3,
    es := [⟨7, 1, false, none⟩, ⟨6, 2, false, none⟩, ⟨1, 3, false, none⟩,
           ⟨2, 3, false, some exCard2⟩, ⟨3, 3, false, some exCard2⟩,
           ⟨4, 3, false, some (Lin.ofClause [-2, -3, 4])⟩] }

def exP2 : Problem := [Lin.ofClause [7], exCard2, Lin.ofClause [-2, -3, 4], exPbConfl]

example : run empty exOps2 = some exState2 := by decide +kernel
example : invPbB exState2 = true := by decide +kernel
example : falsifiedPb exState2 exPbConfl = true := by decide +kernel
example : analyze (exState2.toSt (litsOf exPbConfl)) = .learned (-1) [-6] := by decide +kernel
example : opsFrom exP2 exOps2 = true := by decide +kernel

example : Entails exP2 (Lin.ofClause [-1, -6]) :=
  ((reachable_analyze_sound_pb exP2 (ops := exOps2) (s := exState2) (confl := exPbConfl)
    (by decide +kernel) (opsFrom_ok (by decide +kernel)) (by decide +kernel) (Entails.of_mem (by decide +kernel))).2.1 (-1) [-6]
    (by decide +kernel)).1

example : (step exState2 (.assertLearned (-1) [-1, -6] 2)).map (fun s => (s.lvl, s.ents.length)) =
    some (2, 3) := by decide +kernel

/-- A weighted antecedent: `3·1 + 2·2 + 2·3 ≥ 4`; once `1` is false, `2` and `3` are forced
    (`Weight(i) = 2 > slack = 4 − 4 = 0`: the `propagateAll` case of `simplifyPseudoBool`). -/
def exPb3 : Lin := ⟨[(3, 1), (2, 2), (2, 3)], 4⟩

example : (run empty [.decide (-1), .propagatePb 2 exPb3, .propagatePb 3 exPb3]).map
    (fun s => (invPbB s, falsifiedPb s (Lin.ofCard [-2, -3, 4] 2),
      analyze (s.toSt [-2, -3, 4]))) = some (true, true, .unit 1) := by decide +kernel
example : goPbTest [⟨-1, 2, false, none⟩] 2 exPb3 = true := by decide +kernel

/-- Guards: a literal that is not forced, or not in the constraint, or bound, is refused; so is a
    constraint with a negative weight. -/
example : run empty [.propagatePb 2 exPb3] = none := by decide +kernel
example : run empty [.decide (-1), .propagatePb 4 exPb3] = none := by decide +kernel
example : run empty [.decide (-1), .decide 2, .propagatePb 2 exPb3] = none := by decide +kernel
example : run empty [.propagatePb 1 ⟨[(1, 1), (-1, 2)], 1⟩] = none := by decide +kernel

/-- The guard asks for non-negative weights (as `pbExplains` and `pb_explains_sound` do, and as
    `GtEq` guarantees: it flips negative weights).  Without it the slack test is
    unsound: in `x1 − x2 ≥ 0` the weights of the non-false literals other than `x1` sum to
    `−1 < 0`, but the all-false assignment satisfies the constraint: `x1` is not forced. -/
example : slack (fun _ => false) [1] [(1, 1), (-1, 2)] < 0 := by decide +kernel
example : (⟨[(1, 1), (-1, 2)], 0⟩ : Lin).holds (fun _ => false) = true := by decide +kernel
example : forcedPb [] 1 ⟨[(1, 1), (-1, 2)], 0⟩ = false := by decide +kernel

/-- `falsifiedPb` asks for pairwise distinct false literals (as `conflOk` does): on a constraint
    that repeats a false literal of the current level `nbLvl` over-counts and the walk runs off the
    trail (`s.trail[-1]` in Go), although the state meets the invariant.  `ParsePBConstrs` does
    not merge repeated literals, so such a conflict can be met in a real run. -/
example : (run empty [.decide 1]).map (fun s => (invPbB s,
    falsifiedPb s ⟨[(1, -1), (2, -1), (3, -1)], 1⟩, analyze (s.toSt [-1, -1, -1]))) =
    some (true, false, .stuck) := by decide +kernel

/-- Assumptions: the walk stops at an assumed variable (`topLevel`). -/
example : (run empty [.assume 1, .assume 4, .propagatePb 2 exCard2, .propagatePb 3 exCard2]).map
    (fun s => (invPbB s, falsifiedPb s (Lin.ofClause [-2, -3, -4]),
      analyze (s.toSt [-2, -3, -4]))) = some (true, true, .topLevel) := by decide +kernel

example : run empty [.decide 1, .propagate 2 [-1, 2]] =
    run empty [.decide 1, .propagatePb 2 (Lin.ofClause [-1, 2])] := by decide +kernel

end GS.TrailPb

#print axioms GS.TrailPb.isUnit_eq_forcedPb
#print axioms GS.TrailPb.propagate_eq_propagatePb
#print axioms GS.TrailPb.goPbTest_forced
#print axioms GS.TrailPb.goCardTest_forced
#print axioms GS.TrailPb.step_preserves_invPb
#print axioms GS.TrailPb.init_invPb
#print axioms GS.TrailPb.init_units_invPb_partial
#print axioms GS.TrailPb.reachable_invPb
#print axioms GS.TrailPb.reachable_invPb_partial
#print axioms GS.TrailPb.invPbB_iff
#print axioms GS.TrailPb.step_toTrail
#print axioms GS.TrailPb.step_preserves_sourced
#print axioms GS.TrailPb.inv_analyze_sound_pb
#print axioms GS.TrailPb.reachable_analyze_hyps
#print axioms GS.TrailPb.reachable_analyze_sound_pb
#print axioms GS.TrailPb.reachable_analyze_sound_pb_partial
#print axioms GS.TrailPb.falsified_clause
#print axioms GS.TrailPb.inv_entailed_pb
#print axioms GS.TrailPb.reachable_entailed
#print axioms GS.TrailPb.reachable_entailed_pb
