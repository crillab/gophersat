import GS.Model.Chan
/-!
# Tools shared by the channel-protocol proofs (C20, C16)

A concrete system is presented as an abstract transition system over a few parameters (`Abs`):
its states are `st a`, and the labelled steps of `st a` are exactly those to `st a'` with
`step a l a'`.  Invariants and enabledness are then stated on the parameters and proved rule by rule
(`Abs.reach` carries an invariant along every execution); so is the decrease of the termination measure.
`lstep2` / `lstep3` list the candidate steps of a system of two / three processes, from which the
presentations are proved.

The theorems are stated with projections of the event trace: `sentVals` / `recvVals` (all channels; the
producer system has one) and, per channel, `sentOn c` / `recvOn c` / `closeCount c`.
-/
namespace GS.Chan

theorem syncStep_self (s : State) (i : Nat) : syncStep s i i = none := by simp [syncStep]

theorem lstep2 {s : State} (hl : s.procs.length = 2) (hp : s.panic = false) {l : List Event} {s' : State} :
    LStep s l s' ↔ localStep s 0 = some (l, s') ∨ syncStep s 0 1 = some (l, s') ∨
      localStep s 1 = some (l, s') ∨ syncStep s 1 0 = some (l, s') := by
  have r2 : List.range 2 = [0, 1] := rfl
  simp [lstep_iff_mem, lsuccessors, hl, hp, r2, syncStep_self]

theorem lstep3 {s : State} (hl : s.procs.length = 3) (hp : s.panic = false) {l : List Event} {s' : State} :
    LStep s l s' ↔ localStep s 0 = some (l, s') ∨ syncStep s 0 1 = some (l, s') ∨ syncStep s 0 2 = some (l, s') ∨
      localStep s 1 = some (l, s') ∨ syncStep s 1 0 = some (l, s') ∨ syncStep s 1 2 = some (l, s') ∨
      localStep s 2 = some (l, s') ∨ syncStep s 2 0 = some (l, s') ∨ syncStep s 2 1 = some (l, s') := by
  have r3 : List.range 3 = [0, 1, 2] := rfl
  simp [lstep_iff_mem, lsuccessors, hl, hp, r3, syncStep_self]

structure Abs (α : Type) where
  st : α → State
  step : α → List Event → α → Prop
  ok : ∀ {a l s'}, LStep (st a) l s' ↔ ∃ a', step a l a' ∧ s' = st a'

theorem Abs.reach {α : Type} (A : Abs α) {a0 : α} (I : List Event → α → Prop) (h0 : I [] a0)
    (hstep : ∀ tr a l a', I tr a → A.step a l a' → I (tr ++ l) a')
    {tr : List Event} {s : State} (h : LReach (A.st a0) tr s) : ∃ a, s = A.st a ∧ I tr a := by
  induction h with
  | init => exact ⟨a0, rfl, h0⟩
  | step _ hs ih =>
    rcases ih with ⟨a, rfl, ha⟩
    rcases A.ok.mp hs with ⟨a', hm, rfl⟩
    exact ⟨a', rfl, hstep _ _ _ _ ha hm⟩

theorem Abs.exists_step {α : Type} (A : Abs α) {a a' : α} {l : List Event} (h : A.step a l a') :
    ∃ s', Step (A.st a) s' :=
  ⟨_, l, A.ok.mpr ⟨a', h, rfl⟩⟩

theorem Abs.measure_dec {α : Type} (A : Abs α) {μ : State → Nat}
    (hdec : ∀ {a l a'}, A.step a l a' → μ (A.st a') < μ (A.st a)) {a : α} {s' : State} (hs : Step (A.st a) s') :
    μ s' < μ (A.st a) := by
  rcases hs with ⟨l, hl⟩
  rcases A.ok.mp hl with ⟨a', hm, rfl⟩
  exact hdec hm

def recvVals : List Event → List Nat
  | [] => []
  | .received _ v :: r => v :: recvVals r
  | _ :: r => recvVals r

def sentOn (c : Nat) : List Event → List Nat
  | [] => []
  | .sent c' v :: r => if c' = c then v :: sentOn c r else sentOn c r
  | _ :: r => sentOn c r

def recvOn (c : Nat) : List Event → List Nat
  | [] => []
  | .received c' v :: r => if c' = c then v :: recvOn c r else recvOn c r
  | _ :: r => recvOn c r

attribute [simp] sentVals recvVals sentOn recvOn

@[simp] theorem sentVals_append (a b : List Event) : sentVals (a ++ b) = sentVals a ++ sentVals b := by
  induction a with
  | nil => rfl
  | cons e r ih => cases e <;> simp [ih]

@[simp] theorem recvVals_append (a b : List Event) : recvVals (a ++ b) = recvVals a ++ recvVals b := by
  induction a with
  | nil => rfl
  | cons e r ih => cases e <;> simp [ih]

@[simp] theorem sentOn_append (c : Nat) (a b : List Event) : sentOn c (a ++ b) = sentOn c a ++ sentOn c b := by
  induction a with
  | nil => rfl
  | cons e r ih =>
    cases e <;> simp [ih]
    split <;> simp

@[simp] theorem recvOn_append (c : Nat) (a b : List Event) : recvOn c (a ++ b) = recvOn c a ++ recvOn c b := by
  induction a with
  | nil => rfl
  | cons e r ih =>
    cases e <;> simp [ih]
    split <;> simp

def closeCount (c : Nat) (tr : List Event) : Nat := tr.count (.closed c)

@[simp] theorem closeCount_append (c : Nat) (a b : List Event) :
    closeCount c (a ++ b) = closeCount c a + closeCount c b := List.count_append

@[simp] theorem closeCount_cons (c : Nat) (e : Event) (r : List Event) :
    closeCount c (e :: r) = closeCount c r + if e = .closed c then 1 else 0 := by
  simp [closeCount, List.count_cons]

@[simp] theorem closeCount_nil (c : Nat) : closeCount c [] = 0 := rfl

theorem mem_sentOn {c v : Nat} {tr : List Event} : v ∈ sentOn c tr ↔ Event.sent c v ∈ tr := by
  induction tr with
  | nil => simp
  | cons e r ih =>
    cases e <;> simp [ih]
    rename_i c' v'
    by_cases h : c' = c
    · subst h; simp [ih]
    · simp [h, ih]
      intro h1; exact absurd h1.symm h

end GS.Chan
