import GS.Model.Amo
/-!
# C15 — `DetectAtMostOne` preserves the set of models (mirror-level theorems)

All theorems are about `GS.Amo.detect`, the mirror of `(*Problem).DetectAtMostOne`, for ALL
constraint lists and all `nbVars`.

The only hypothesis is about the *meaning of the 2-literal constraints of the input*: the Go code
treats every constraint with `Len() == 2` as the binary clause `x ∨ y` without looking at its
cardinality or weights. `BinClausal cs` (every 2-literal constraint has cardinality 1) is necessary:
see `card2_witness` / `card0_witness` below. The mirror has no weights, so the theorems speak of
clauses and cardinality constraints only; on those the three parsers guarantee `BinClausal` (a
2-literal constraint of cardinality 2 becomes two unit literals). A weighted 2-literal constraint
that `ParseOPB` keeps (`2 x1 +2 x2 >= 2`, with `Cardinality() = 2`) is a clause in meaning but has
no image in `C` (`⟨[1,2],2⟩` would misread it): no theorem here covers it. The harness checks on the
Go side that each of the two literals alone reaches the degree, and compares Go with the mirror on
weight-free problems only.
No range / non-zero hypothesis on literals is needed for the theorems (the model is total); the
Go code needs `inRange nbVars cs` not to panic.
-/
namespace GS.Amo

theorem pairwise_count (p : Int → Bool) :
    ∀ l : List Int, l.Pairwise (fun x y => p x = true ∨ p y = true) → l.length - 1 ≤ l.countP p := by
  intro l
  induction l with
  | nil => intro _; simp
  | cons x t ih =>
    intro h
    rw [List.pairwise_cons] at h
    have ih := ih h.2
    by_cases hx : p x = true
    · rw [List.countP_cons_of_pos hx]; simp; omega
    · have hall : ∀ y ∈ t, p y = true := fun y hy => (h.1 y hy).resolve_left hx
      have : t.countP p = t.length := List.countP_eq_length.mpr hall
      rw [List.countP_cons_of_neg hx]; simp; omega

theorem count_head_tail (p : Int → Bool) (l : Int) (t : List Int) (o : Int) (ho : o ∈ t)
    (hc : (l :: t).length - 1 ≤ (l :: t).countP p) : p l = true ∨ p o = true := by
  by_cases hh : p l = true
  · exact Or.inl hh
  · by_cases hoo : p o = true
    · exact Or.inr hoo
    · exfalso
      rw [List.countP_cons_of_neg hh] at hc
      have hlt : t.countP p < t.length := by
        apply Nat.lt_of_le_of_ne List.countP_le_length
        intro heq
        exact hoo (List.countP_eq_length.mp heq o ho)
      simp at hc; omega

/-- A 2-literal constraint on `x`, `y` (in either order) occurs in `cs`. -/
def Bin (cs : List C) (x y : Int) : Prop := ∃ c ∈ cs, c.lits = [x, y] ∨ c.lits = [y, x]

def BinAt (cs : List C) (k : Nat) (x y : Int) : Prop :=
  ∃ c, cs[k]? = some c ∧ (c.lits = [x, y] ∨ c.lits = [y, x])

theorem BinAt.bin {cs : List C} {k : Nat} {x y : Int} (h : BinAt cs k x y) : Bin cs x y :=
  let ⟨c, hc, hl⟩ := h; ⟨c, List.mem_of_getElem? hc, hl⟩

/-- Every 2-literal constraint is an ordinary clause (cardinality 1). -/
def BinClausal (cs : List C) : Prop := ∀ c ∈ cs, c.lits.length = 2 → c.card = 1

/-- At `a`, a true 2-literal constraint has a true literal (fails for cardinality 0). -/
def BinSound (a : Asg) (cs : List C) : Prop :=
  ∀ c ∈ cs, ∀ x y, c.lits = [x, y] → c.holds a = true → (litTrue a x = true ∨ litTrue a y = true)

/-- At `a`, a 2-literal constraint with a true literal is true (fails for cardinality 2). -/
def BinComplete (a : Asg) (cs : List C) : Prop :=
  ∀ c ∈ cs, ∀ x y, c.lits = [x, y] → (litTrue a x = true ∨ litTrue a y = true) → c.holds a = true

theorem one_le_countP_pair (p : Int → Bool) (x y : Int) :
    1 ≤ [x, y].countP p ↔ p x = true ∨ p y = true :=
  (List.countP_pos_iff (l := [x, y])).trans (by simp)

theorem BinClausal.sound {cs : List C} (h : BinClausal cs) (a : Asg) : BinSound a cs := by
  intro c hc x y hl hh
  have h1 := h c hc (by simp [hl])
  unfold C.holds at hh
  rw [hl, h1] at hh
  exact (one_le_countP_pair _ x y).1 (of_decide_eq_true hh)

theorem BinClausal.complete {cs : List C} (h : BinClausal cs) (a : Asg) : BinComplete a cs := by
  intro c hc x y hl hh
  have h1 := h c hc (by simp [hl])
  unfold C.holds
  rw [hl, h1]
  exact decide_eq_true ((one_le_countP_pair _ x y).2 hh)

theorem mem_propsOfClause {l o : Int} {k i : Nat} {c : C} (h : (o, k) ∈ propsOfClause l c i) :
    k = i ∧ (c.lits = [-l, o] ∨ c.lits = [o, -l]) := by
  unfold propsOfClause at h
  split at h
  · rename_i l1 l2 hl
    rw [hl]
    rcases List.mem_append.1 h with h | h <;> split at h
    · cases List.mem_singleton.1 h
      exact ⟨rfl, Or.inl (by rw [show l1 = -l by omega])⟩
    · cases h
    · cases List.mem_singleton.1 h
      exact ⟨rfl, Or.inr (by rw [show l2 = -l by omega])⟩
    · cases h
  · cases h

theorem propsOf_mem {l o : Int} {k : Nat} : ∀ {cs : List C} {i : Nat}, (o, k) ∈ propsOf l cs i →
    i ≤ k ∧ BinAt cs (k - i) (-l) o := by
  intro cs
  induction cs with
  | nil => intro _ h; cases h
  | cons c cs ih =>
    intro i h
    rcases List.mem_append.1 h with h | h
    · obtain ⟨rfl, hl⟩ := mem_propsOfClause h
      exact ⟨Nat.le_refl _, c, by rw [Nat.sub_self]; rfl, hl⟩
    · obtain ⟨hle, c', hc', hl⟩ := ih h
      refine ⟨by omega, c', ?_, hl⟩
      rw [show k - i = (k - (i + 1)) + 1 by omega]
      exact hc'

theorem propsOf_zero {l o : Int} {k : Nat} {cs : List C} (h : (o, k) ∈ propsOf l cs 0) :
    BinAt cs k (-l) o := (propsOf_mem h).2

theorem prop_bin {cs : List C} {x o : Int} (h : o ∈ prop cs (-x)) : Bin cs x o := by
  unfold prop at h
  rw [List.mem_map] at h
  obtain ⟨⟨o', k⟩, hm, rfl⟩ := h
  simpa using (propsOf_zero hm).bin

/-- Invariant of the inner loop: `constr = l :: t` is a clique of binary clauses of the input and
    every queued index is the index of a binary clause on `l` and an element of `t`. -/
def GrowInv (cs : List C) (l : Int) (t : List Int) (bins : List Nat) : Prop :=
  (l :: t).Pairwise (Bin cs) ∧
  ∀ k ∈ bins, ∃ o ∈ t, BinAt cs k l o

theorem GrowInv.mono {cs l t bins o} (hi : GrowInv cs l t bins) (hall : ∀ x ∈ l :: t, Bin cs x o)
    {k : Nat} (hb : BinAt cs k l o) : GrowInv cs l (t ++ [o]) (bins ++ [k]) :=
  ⟨(List.pairwise_append (l₁ := l :: t)).2
      ⟨hi.1, List.pairwise_singleton _ _, fun x hx _ hy => List.mem_singleton.1 hy ▸ hall x hx⟩,
    List.forall_mem_append.2
      ⟨fun k' hk' => let ⟨o', h1, h2⟩ := hi.2 k' hk'; ⟨o', List.mem_append_left _ h1, h2⟩,
        List.forall_mem_singleton.2 ⟨o, List.mem_append_right _ (List.mem_singleton_self o), hb⟩⟩⟩

theorem grow_inv (cs : List C) (considered : List Int) (l : Int) :
    ∀ (others : List (Int × Nat)) (t : List Int) (bins : List Nat),
    (∀ p ∈ others, BinAt cs p.2 l p.1) →
    GrowInv cs l t bins →
    ∃ t', (grow (prop cs) considered others (l :: t) bins).1 = l :: t' ∧
      GrowInv cs l t' (grow (prop cs) considered others (l :: t) bins).2 := by
  intro others
  induction others with
  | nil => exact fun t bins _ hi => ⟨t, rfl, hi⟩
  | cons p rest ih =>
    obtain ⟨other, idx⟩ := p
    intro t bins ho hi
    obtain ⟨hb, horest⟩ := List.forall_mem_cons.1 ho
    unfold grow
    split
    · exact ih t bins horest hi
    · split
      · rename_i hall
        -- `other` is joined to the head by clause `idx`, to the tail by the test just passed
        have hall' : ∀ x ∈ l :: t, Bin cs x other := List.forall_mem_cons.2
          ⟨hb.bin, fun x hx => prop_bin (List.contains_iff_mem.1 (List.all_eq_true.1 hall x hx))⟩
        exact ih (t ++ [other]) (bins ++ [idx]) horest (hi.mono hall' hb)
      · exact ih t bins horest hi

/-- The literals of `d`, more than two, are pairwise joined by binary clauses of `cs`, and at most
    one of them may be false. -/
def Clique (cs : List C) (d : C) : Prop :=
  d.lits.Pairwise (Bin cs) ∧ d.card = d.lits.length - 1 ∧ 2 < d.lits.length

/-- The index `k` is that of a binary clause on the head and another literal of a constraint of `added`. -/
def Covered (cs : List C) (added : List C) (k : Nat) : Prop :=
  ∃ d ∈ added, ∃ l t, d.lits = l :: t ∧ ∃ o ∈ t, BinAt cs k l o

theorem Covered.mono {cs added k} (h : Covered cs added k) (more : List C) : Covered cs (added ++ more) k :=
  let ⟨d, hd, rest⟩ := h; ⟨d, List.mem_append_left _ hd, rest⟩

/-- Invariant of the main loop: one condition per added constraint, one per index queued for removal. -/
def StInv (cs : List C) (st : St) : Prop :=
  (∀ d ∈ st.added, Clique cs d) ∧ ∀ k ∈ st.toRemove, Covered cs st.added k

theorem step_inv (cs : List C) (st : St) (i : Nat) (hi : StInv cs st) : StInv cs (step cs st i) := by
  unfold step
  simp only
  by_cases hc : st.considered.contains (litOfIdx i) = true
  · rw [if_pos hc]; exact hi
  rw [if_neg hc]
  by_cases ho : (propsOf (litOfIdx i) cs 0).length < 2
  · rw [if_pos ho]; exact hi
  rw [if_neg ho]
  obtain ⟨t', hr1, hr2⟩ := grow_inv cs st.considered (-litOfIdx i) (propsOf (litOfIdx i) cs 0) [] []
    (fun _ hm => propsOf_zero hm) ⟨List.pairwise_singleton _ _, fun _ h => nomatch h⟩
  split
  · rename_i hlen
    exact ⟨List.forall_mem_append.2 ⟨hi.1, List.forall_mem_singleton.2 ⟨hr1 ▸ hr2.1, rfl, hlen⟩⟩,
      List.forall_mem_append.2 ⟨fun k hk => (hi.2 k hk).mono _, fun k hk =>
        ⟨_, List.mem_append_right _ (List.mem_singleton_self _), -litOfIdx i, t', hr1, hr2.2 k hk⟩⟩⟩
  · exact hi

theorem run_inv (n : Nat) (cs : List C) : StInv cs (run n cs) :=
  List.foldlRecOn _ (step cs) ⟨by simp [St.init], by simp [St.init]⟩ fun st h i _ => step_inv cs st i h

theorem removeIdx_eq (rm : List Nat) : ∀ (l : List C) (j : Nat),
    removeIdx rm l j = ((l.zipIdx j).filter (fun p => !rm.contains p.2)).map (·.1)
  | [], _ => rfl
  | x :: l, j => by
    rw [removeIdx, removeIdx_eq rm l (j + 1), List.zipIdx_cons, List.filter_cons]
    cases rm.contains j <;> rfl

theorem mem_removeIdx_zero {rm : List Nat} {c : C} {l : List C} :
    c ∈ removeIdx rm l 0 ↔ ∃ k, l[k]? = some c ∧ k ∉ rm := by
  simp [removeIdx_eq, List.mem_zipIdx_iff_getElem?]

theorem mem_detect_sub {n : Nat} {cs : List C} {c : C} (h : c ∈ detect n cs) :
    c ∈ cs ∨ c ∈ added n cs := by
  obtain ⟨k, hk, _⟩ := mem_removeIdx_zero.1 h
  exact List.mem_append.1 (List.mem_of_getElem? hk)

theorem removed_lt {n : Nat} {cs : List C} {k : Nat} (hk : k ∈ removed n cs) : k < cs.length := by
  obtain ⟨_, _, _, _, _, _, _, c, hc, _⟩ := (run_inv n cs).2 k hk
  exact (List.getElem?_eq_some_iff.mp hc).1

theorem added_sub_detect {n : Nat} {cs : List C} {d : C} (h : d ∈ added n cs) : d ∈ detect n cs := by
  obtain ⟨m, hm⟩ := List.getElem?_of_mem h
  have hidx : (cs ++ added n cs)[cs.length + m]? = some d := by
    rw [List.getElem?_append_right (by omega)]; simpa using hm
  exact mem_removeIdx_zero.2 ⟨_, hidx, fun hmem => by have := removed_lt hmem; omega⟩

theorem kept_sub_detect {n : Nat} {cs : List C} {k : Nat} {c : C} (hc : cs[k]? = some c)
    (hk : k ∉ removed n cs) : c ∈ detect n cs := by
  have hidx : (cs ++ added n cs)[k]? = some c := by
    rw [List.getElem?_append_left (List.getElem?_eq_some_iff.mp hc).1]; exact hc
  exact mem_removeIdx_zero.2 ⟨k, hidx, hk⟩

theorem added_clique (n : Nat) (cs : List C) : ∀ d ∈ added n cs,
    d.lits.Pairwise (Bin cs) ∧ d.card = d.lits.length - 1 ∧ 2 < d.lits.length :=
  (run_inv n cs).1

/-- At any assignment where the 2-literal constraints of the input hold (and mean "one of the two
    literals is true"), every added cardinality constraint holds. -/
theorem added_entailed (n : Nat) (cs : List C) (a : Asg) (hs : BinSound a cs)
    (hcs : ∀ c ∈ cs, c.lits.length = 2 → c.holds a = true) :
    ∀ d ∈ added n cs, d.holds a = true := by
  intro d hd
  obtain ⟨hp, hcard, _⟩ := added_clique n cs d hd
  unfold C.holds
  rw [hcard]
  simp only [decide_eq_true_eq]
  apply pairwise_count
  refine hp.imp ?_
  intro x y ⟨c, hc, hl⟩
  rcases hl with hl | hl
  · exact hs c hc x y hl (hcs c hc (by simp [hl]))
  · exact (hs c hc y x hl (hcs c hc (by simp [hl]))).symm

/-- Every index handed to `removeBinaries` is the index of a 2-literal input
    constraint `c` whose two literals occur in an added constraint `d` that is present in the
    result; and `d` entails `c`. -/
theorem removed_covered (n : Nat) (cs : List C) : ∀ k ∈ removed n cs,
    ∃ c, cs[k]? = some c ∧ c.lits.length = 2 ∧
      ∃ d ∈ detect n cs, d ∈ added n cs ∧ (∀ x ∈ c.lits, x ∈ d.lits) ∧
        ∀ a, BinComplete a cs → d.holds a = true → c.holds a = true := by
  intro k hk
  obtain ⟨d, hd, l, t, hdl, o, hot, c, hc, hl⟩ := (run_inv n cs).2 k hk
  have hd' : d ∈ added n cs := hd
  obtain ⟨_, hcard, _⟩ := added_clique n cs d hd'
  refine ⟨c, hc, by rcases hl with hl | hl <;> simp [hl], d, added_sub_detect hd', hd', ?_, ?_⟩
  · intro x hx
    rw [hdl]
    rcases hl with hl | hl <;> (rw [hl] at hx; simp at hx; rcases hx with rfl | rfl <;> simp [hot])
  · intro a hcomp hda
    unfold C.holds at hda
    rw [hcard, hdl] at hda
    simp only [decide_eq_true_eq] at hda
    have := count_head_tail (litTrue a) l t o hot hda
    rcases hl with hl | hl
    · exact hcomp c (List.mem_of_getElem? hc) l o hl this
    · exact hcomp c (List.mem_of_getElem? hc) o l hl this.symm

theorem detect_equiv_at (n : Nat) (cs : List C) (a : Asg) (hs : BinSound a cs) (hc : BinComplete a cs) :
    (∀ c ∈ cs, c.holds a = true) ↔ (∀ c ∈ detect n cs, c.holds a = true) := by
  constructor
  · intro h c hmem
    rcases mem_detect_sub hmem with hm | hm
    · exact h c hm
    · exact added_entailed n cs a hs (fun c hc _ => h c hc) c hm
  · intro h c hmem
    obtain ⟨k, hk⟩ := List.getElem?_of_mem hmem
    by_cases hr : k ∈ removed n cs
    · obtain ⟨c', hc', _, d, hd, _, _, hent⟩ := removed_covered n cs k hr
      rw [hk] at hc'; cases hc'
      exact hent a hc (h d hd)
    · exact h c (kept_sub_detect hk hr)

/-- **C15.** When every 2-literal constraint of the input is an ordinary clause, the
    input and the output of the detection have exactly the same models (assignments are total
    functions on all variable numbers: "over the same variables" is `detect_no_new_vars`). -/
theorem detect_equiv (n : Nat) (cs : List C) (h : BinClausal cs) :
    ∀ a, (∀ c ∈ cs, c.holds a = true) ↔ (∀ c ∈ detect n cs, c.holds a = true) :=
  fun a => detect_equiv_at n cs a (h.sound a) (h.complete a)

theorem detect_no_new_vars (n : Nat) (cs : List C) :
    ∀ d ∈ detect n cs, ∀ x ∈ d.lits, ∃ c ∈ cs, x ∈ c.lits := by
  intro d hd x hx
  rcases mem_detect_sub hd with hm | hm
  · exact ⟨d, hm, hx⟩
  · obtain ⟨hp, _, hlen⟩ := added_clique n cs d hm
    have hbin : ∃ y, Bin cs x y ∨ Bin cs y x := by
      match hdl : d.lits, hp, hlen, hx with
      | a :: b :: rest, hp, _, hx =>
        rw [List.pairwise_cons] at hp
        rw [List.mem_cons] at hx
        rcases hx with rfl | hx
        · exact ⟨b, Or.inl (hp.1 b (by simp))⟩
        · exact ⟨a, Or.inr (hp.1 x hx)⟩
    obtain ⟨y, hb | hb⟩ := hbin
    · obtain ⟨c, hc, hl | hl⟩ := hb <;> exact ⟨c, hc, by simp [hl]⟩
    · obtain ⟨c, hc, hl | hl⟩ := hb <;> exact ⟨c, hc, by simp [hl]⟩

/-- The constraint as a linear constraint of the specification. -/
def C.toLin (c : C) : Lin := Lin.ofCard c.lits c.card

def toProblem (cs : List C) : Problem := cs.map C.toLin

theorem toLin_holds (a : Asg) (c : C) : c.toLin.holds a = c.holds a := by
  unfold C.toLin Lin.ofCard Lin.holds C.holds
  simp only [lhs_ones]
  apply decide_eq_decide.mpr
  omega

theorem toProblem_holds (a : Asg) (cs : List C) :
    Problem.holds a (toProblem cs) = true ↔ ∀ c ∈ cs, c.holds a = true := by
  simp [Problem.holds, toProblem, toLin_holds]

theorem detect_holds_eq (n : Nat) (cs : List C) (h : BinClausal cs) (a : Asg) :
    Problem.holds a (toProblem (detect n cs)) = Problem.holds a (toProblem cs) := by
  rw [Bool.eq_iff_iff, toProblem_holds, toProblem_holds]
  exact (detect_equiv n cs h a).symm

theorem detect_sat_iff (n : Nat) (cs : List C) (h : BinClausal cs) :
    Satisfiable (toProblem (detect n cs)) ↔ Satisfiable (toProblem cs) :=
  Satisfiable.congr (detect_holds_eq n cs h)

theorem detect_modelsOver (n : Nat) (cs : List C) (h : BinClausal cs) (m : Nat) :
    modelsOver m (toProblem (detect n cs)) = modelsOver m (toProblem cs) := by
  unfold modelsOver
  simp only [detect_holds_eq n cs h]

theorem detect_countOver (n : Nat) (cs : List C) (h : BinClausal cs) (m : Nat) :
    countOver m (toProblem (detect n cs)) = countOver m (toProblem cs) := by
  unfold countOver; rw [detect_modelsOver n cs h]

theorem detect_optimum (n : Nat) (cs : List C) (h : BinClausal cs) (f : List (Int × Int)) (a : Asg) :
    IsOptimum (toProblem (detect n cs)) f a ↔ IsOptimum (toProblem cs) f a :=
  IsOptimum.congr f a (detect_holds_eq n cs h)

theorem litOfIdx_even (k : Nat) : litOfIdx (2 * k) = ((k + 1 : Nat) : Int) := by
  unfold litOfIdx
  rw [if_pos (Nat.mul_mod_right 2 k), Nat.mul_div_cancel_left k (by decide)]

theorem litOfIdx_odd (k : Nat) : litOfIdx (2 * k + 1) = -((k + 1 : Nat) : Int) := by
  unfold litOfIdx
  rw [if_neg (by omega), show (2 * k + 1) / 2 = k by omega]

theorem litOfIdx_idxOfLit (l : Int) (h : l ≠ 0) : litOfIdx (idxOfLit l) = l := by
  unfold idxOfLit
  split
  · rw [litOfIdx_even]; omega
  · rw [litOfIdx_odd]; omega

theorem idxOfLit_litOfIdx (i : Nat) : idxOfLit (litOfIdx i) = i := by
  obtain ⟨k, rfl | rfl⟩ : ∃ k, i = 2 * k ∨ i = 2 * k + 1 := ⟨i / 2, by omega⟩
  · rw [litOfIdx_even]
    unfold idxOfLit
    rw [if_pos (by omega), Int.natAbs_natCast, Nat.add_sub_cancel]
  · rw [litOfIdx_odd]
    unfold idxOfLit
    rw [if_neg (by omega), Int.natAbs_neg, Int.natAbs_natCast, Nat.add_sub_cancel]

/-- The indexes below `2 * n` (the range of the main loop and of the Go arrays, for `n = nbVars`)
    are those of the literals of the variables `1..n`. -/
theorem idxOfLit_lt_iff (n : Nat) (l : Int) (h : l ≠ 0) : idxOfLit l < 2 * n ↔ l.natAbs ≤ n := by
  have hpos : 0 < l.natAbs := Int.natAbs_pos.mpr h
  unfold idxOfLit
  generalize l.natAbs = v at hpos ⊢
  split <;> omega

/-- A complete clique of three negative literals: the two binary clauses on the first visited
    literal are replaced; the third one (`-2 ∨ -3`) stays, as in the Go code. -/
example : detect 3 [⟨[-1,-2],1⟩, ⟨[-1,-3],1⟩, ⟨[-2,-3],1⟩] = [⟨[-2,-3],1⟩, ⟨[-1,-2,-3],2⟩] := by decide +kernel
example : removed 3 [⟨[-1,-2],1⟩, ⟨[-1,-3],1⟩, ⟨[-2,-3],1⟩] = [0, 1] := by decide +kernel
/-- An incomplete clique: nothing changes. -/
example : detect 3 [⟨[-1,-2],1⟩, ⟨[-1,-3],1⟩] = [⟨[-1,-2],1⟩, ⟨[-1,-3],1⟩] := by decide +kernel
/-- Overlapping cliques, a repeated binary clause, a binary clause in no clique, a long clause
    (same answer as the Go code on this input). -/
example : detect 5 [⟨[-1,-2],1⟩, ⟨[-3,-1],1⟩, ⟨[-2,-3],1⟩, ⟨[-2,-1],1⟩, ⟨[-3,-4],1⟩, ⟨[-3,-5],1⟩,
      ⟨[-5,-4],1⟩, ⟨[4,5],1⟩, ⟨[1,2,3],1⟩]
    = [⟨[-2,-3],1⟩, ⟨[-2,-1],1⟩, ⟨[-3,-5],1⟩, ⟨[4,5],1⟩, ⟨[1,2,3],1⟩, ⟨[-1,-2,-3],2⟩, ⟨[-4,-3,-5],2⟩] := by
  decide +kernel
/-- A 2-literal constraint that repeats its literal: the literal is repeated in the added constraint. -/
example : detect 2 [⟨[1,1],1⟩, ⟨[1,2],1⟩] = [⟨[1,1,1,2],3⟩] := by decide +kernel

/-- The hypothesis of the main theorems on a non-trivial input. -/
example : BinClausal [⟨[-1,-2],1⟩, ⟨[-1,-3],1⟩, ⟨[-2,-3],1⟩, ⟨[1,2,3],2⟩] := by
  intro c hc hl
  simp at hc
  rcases hc with rfl | rfl | rfl | rfl <;> simp at hl ⊢

/-- `BinClausal` is necessary (upper bound): `DetectAtMostOne` treats the 2-literal cardinality
    constraint `x1 + x2 ≥ 2` as the clause `x1 ∨ x2`. The assignment `x1, ¬x2, x3` is a model of
    the output and not of the input. (Confirmed on the Go code with
    `Problem{NbVars: 3, Clauses: {NewCardClause({1,2},2), NewClause({1,3}), NewClause({2,3})}}`;
    the three parsers never produce such a constraint: they turn it into unit literals.) -/
theorem card2_witness :
    let cs : List C := [⟨[1,2],2⟩, ⟨[1,3],1⟩, ⟨[2,3],1⟩]
    let a : Asg := asgOf [true, false, true]
    detect 3 cs = [⟨[2,3],1⟩, ⟨[1,2,3],2⟩] ∧
    (detect 3 cs).all (C.holds a) = true ∧ cs.all (C.holds a) = false := by decide +kernel

/-- `BinClausal` is necessary (lower bound): a 2-literal constraint of cardinality 0 is always
    true but is used as a clause. (`NewCardClause` panics on cardinality 0: not reachable in Go.) -/
theorem card0_witness :
    let cs : List C := [⟨[1,2],0⟩, ⟨[1,3],1⟩, ⟨[2,3],1⟩]
    let a : Asg := asgOf [false, false, true]
    cs.all (C.holds a) = true ∧ (detect 3 cs).all (C.holds a) = false := by decide +kernel

/-- Outside the range the Go code panics (`detect?` is `none`); the total model is unaffected. -/
example : detect? 2 [⟨[-1,-3],1⟩] = none := by decide +kernel

end GS.Amo

section Audit
open GS.Amo
#print axioms pairwise_count
#print axioms added_clique
#print axioms added_entailed
#print axioms removed_covered
#print axioms detect_equiv_at
#print axioms detect_equiv
#print axioms detect_no_new_vars
#print axioms detect_sat_iff
#print axioms detect_modelsOver
#print axioms detect_countOver
#print axioms detect_optimum
#print axioms card2_witness
#print axioms card0_witness
#print axioms idxOfLit_lt_iff
end Audit
