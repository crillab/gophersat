import GS.Model.Simplify
import GS.Spec.LitSum
/-!
# C01 / C02 / C13 — parse-time simplification preserves the set of models

About the mirrors of `GS.Model.Simplify`: `parseSlice_equiv` (`ParseSlice` / `ParseSliceNb`: prologue and
`simplify2`), `loop2_fuel` (the fuel `len(pb.Clauses) + 1` of the `for restart` loop of `simplify2` suffices: each
restarting sweep removes a clause), `simplifyCard_equiv` (semantics `GS.Lin.holds`; that its fuel suffices is not
shown). `simplifyPB`, `ParseCardConstrs` and `ParsePBConstrs` are in `GS/Props/C02_SimplifyPB.lean`.

What the three front ends share is stated once, for any reading `H` of a constraint (`clauseH`, `linH`):
`Models`, `PassOk` with `loopG_spec`, `Extends` / `LinesOk` with `finish_cases` / `finish_spec`.
-/
namespace GS.Simplify
open GS GS.Constr

theorem rot_perm {α : Type} (r : List α) : (rot r).Perm r := by
  rcases List.eq_nil_or_concat r with h | ⟨init, x, h⟩
  · subst h; simp [rot]
  · subst h
    simp [rot]
    exact (List.perm_append_singleton x init).symm

theorem mem_rot {α : Type} {x : α} {r : List α} : x ∈ rot r ↔ x ∈ r := (rot_perm r).mem_iff

theorem length_rot {α : Type} (r : List α) : (rot r).length = r.length := (rot_perm r).length_eq

theorem natAbs_varOf {l : Int} (h : l ≠ 0) : l.natAbs = varOf l + 1 := by
  have := Int.natAbs_pos.mpr h
  unfold varOf
  generalize l.natAbs = k at this ⊢
  omega

theorem varOf_lt {l : Int} {k : Nat} (hl : l ≠ 0) (h : l.natAbs ≤ k) : varOf l < k := by
  rw [natAbs_varOf hl] at h; exact h

theorem varOf_succ (v : Nat) : varOf ((v : Int) + 1) = v := by unfold varOf; omega

theorem varOf_neg (l : Int) : varOf (-l) = varOf l := by unfold varOf; rw [Int.natAbs_neg]

theorem eq_or_eq_neg_of_varOf_eq {l l' : Int} (hl : l ≠ 0) (hl' : l' ≠ 0) (h : varOf l = varOf l') :
    l' = l ∨ l' = -l := by
  have h1 := Int.natAbs_pos.mpr hl
  have h2 := Int.natAbs_pos.mpr hl'
  refine Int.natAbs_eq_natAbs_iff.mp ?_
  unfold varOf at h
  generalize l.natAbs = x at h h1 ⊢
  generalize l'.natAbs = y at h h2 ⊢
  omega

theorem getElem?_of_mget {m : List Int} {v : Nat} {x : Int} (h : mget m v = x) (hx : x ≠ 0) : m[v]? = some x := by
  unfold mget at h
  cases hm : m[v]? with
  | none => rw [hm] at h; exact absurd h.symm hx
  | some y => rw [hm] at h; exact congrArg some h

theorem mget_set (m : List Int) (i j : Nat) (x : Int) :
    mget (m.set i x) j = if i = j ∧ i < m.length then x else mget m j := by
  unfold mget
  rw [List.getElem?_set]
  by_cases h : i = j
  · subst h
    by_cases h2 : i < m.length
    · simp [h2]
    · simp [h2]
  · simp [h]

theorem lt_of_mget_ne_zero {m : List Int} {v : Nat} (h : mget m v ≠ 0) : v < m.length := by
  rcases Nat.lt_or_ge v m.length with hv | hv
  · exact hv
  · rw [mget, List.getElem?_eq_none hv] at h; exact absurd rfl h

theorem set_self (m : List Int) (v : Nat) (hv : v < m.length) : m.set v (mget m v) = m :=
  set_eq_self (by rw [mget, List.getElem?_eq_getElem hv]; rfl)

theorem mget_replicate (n v : Nat) : mget (List.replicate n 0) v = 0 := by
  unfold mget
  rw [List.getElem?_replicate]
  split <;> simp

theorem clauseTrue_congr (a : Asg) {c d : List Int} (h : ∀ l, l ∈ c ↔ l ∈ d) :
    clauseTrue a c = clauseTrue a d := by
  rw [Bool.eq_iff_iff, clauseTrue_iff, clauseTrue_iff]
  constructor <;> rintro ⟨l, hl, ht⟩ <;> exact ⟨l, by simpa [h] using hl, ht⟩

/-- What the outcome of `dedup lit` on the literals `r` after `lit` says. -/
def DedupOut (lit : Int) (r : List Int) : Option (List Int) → Prop
  | none => -lit ∈ r
  | some r1 => lit ∉ r1 ∧ -lit ∉ r1 ∧ (∀ x, x ∈ lit :: r1 ↔ x ∈ lit :: r) ∧ r1.length ≤ r.length

theorem dedup_spec (lit : Int) (n : Nat) (r : List Int) (hl : r.length ≤ n) :
    DedupOut lit r (dedup lit n r) := by
  fun_induction dedup lit n r with
  | case1 r =>
    rw [List.length_eq_zero_iff.mp (Nat.le_zero.mp hl)]
    exact ⟨List.not_mem_nil, List.not_mem_nil, fun _ => Iff.rfl, Nat.le_refl _⟩
  | case2 n => exact ⟨List.not_mem_nil, List.not_mem_nil, fun _ => Iff.rfl, Nat.le_refl _⟩
  | case3 n r => exact List.mem_cons_self ..
  | case4 n r hne ih =>
    -- a copy of `lit`: nbLits--
    have ih := ih (by rw [length_rot]; exact Nat.le_of_succ_le_succ hl)
    generalize dedup lit n (rot r) = o at ih ⊢
    rcases o with _ | r1
    · exact List.mem_cons_of_mem _ (mem_rot.mp ih)
    · obtain ⟨h1, h2, h3, h4⟩ := ih
      refine ⟨h1, h2, fun x => (h3 x).trans ?_, Nat.le_succ_of_le (length_rot r ▸ h4)⟩
      simp only [List.mem_cons, mem_rot, or_self_left]
  | case5 n x r hx1 hx2 ih =>
    -- k++
    have ih := ih (Nat.le_of_succ_le_succ hl)
    generalize dedup lit n r = o at ih ⊢
    rcases o with _ | r2
    · exact List.mem_cons_of_mem _ ih
    · obtain ⟨h1, h2, h3, h4⟩ := ih
      refine ⟨?_, ?_, fun y => ?_, Nat.succ_le_succ h4⟩
      · rw [List.mem_cons, not_or]; exact ⟨fun e => hx2 e.symm, h1⟩
      · rw [List.mem_cons, not_or]; exact ⟨fun e => hx1 e.symm, h2⟩
      · have := h3 y
        simp only [List.mem_cons] at this ⊢
        rw [or_left_comm, this, or_left_comm]

theorem dedup_out {lit : Int} {r : List Int} {o : Option (List Int)} (h : dedup lit r.length r = o) :
    DedupOut lit r o := h ▸ dedup_spec lit _ r (Nat.le_refl _)

/-- `a` gives every variable bound in `m` the value `m` binds it to (and `m` only holds 0, 1, -1). -/
def Agree (a : Asg) (m : List Int) : Prop :=
  ∀ v, mget m v = 0 ∨ (mget m v = 1 ∧ a (v + 1) = true) ∨ (mget m v = -1 ∧ a (v + 1) = false)

/-- `a` gives every variable bound in `m` the value `m` binds it to, read off the sign of the binding
    alone (what `AppendClause` sees of `s.model`). -/
def _root_.GS.Append.Agrees (a : Asg) (m : List Int) : Prop :=
  ∀ v, (mget m v > 0 → a (v + 1) = true) ∧ (mget m v < 0 → a (v + 1) = false)

theorem litTrue_iff_of_bound {a : Asg} {m : List Int} (hA : Append.Agrees a m)
    {l : Int} (hl : l ≠ 0) (h0 : mget m (varOf l) ≠ 0) :
    litTrue a l = true ↔ (mget m (varOf l) > 0 ↔ l > 0) := by
  obtain ⟨hpos, hneg⟩ := hA (varOf l)
  unfold litTrue
  rw [natAbs_varOf hl]
  by_cases hp : l > 0
  · rw [if_pos hp, iff_true_right hp]
    refine ⟨fun ht => ?_, hpos⟩
    rcases Int.lt_or_gt_of_ne h0 with h | h
    · rw [hneg h] at ht; cases ht
    · exact h
  · rw [if_neg hp, iff_false_right hp, Bool.not_eq_true', Int.not_lt]
    refine ⟨fun hf => ?_, fun h => hneg (by omega)⟩
    rcases Int.lt_or_gt_of_ne h0 with h | h
    · omega
    · rw [hpos h] at hf; cases hf

theorem Agree.agrees {a : Asg} {m : List Int} (hA : Agree a m) : Append.Agrees a m := by
  intro v
  rcases hA v with h | ⟨h, ha⟩ | ⟨h, ha⟩
  · exact ⟨fun _ => by omega, fun _ => by omega⟩
  · exact ⟨fun _ => ha, fun _ => by omega⟩
  · exact ⟨fun _ => by omega, fun _ => ha⟩

theorem Agree.one_iff_pos {a : Asg} {m : List Int} (hA : Agree a m) (v : Nat) :
    mget m v = 1 ↔ mget m v > 0 := by
  rcases hA v with h | ⟨h, -⟩ | ⟨h, -⟩ <;> omega

theorem agree_true {a : Asg} {m : List Int} {l : Int} (hA : Agree a m) (hl : l ≠ 0)
    (h0 : mget m (varOf l) ≠ 0) (h : mget m (varOf l) = 1 ↔ l > 0) : litTrue a l = true :=
  (litTrue_iff_of_bound hA.agrees hl h0).mpr ((hA.one_iff_pos _).symm.trans h)

theorem agree_false {a : Asg} {m : List Int} {l : Int} (hA : Agree a m) (hl : l ≠ 0)
    (h0 : mget m (varOf l) ≠ 0) (h : ¬ (mget m (varOf l) = 1 ↔ l > 0)) : litTrue a l = false := by
  rw [← Bool.not_eq_true, litTrue_iff_of_bound hA.agrees hl h0, ← iff_congr (hA.one_iff_pos _) Iff.rfl]
  exact h

/-- What the outcome of `scan2` on the literals `s` says. -/
def Out2 (m : List Int) (s : List Int) : Option (List Int) → Prop
  | none => ∀ a, Agree a m → clauseTrue a s = true
  | some ys => ys.Nodup ∧ (∀ x ∈ ys, x ∈ s ∧ mget m (varOf x) = 0) ∧ (∀ x ∈ ys, -x ∉ ys) ∧
      ∀ a, Agree a m → clauseTrue a s = clauseTrue a ys

section Out2
variable {m : List Int} {s s' : List Int} {lit : Int} {o : Option (List Int)}

theorem Out2.of_sub (h : Out2 m s' o) (hsub : ∀ x ∈ s', x ∈ s)
    (hsem : ∀ a, Agree a m → clauseTrue a s = clauseTrue a s') : Out2 m s o := by
  rcases o with _ | ys
  · exact fun a hA => (hsem a hA).trans (h a hA)
  · exact ⟨h.1, fun x hx => ⟨hsub x (h.2.1 x hx).1, (h.2.1 x hx).2⟩, h.2.2.1,
      fun a hA => (hsem a hA).trans (h.2.2.2 a hA)⟩

theorem Out2.keep (h : Out2 m s o) (hlit : lit ≠ 0) (h0 : mget m (varOf lit) = 0) (h1 : lit ∉ s) (h2 : -lit ∉ s) :
    Out2 m (lit :: s) (o.map (lit :: ·)) := by
  rcases o with _ | ys
  · intro a hA
    simp [clauseTrue_cons, h a hA]
  · obtain ⟨j1, j2, j3, j4⟩ := h
    refine ⟨List.nodup_cons.mpr ⟨fun hm => h1 (j2 _ hm).1, j1⟩, ?_, ?_, fun a hA => ?_⟩
    · intro x hx
      rcases List.mem_cons.mp hx with rfl | hx
      · exact ⟨List.mem_cons_self .., h0⟩
      · exact ⟨List.mem_cons_of_mem _ (j2 x hx).1, (j2 x hx).2⟩
    · intro x hx hnx
      rcases List.mem_cons.mp hx with rfl | hx
      · rcases List.mem_cons.mp hnx with e | hnx
        · omega
        · exact h2 (j2 _ hnx).1
      · rcases List.mem_cons.mp hnx with e | hnx
        · exact h2 (by rw [← e, Int.neg_neg]; exact (j2 _ hx).1)
        · exact j3 x hx hnx
    · show clauseTrue a (lit :: s) = clauseTrue a (lit :: ys)
      rw [clauseTrue_cons, clauseTrue_cons, j4 a hA]

end Out2

theorem scan2_spec (m : List Int) (n : Nat) (s : List Int) (hl : s.length ≤ n) (hnz : ∀ l ∈ s, l ≠ 0) :
    Out2 m s (scan2 m n s) := by
  fun_induction scan2 m n s with
  | case1 r =>
    rw [List.length_eq_zero_iff.mp (Nat.le_zero.mp hl)]
    exact ⟨List.nodup_nil, nofun, nofun, fun _ _ => rfl⟩
  | case2 n => exact ⟨List.nodup_nil, nofun, nofun, fun _ _ => rfl⟩
  | case3 n lit r hd =>
    -- `-lit` is in the clause
    intro a _
    rw [clauseTrue_iff]
    by_cases ht : litTrue a lit = true
    · exact ⟨lit, List.mem_cons_self .., ht⟩
    · refine ⟨-lit, List.mem_cons_of_mem _ (dedup_out hd), ?_⟩
      rw [litTrue_neg a lit (hnz lit (List.mem_cons_self ..))]; simpa using ht
  | case4 n lit r r1 hd h0 ih =>
    -- unbound: j++
    obtain ⟨h1, h2, h3, h4⟩ := dedup_out hd
    have hnz1 : ∀ l ∈ lit :: r1, l ≠ 0 := fun l hl => hnz l ((h3 l).mp hl)
    exact ((ih (Nat.le_trans h4 (Nat.le_of_succ_le_succ hl)) fun l hl => hnz1 l (List.mem_cons_of_mem _ hl)).keep
      (hnz1 lit (List.mem_cons_self ..)) h0 h1 h2).of_sub (fun x hx => (h3 x).mp hx)
      fun a _ => clauseTrue_congr a fun x => (h3 x).symm
  | case5 n lit r r1 hd h0 hv =>
    -- a true literal
    intro a hA
    rw [clauseTrue_cons, agree_true hA (hnz lit (List.mem_cons_self ..)) h0 hv]; rfl
  | case6 n lit r r1 hd h0 hv ih =>
    -- a false literal: nbLits--
    obtain ⟨h1, h2, h3, h4⟩ := dedup_out hd
    have hsub : ∀ x ∈ rot r1, x ∈ lit :: r := fun x hx => (h3 x).mp (List.mem_cons_of_mem _ (mem_rot.mp hx))
    refine (ih (by rw [length_rot]; exact Nat.le_trans h4 (Nat.le_of_succ_le_succ hl))
      fun l hl => hnz l (hsub l hl)).of_sub hsub fun a hA => ?_
    rw [clauseTrue_congr a fun x => (h3 x).symm, clauseTrue_cons,
      agree_false hA (hnz lit (List.mem_cons_self ..)) h0 hv, Bool.false_or]
    exact clauseTrue_congr a fun l => mem_rot.symm

/-- `Problem.Model` and `Problem.Units` say the same: variable `v` (0-based) is bound to 1 iff
    the literal `v+1` is a unit, to -1 iff `-(v+1)` is a unit, and holds 0 otherwise. -/
structure MInv (m us : List Int) : Prop where
  rng : ∀ v, mget m v = 0 ∨ mget m v = 1 ∨ mget m v = -1
  pos : ∀ v, mget m v = 1 ↔ ((v : Int) + 1) ∈ us
  neg : ∀ v, mget m v = -1 ↔ (-((v : Int) + 1)) ∈ us

theorem MInv.agree {m us : List Int} (h : MInv m us) {a : Asg}
    (hu : ∀ u ∈ us, litTrue a u = true) : Agree a m := by
  intro v
  rcases h.rng v with h0 | h1 | h1
  · exact Or.inl h0
  · refine Or.inr (Or.inl ⟨h1, ?_⟩)
    rw [← litTrue_natCast a (v + 1) (Nat.succ_pos v), Int.natCast_succ]
    exact hu _ ((h.pos v).mp h1)
  · refine Or.inr (Or.inr ⟨h1, ?_⟩)
    rw [← Bool.not_eq_true', ← litTrue_neg_natCast a (v + 1) (Nat.succ_pos v), Int.natCast_succ]
    exact hu _ ((h.neg v).mp h1)

theorem MInv.mem_iff {m us : List Int} (h : MInv m us) {l : Int} (hl : l ≠ 0) :
    l ∈ us ↔ mget m (varOf l) = if l > 0 then 1 else -1 := by
  by_cases hp : l > 0
  · rw [if_pos hp, h.pos, show ((varOf l : Nat) : Int) + 1 = l by unfold varOf; omega]
  · rw [if_neg hp, h.neg, show -(((varOf l : Nat) : Int) + 1) = l by unfold varOf; omega]

theorem MInv.neg_mem_iff {m us : List Int} (h : MInv m us) {l : Int} (hl : l ≠ 0) :
    -l ∈ us ↔ mget m (varOf l) = if l > 0 then -1 else 1 := by
  rw [h.mem_iff (by omega), varOf_neg]
  by_cases hp : l > 0
  · rw [if_pos hp, if_neg (show ¬ -l > 0 by omega)]
  · rw [if_neg hp, if_pos (show -l > 0 by omega)]

theorem MInv.of_lits {m us : List Int} (rng : ∀ v, mget m v = 0 ∨ mget m v = 1 ∨ mget m v = -1)
    (hmem : ∀ l : Int, l ≠ 0 → (l ∈ us ↔ mget m (varOf l) = if l > 0 then 1 else -1)) :
    MInv m us := by
  refine ⟨rng, fun v => ?_, fun v => ?_⟩
  · have := hmem ((v : Int) + 1) (by omega)
    rw [varOf_succ, if_pos (by omega)] at this
    exact this.symm
  · have := hmem (-((v : Int) + 1)) (by omega)
    rw [varOf_neg, varOf_succ, if_neg (by omega)] at this
    exact this.symm

/-- The test `bindUnits` makes on a bound variable, and the value the variable has. -/
theorem sign_iff {x l : Int} (hx : x = 1 ∨ x = -1) :
    ((x > 0 ↔ l > 0) ↔ x = if l > 0 then 1 else -1) ∧
    (¬ x = (if l > 0 then 1 else -1) ↔ x = if l > 0 then -1 else 1) := by
  by_cases hp : l > 0 <;> simp only [hp, if_true, if_false, iff_true, iff_false] <;> omega

theorem MInv.add {m us : List Int} (h : MInv m us) {l : Int} (hl : l ≠ 0)
    (hlen : varOf l < m.length) (h0 : mget m (varOf l) = 0) :
    MInv (m.set (varOf l) (if l > 0 then 1 else -1)) (us ++ [l]) := by
  refine MInv.of_lits (fun v => ?_) (fun l' hl' => ?_)
  · rw [mget_set]
    split
    · split <;> simp
    · exact h.rng v
  · rw [mget_set, List.mem_append, List.mem_singleton, h.mem_iff hl']
    by_cases hv : varOf l = varOf l'
    · -- the same variable: `l'` is `l` or `-l`, and `-l` is not a unit
      have e : l' = l ↔ (if l > 0 then (1 : Int) else -1) = if l' > 0 then 1 else -1 := by
        rcases eq_or_eq_neg_of_varOf_eq hl hl' hv with rfl | rfl
        · exact iff_of_true rfl rfl
        · exact iff_of_false (by omega) (by omega)
      rw [if_pos (show varOf l = varOf l' ∧ varOf l < m.length from ⟨hv, hlen⟩), ← hv, h0, ← e]
      exact or_iff_right (by omega)
    · rw [if_neg (show ¬ (varOf l = varOf l' ∧ varOf l < m.length) from fun h' => hv h'.1)]
      exact or_iff_left (fun e => hv (e ▸ rfl))

theorem MInv.dup {m us : List Int} (h : MInv m us) {u : Int} (hu : u ∈ us) : MInv m (us ++ [u]) := by
  have e : ∀ x, x ∈ us ++ [u] ↔ x ∈ us := fun x => by
    rw [List.mem_append, List.mem_singleton]
    exact or_iff_left_of_imp fun hx => hx ▸ hu
  exact ⟨h.rng, fun v => (h.pos v).trans (e _).symm, fun v => (h.neg v).trans (e _).symm⟩

/-- `addUnit` writes `Model` and appends to `Units` also when the literal is a unit already. -/
theorem MInv.bind {m us : List Int} (h : MInv m us) {l : Int} (hl : l ≠ 0) (hlen : varOf l < m.length)
    (hne : mget m (varOf l) ≠ if l > 0 then -1 else 1) :
    MInv (m.set (varOf l) (if l > 0 then 1 else -1)) (us ++ [l]) := by
  rcases h.rng (varOf l) with h0 | h1
  · exact h.add hl hlen h0
  · have e : mget m (varOf l) = if l > 0 then 1 else -1 := by omega
    rw [← e, set_self _ _ hlen]
    exact h.dup ((h.mem_iff hl).mpr e)

theorem addUnit_eq (pb : Pb) (l : Int) : addUnit pb l =
    if mget pb.model (varOf l) = (if l > 0 then -1 else 1) then { pb with status := .unsat }
    else { pb with model := pb.model.set (varOf l) (if l > 0 then 1 else -1), units := pb.units ++ [l] } := by
  unfold addUnit
  by_cases hp : l > 0 <;> simp only [hp, if_true, if_false]

theorem addUnit_unbound (pb : Pb) (l : Int) (h : mget pb.model (varOf l) = 0) :
    addUnit pb l = { pb with model := pb.model.set (varOf l) (if l > 0 then 1 else -1),
                             units := pb.units ++ [l] } := by
  rw [addUnit_eq, if_neg (by omega)]

theorem addUnit_unsat (pb : Pb) (l : Int) (h : pb.status = .unsat) : (addUnit pb l).status = .unsat := by
  rw [addUnit_eq]
  by_cases hc : mget pb.model (varOf l) = if l > 0 then -1 else 1
  · rw [if_pos hc]
  · rw [if_neg hc]; exact h

theorem addUnit_nbVars (pb : Pb) (l : Int) : (addUnit pb l).nbVars = pb.nbVars := by
  unfold addUnit; split <;> split <;> rfl

theorem addUnit_spec (pb : Pb) (l : Int) (hl : l ≠ 0) (hv : varOf l < pb.model.length)
    (hinv : MInv pb.model pb.units) :
    ((addUnit pb l).status = .unsat ∧ -l ∈ pb.units ∧ (addUnit pb l).model.length = pb.model.length) ∨
    ((addUnit pb l).status = pb.status ∧ (addUnit pb l).units = pb.units ++ [l] ∧
      (addUnit pb l).model.length = pb.model.length ∧ MInv (addUnit pb l).model (addUnit pb l).units) := by
  by_cases hc : mget pb.model (varOf l) = if l > 0 then -1 else 1
  · rw [addUnit_eq, if_pos hc]
    exact Or.inl ⟨rfl, (hinv.neg_mem_iff hl).mpr hc, rfl⟩
  · rw [addUnit_eq, if_neg hc]
    exact Or.inr ⟨rfl, rfl, List.length_set .., hinv.bind hl hv hc⟩

theorem addUnits_unsat : ∀ (ls : List Int) (pb : Pb), pb.status = .unsat →
    (addUnits pb ls).status = .unsat
  | [], _, h => h
  | l :: ls, pb, h => addUnits_unsat ls _ (addUnit_unsat pb l h)

theorem conflict_unsat {us : List Int} {u : Int} (hu0 : u ≠ 0) (h1 : u ∈ us) (h2 : -u ∈ us)
    (a : Asg) : ¬ (∀ x ∈ us, litTrue a x = true) := by
  intro h
  have a1 := h u h1
  have a2 := h (-u) h2
  rw [litTrue_neg a u hu0, a1] at a2
  cases a2

theorem addUnits_spec : ∀ (ls : List Int) (pb : Pb), pb.status ≠ .unsat →
    MInv pb.model pb.units → (∀ l ∈ ls, l ≠ 0 ∧ varOf l < pb.model.length) →
    ((addUnits pb ls).status = .unsat → ∀ a, ¬ ∀ x ∈ pb.units ++ ls, litTrue a x = true) ∧
    ((addUnits pb ls).status ≠ .unsat → (addUnits pb ls).status = pb.status ∧
      (addUnits pb ls).units = pb.units ++ ls ∧ (addUnits pb ls).model.length = pb.model.length ∧
      MInv (addUnits pb ls).model (addUnits pb ls).units) := by
  intro ls
  induction ls with
  | nil => intro pb hst hinv _; exact ⟨fun h => absurd h hst, fun _ => ⟨rfl, by simp [addUnits], rfl, hinv⟩⟩
  | cons l ls ih =>
    intro pb hst hinv hwf
    obtain ⟨hl0, hlv⟩ := hwf l (List.mem_cons_self ..)
    rw [show addUnits pb (l :: ls) = addUnits (addUnit pb l) ls from rfl]
    rcases addUnit_spec pb l hl0 hlv hinv with ⟨h1, h2, h3⟩ | ⟨h1, h2, h3, h4⟩
    · have hu := addUnits_unsat ls _ h1
      exact ⟨fun _ => conflict_unsat hl0 (by simp) (List.mem_append_left _ h2), fun h => absurd hu h⟩
    · have I := ih (addUnit pb l) (by rw [h1]; exact hst) h4
        (fun x hx => by rw [h3]; exact hwf x (List.mem_cons_of_mem _ hx))
      rw [h1, h2, h3, List.append_assoc] at I
      exact I

/-- `a` makes the units `us` true and satisfies every constraint of `cs`, where `H` says how a
    constraint is read: as a clause (`clauseH`) or as a linear constraint (`linH`). -/
def Models (H : Asg → Cl → Prop) (a : Asg) (us : List Int) (cs : List Cl) : Prop :=
  (∀ u ∈ us, litTrue a u = true) ∧ ∀ c ∈ cs, H a c

section Models
variable {H : Asg → Cl → Prop} {a : Asg} {us : List Int}

theorem Models_nil : Models H a [] [] := ⟨nofun, nofun⟩

theorem Models_cons {c : Cl} {r : List Cl} : Models H a us (c :: r) ↔ H a c ∧ Models H a us r := by
  unfold Models; rw [List.forall_mem_cons]; exact and_left_comm

theorem Models_rot {r : List Cl} : Models H a us (rot r) ↔ Models H a us r := by
  unfold Models; simp only [mem_rot]

theorem Models_units_append {ls : List Int} {cs : List Cl} :
    Models H a (us ++ ls) cs ↔ Models H a us cs ∧ ∀ l ∈ ls, litTrue a l = true := by
  unfold Models; rw [List.forall_mem_append]; exact and_right_comm

theorem Models_clauses_append {cs : List Cl} {c : Cl} :
    Models H a us (cs ++ [c]) ↔ Models H a us cs ∧ H a c := by
  unfold Models; rw [List.forall_mem_append, List.forall_mem_singleton]; exact and_assoc.symm

/-- The head constraint `c` may be replaced by whatever says the same once the units hold; the
    units themselves may change on the way (`simplifyPB` adds units while it scans `c`). -/
theorem Models_step {us' : List Int} {c : Cl} {P : Prop}
    (h : ((∀ u ∈ us, litTrue a u = true) ∧ H a c) ↔ ((∀ u ∈ us', litTrue a u = true) ∧ P))
    (r : List Cl) : Models H a us (c :: r) ↔ P ∧ Models H a us' r := by
  rw [Models_cons]; unfold Models
  constructor
  · rintro ⟨h1, h2, h3⟩; have := h.mp ⟨h2, h1⟩; exact ⟨this.2, this.1, h3⟩
  · rintro ⟨h1, h2, h3⟩; have := h.mpr ⟨h2, h1⟩; exact ⟨this.2, this.1, h3⟩

theorem Models_cons_iff {c : Cl} {P : Prop} (h : (∀ u ∈ us, litTrue a u = true) → (H a c ↔ P))
    (r : List Cl) : Models H a us (c :: r) ↔ P ∧ Models H a us r :=
  Models_step (and_congr_right h) r

end Models

/-- A sweep over the constraints `s` started in `pb` ended in `pb'` with the constraints `kept`:
    `Unsat` only if `pb.units` and `s` have no common model, otherwise `pb'.units` and `kept` have
    the models of `pb.units` and `s`, `Model` still mirrors `Units`, and the kept constraints are
    of the shape `Ok`. -/
structure PassOk (H : Asg → Cl → Prop) (Ok : Nat → Cl → Prop) (pb : Pb) (s : List Cl)
    (pb' : Pb) (kept : List Cl) : Prop where
  unsat : pb'.status = .unsat → ∀ a, ¬ Models H a pb.units s
  ok : pb'.status ≠ .unsat → pb'.status = pb.status ∧ MInv pb'.model pb'.units ∧
        pb'.model.length = pb.model.length ∧ (∀ c ∈ kept, Ok pb.model.length c) ∧
        ∀ a, Models H a pb.units s ↔ Models H a pb'.units kept

section PassOk
variable {H : Asg → Cl → Prop} {Ok : Nat → Cl → Prop} {pb pb1 pb' : Pb} {s s' kept : List Cl}

theorem PassOk.refl (hst : pb.status ≠ .unsat) (hinv : MInv pb.model pb.units)
    (hwf : ∀ c ∈ s, Ok pb.model.length c) : PassOk H Ok pb s pb s :=
  ⟨fun h => absurd h hst, fun _ => ⟨rfl, hinv, rfl, hwf, fun _ => Iff.rfl⟩⟩

theorem PassOk.fail (hs : pb'.status = .unsat) (h : ∀ a, ¬ Models H a pb.units s) :
    PassOk H Ok pb s pb' kept :=
  ⟨fun _ => h, fun hne => absurd hs hne⟩

theorem PassOk.trans (I : PassOk H Ok pb1 s' pb' kept) (hst : pb1.status = pb.status)
    (hlen : pb1.model.length = pb.model.length)
    (h : ∀ a, Models H a pb.units s ↔ Models H a pb1.units s') : PassOk H Ok pb s pb' kept := by
  refine ⟨fun hu a hs => I.unsat hu a ((h a).mp hs), fun hne => ?_⟩
  obtain ⟨i1, i2, i3, i4, i5⟩ := I.ok hne
  exact ⟨i1.trans hst, i2, i3.trans hlen, hlen ▸ i4, fun a => (h a).trans (i5 a)⟩

theorem PassOk.keep {c' : Cl} (I : PassOk H Ok pb1 s' pb' kept) (hst : pb1.status = pb.status)
    (hlen : pb1.model.length = pb.model.length) (hc : Ok pb.model.length c')
    (h : ∀ a, Models H a pb.units s ↔ H a c' ∧ Models H a pb1.units s') :
    PassOk H Ok pb s pb' (c' :: kept) := by
  refine ⟨fun hu a hs => I.unsat hu a ((h a).mp hs).2, fun hne => ?_⟩
  obtain ⟨i1, i2, i3, i4, i5⟩ := I.ok hne
  refine ⟨i1.trans hst, i2, i3.trans hlen, ?_, fun a => ?_⟩
  · intro d hd
    rcases List.mem_cons.mp hd with rfl | hd
    · exact hc
    · exact hlen ▸ i4 d hd
  · rw [h a, i5 a, Models_cons]

end PassOk

def Sem (a : Asg) (us : List Int) (cs : List Cl) : Prop :=
  (∀ u ∈ us, litTrue a u = true) ∧ ∀ c ∈ cs, clauseTrue a c.lits = true

/-- a constraint read as a clause -/
def clauseH (a : Asg) (c : Cl) : Prop := clauseTrue a c.lits = true

theorem Sem_eq : Sem = Models clauseH := rfl

/-- literals are non-null and their variable is below `k` (0-based variable `< k`). -/
def LitsOk (k : Nat) (c : Cl) : Prop := ∀ l ∈ c.lits, l ≠ 0 ∧ l.natAbs ≤ k

/-- what every clause kept by `simplify2` looks like. -/
def Normal (m : List Int) (c : Cl) : Prop :=
  2 ≤ c.lits.length ∧ c.lits.Nodup ∧ (∀ x ∈ c.lits, -x ∉ c.lits) ∧ ∀ x ∈ c.lits, mget m (varOf x) = 0

structure PassSpec (pb : Pb) (s : List Cl) (r : PassR) : Prop where
  nbVars : r.pb.nbVars = pb.nbVars
  mlen : r.pb.model.length = pb.model.length
  len : r.kept.length ≤ s.length
  dec : r.restart = true → r.pb.status ≠ .unsat → r.kept.length < s.length
  unsat : r.pb.status = .unsat → ∀ a, ¬ Sem a pb.units s
  ok : r.pb.status ≠ .unsat → r.pb.status = pb.status ∧ MInv r.pb.model r.pb.units ∧
        (∀ c ∈ r.kept, LitsOk pb.model.length c) ∧ ∀ a, Sem a pb.units s ↔ Sem a r.pb.units r.kept
  fix : r.restart = false → r.pb.status ≠ .unsat →
        r.pb.model = pb.model ∧ r.pb.units = pb.units ∧ ∀ c ∈ r.kept, Normal pb.model c

theorem PassSpec.passOk {pb : Pb} {s : List Cl} {r : PassR} (P : PassSpec pb s r) :
    PassOk clauseH LitsOk pb s r.pb r.kept :=
  ⟨P.unsat, fun h => have ⟨h1, h2, h3, h4⟩ := P.ok h; ⟨h1, h2, P.mlen, h3, h4⟩⟩

/-- A sweep of `simplify2` is correct as any sweep is (`PassOk`); on top of that `PassSpec` counts the
    clauses (for the fuel of the `for restart` loop) and says what a sweep without restart leaves. -/
theorem PassSpec.of_passOk {pb : Pb} {s : List Cl} {r : PassR} (O : PassOk clauseH LitsOk pb s r.pb r.kept)
    (nbVars : r.pb.nbVars = pb.nbVars) (mlen : r.pb.model.length = pb.model.length)
    (len : r.kept.length ≤ s.length)
    (dec : r.restart = true → r.pb.status ≠ .unsat → r.kept.length < s.length)
    (fix : r.restart = false → r.pb.status ≠ .unsat →
      r.pb.model = pb.model ∧ r.pb.units = pb.units ∧ ∀ c ∈ r.kept, Normal pb.model c) : PassSpec pb s r :=
  ⟨nbVars, mlen, len, dec, O.unsat, fun h => have ⟨h1, h2, _, h3, h4⟩ := O.ok h; ⟨h1, h2, h3, h4⟩, fix⟩

theorem pass2_spec : ∀ (n : Nat) (pb : Pb) (s : List Cl), s.length ≤ n → pb.status ≠ .unsat →
    MInv pb.model pb.units → (∀ c ∈ s, LitsOk pb.model.length c) → PassSpec pb s (pass2 n pb s) := by
  intro n
  induction n with
  | zero =>
    intro pb s hl hst hinv hwf
    have : s = [] := List.length_eq_zero_iff.mp (by omega)
    subst this
    exact .of_passOk (PassOk.refl hst hinv hwf) rfl rfl (Nat.le_refl _) nofun fun _ _ => ⟨rfl, rfl, nofun⟩
  | succ n ih =>
    intro pb s hl hst hinv hwf
    cases s with
    | nil =>
      exact .of_passOk (PassOk.refl hst hinv hwf) rfl rfl (Nat.le_refl _) nofun fun _ _ => ⟨rfl, rfl, nofun⟩
    | cons c r =>
      have hlr : r.length ≤ n := Nat.le_of_succ_le_succ hl
      have hc : LitsOk pb.model.length c := hwf c (List.mem_cons_self ..)
      have hwfr : ∀ c ∈ r, LitsOk pb.model.length c := fun d hd => hwf d (List.mem_cons_of_mem _ hd)
      have hwfrot : ∀ c ∈ rot r, LitsOk pb.model.length c := fun d hd => hwfr d (mem_rot.mp hd)
      have S := scan2_spec pb.model _ c.lits (Nat.le_refl _) fun l hl => (hc l hl).1
      simp only [pass2]
      split
      · -- clauseSat
        rename_i hs
        rw [hs] at S
        have I := ih pb (rot r) (by rw [length_rot]; exact hlr) hst hinv hwfrot
        refine .of_passOk (I.passOk.trans rfl rfl fun a => ?_) I.nbVars I.mlen
          (Nat.le_succ_of_le (length_rot r ▸ I.len))
          (fun h1 h2 => Nat.lt_succ_of_lt (length_rot r ▸ I.dec h1 h2)) I.fix
        rw [Models_rot]
        exact (Models_cons_iff (fun hu => iff_true_intro (S a (hinv.agree hu))) r).trans
          (and_iff_right trivial)
      · -- empty clause
        rename_i hs
        rw [hs] at S
        obtain ⟨-, -, -, j4⟩ := S
        refine .of_passOk (PassOk.fail rfl fun a hs' => ?_) rfl rfl (Nat.le_refl _) nofun
          fun _ h => absurd rfl h
        obtain ⟨h1, h2⟩ := Models_cons.mp hs'
        rw [clauseH, j4 a (hinv.agree h2.1)] at h1
        cases h1
      · -- unit clause
        rename_i l hs
        rw [hs] at S
        obtain ⟨-, j2, -, j4⟩ := S
        obtain ⟨hlc, hl0⟩ := j2 l (List.mem_singleton_self l)
        have hlnz : l ≠ 0 := (hc l hlc).1
        rw [addUnit_unbound pb l hl0]
        simp only [hst, if_false]
        have I := ih { pb with model := pb.model.set (varOf l) (if l > 0 then 1 else -1),
                               units := pb.units ++ [l] } (rot r)
          (by rw [length_rot]; exact hlr) hst (hinv.add hlnz (varOf_lt hlnz (hc l hlc).2) hl0)
          (fun d hd => by rw [List.length_set]; exact hwfrot d hd)
        have hlen : _ ≤ r.length := length_rot r ▸ I.len
        refine .of_passOk (I.passOk.trans rfl (List.length_set ..) fun a => ?_) I.nbVars
          (I.mlen.trans (List.length_set ..)) (Nat.le_succ_of_le hlen) (fun _ _ => Nat.lt_succ_of_le hlen) nofun
        -- under the units the clause says that `l` is true
        rw [Models_rot]
        refine (Models_cons_iff (fun hu => ?_) r).trans (and_comm.trans Models_units_append.symm)
        rw [clauseH, j4 a (hinv.agree hu),
          List.forall_mem_singleton]
        simp [clauseTrue]
      · -- kept clause
        rename_i ls hne1 hne2 hs
        rw [hs] at S
        obtain ⟨j1, j2, j3, j4⟩ := S
        have I := ih pb r hlr hst hinv hwfr
        refine .of_passOk (I.passOk.keep rfl rfl (fun x hx => hc x (j2 x hx).1) fun a =>
          Models_cons_iff (fun hu => ?_) r) I.nbVars I.mlen ?_ ?_ ?_
        · show clauseTrue a c.lits = true ↔ clauseTrue a ls = true
          rw [j4 a (hinv.agree hu)]
        · exact Nat.succ_le_succ I.len
        · intro h1 h2; exact Nat.succ_lt_succ (I.dec h1 h2)
        · intro h1 h2
          obtain ⟨f1, f2, f3⟩ := I.fix h1 h2
          refine ⟨f1, f2, fun d hd => ?_⟩
          rcases List.mem_cons.mp hd with rfl | hd
          · refine ⟨?_, j1, j3, fun x hx => (j2 x hx).2⟩
            show 2 ≤ ls.length
            rcases ls with _ | ⟨x, _ | ⟨y, t⟩⟩
            · exact absurd rfl hne1
            · exact absurd rfl (hne2 x)
            · exact Nat.le_add_left 2 t.length
          · exact f3 d hd

theorem updateStatus_fields (pb : Pb) :
    (updateStatus pb).nbVars = pb.nbVars ∧ (updateStatus pb).clauses = pb.clauses ∧
    (updateStatus pb).units = pb.units ∧ (updateStatus pb).model = pb.model := by
  unfold updateStatus; split <;> simp

theorem updateStatus_status (pb : Pb) (h : pb.status = .indet) :
    (updateStatus pb).status ≠ .unsat ∧ ((updateStatus pb).status = .sat ↔ pb.clauses = []) := by
  unfold updateStatus
  by_cases hc : pb.clauses = []
  · simp [h, hc]
  · simp [h, hc]

/-- What `simplify2` guarantees about its result `r` on the problem `pb`. -/
structure SimpSpec (pb r : Pb) : Prop where
  nbVars : r.nbVars = pb.nbVars
  mlen : r.model.length = pb.model.length
  unsat : r.status = .unsat → ∀ a, ¬ Sem a pb.units pb.clauses
  ok : r.status ≠ .unsat → MInv r.model r.units ∧
        (∀ a, Sem a pb.units pb.clauses ↔ Sem a r.units r.clauses) ∧
        (∀ c ∈ r.clauses, LitsOk pb.model.length c ∧ Normal r.model c) ∧
        (r.status = .sat ↔ r.clauses = [])

/-- The fuel `len(pb.Clauses) + 1` (or more) is enough: the result is `Unsat` or in the normal form of
    `SimpSpec` (every clause left has at least two literals, all unbound), which a run cut short by the
    fuel would not reach: only a sweep that ends with `restart == false` leaves it. -/
theorem loop2_fuel : ∀ (n : Nat) (pb : Pb), pb.clauses.length < n → pb.status = .indet →
    MInv pb.model pb.units → (∀ c ∈ pb.clauses, LitsOk pb.model.length c) →
    SimpSpec pb (loop2 n pb) := by
  intro n
  induction n with
  | zero => intro pb h; omega
  | succ n ih =>
    intro pb hlen hst hinv hwf
    have P := pass2_spec pb.clauses.length pb pb.clauses (Nat.le_refl _) (by rw [hst]; decide) hinv hwf
    simp only [loop2]
    generalize pass2 pb.clauses.length pb pb.clauses = q at P ⊢
    by_cases hu : q.pb.status = .unsat
    · rw [if_pos hu]
      exact ⟨P.nbVars, P.mlen, fun _ => P.unsat hu, fun h => absurd hu h⟩
    · obtain ⟨p1, p2, p3, p4⟩ := P.ok hu
      rw [if_neg hu]
      by_cases hr : q.restart = true
      · -- a sweep that restarts has removed a clause: the fuel left is enough again
        have I := ih { q.pb with clauses := q.kept }
          (Nat.lt_of_lt_of_le (P.dec hr hu) (Nat.le_of_lt_succ hlen)) (p1.trans hst) p2
          (by simp only; rw [P.mlen]; exact p3)
        rw [if_pos hr]
        refine ⟨I.nbVars.trans P.nbVars, I.mlen.trans P.mlen, fun h a hs => I.unsat h a ((p4 a).mp hs),
          fun h => ?_⟩
        obtain ⟨i1, i2, i3, i4⟩ := I.ok h
        refine ⟨i1, fun a => (p4 a).trans (i2 a), fun c hc => ?_, i4⟩
        have := i3 c hc
        simp only at this
        rwa [P.mlen] at this
      · obtain ⟨f1, f2, f3⟩ := P.fix (Bool.eq_false_iff.mpr hr) hu
        obtain ⟨u1, u2, u3, u4⟩ := updateStatus_fields { q.pb with clauses := q.kept }
        obtain ⟨s1, s2⟩ := updateStatus_status { q.pb with clauses := q.kept } (p1.trans hst)
        rw [if_neg hr]
        refine ⟨u1.trans P.nbVars, by rw [u4]; exact P.mlen, fun h => absurd h s1, fun _ => ?_⟩
        rw [u2, u3, u4]
        exact ⟨p2, p4, fun c hc => ⟨p3 c hc, by simp only; rw [f1]; exact f3 c hc⟩, s2⟩

theorem simplify2_spec (pb : Pb) (hst : pb.status = .indet) (hinv : MInv pb.model pb.units)
    (hwf : ∀ c ∈ pb.clauses, LitsOk pb.model.length c) : SimpSpec pb (simplify2 pb) :=
  loop2_fuel _ pb (Nat.lt_succ_self _) hst hinv hwf

/-- `loopCard` (`loopCard_eq`) and `loopPB` (`loopPB_eq`) with the sweep `pass` as a parameter.
    `loop2` has the same shape but is not read through it: `loop2_fuel` also needs the number of clauses. -/
def loopG (pass : Pb → PassR) : Nat → Pb → Pb
  | 0, pb => pb
  | n + 1, pb =>
    let r := pass pb
    if r.pb.status = .unsat then { r.pb with clauses := r.kept }
    else if r.restart then loopG pass n { r.pb with clauses := r.kept }
    else updateStatus { r.pb with clauses := r.kept }

theorem loopG_spec {H : Asg → Cl → Prop} {Ok : Nat → Cl → Prop} {pass : Pb → PassR}
    (hpass : ∀ pb, pb.status ≠ .unsat → MInv pb.model pb.units →
      (∀ c ∈ pb.clauses, Ok pb.model.length c) → PassOk H Ok pb pb.clauses (pass pb).pb (pass pb).kept) :
    ∀ (n : Nat) (pb : Pb), pb.status = .indet → MInv pb.model pb.units →
    (∀ c ∈ pb.clauses, Ok pb.model.length c) →
    ((loopG pass n pb).status = .unsat → ∀ a, ¬ Models H a pb.units pb.clauses) ∧
    ((loopG pass n pb).status ≠ .unsat → MInv (loopG pass n pb).model (loopG pass n pb).units ∧
      ∀ a, Models H a pb.units pb.clauses ↔
        Models H a (loopG pass n pb).units (loopG pass n pb).clauses) := by
  intro n
  induction n with
  | zero =>
    intro pb hst hinv _
    exact ⟨fun h => (by rw [loopG, hst] at h; cases h), fun _ => ⟨hinv, fun _ => Iff.rfl⟩⟩
  | succ n ih =>
    intro pb hst hinv hwf
    have P := hpass pb (by rw [hst]; decide) hinv hwf
    simp only [loopG]
    by_cases hu : (pass pb).pb.status = .unsat
    · rw [if_pos hu]
      exact ⟨fun _ => P.unsat hu, fun h => absurd hu h⟩
    · obtain ⟨p1, p2, p3, p4, p5⟩ := P.ok hu
      rw [if_neg hu]
      by_cases hr : (pass pb).restart = true
      · have I := ih { (pass pb).pb with clauses := (pass pb).kept } (p1.trans hst) p2
          (p3 ▸ p4)
        rw [if_pos hr]
        exact ⟨fun h a hs => I.1 h a ((p5 a).mp hs), fun h => ⟨(I.2 h).1, fun a => (p5 a).trans ((I.2 h).2 a)⟩⟩
      · obtain ⟨-, u2, u3, u4⟩ := updateStatus_fields { (pass pb).pb with clauses := (pass pb).kept }
        have s1 := (updateStatus_status { (pass pb).pb with clauses := (pass pb).kept } (p1.trans hst)).1
        rw [if_neg hr, u2, u3, u4]
        exact ⟨fun h => absurd h s1, fun _ => ⟨p2, p5⟩⟩

theorem MInv.init (n : Nat) : MInv (List.replicate n 0) [] := by
  constructor
  · intro v; exact Or.inl (mget_replicate n v)
  · intro v; simp [mget_replicate]
  · intro v; simp [mget_replicate]

theorem bindUnits_spec : ∀ (us m done : List Int), MInv m done →
    (∀ u ∈ us, u ≠ 0 ∧ varOf u < m.length) →
    (bindUnits us m).1.length = m.length ∧
    ((bindUnits us m).2 = false → MInv (bindUnits us m).1 (done ++ us)) ∧
    ((bindUnits us m).2 = true → ∀ a, ¬ ∀ x ∈ done ++ us, litTrue a x = true) := by
  intro us
  induction us with
  | nil => intro m done h _; simp [bindUnits]; exact h
  | cons u us ih =>
    intro m done h hwf
    obtain ⟨hu0, huv⟩ := hwf u (List.mem_cons_self ..)
    have hwf' : ∀ u ∈ us, u ≠ 0 ∧ varOf u < m.length := fun x hx => hwf x (List.mem_cons_of_mem _ hx)
    rw [show done ++ u :: us = (done ++ [u]) ++ us by simp]
    simp only [bindUnits]
    by_cases h0 : mget m (varOf u) = 0
    · have I := ih _ (done ++ [u]) (h.add hu0 huv h0)
        (fun x hx => by rw [List.length_set]; exact hwf' x hx)
      rw [if_pos h0]
      exact ⟨I.1.trans (List.length_set ..), I.2.1, I.2.2⟩
    · obtain ⟨s2, s3⟩ := sign_iff (l := u) ((h.rng (varOf u)).resolve_left h0)
      rw [if_neg h0]
      by_cases hc : ¬ (mget m (varOf u) > 0 ↔ u > 0)
      · -- the variable is bound the other way: `-u` is a unit
        rw [if_pos hc]
        rw [s2, s3, ← h.neg_mem_iff hu0] at hc
        exact ⟨rfl, nofun, fun _ =>
          conflict_unsat hu0 (by simp) (List.mem_append_left _ (List.mem_append_left _ hc))⟩
      · -- `u` is a unit already
        rw [if_neg hc]
        rw [Classical.not_not, s2, ← h.mem_iff hu0] at hc
        exact ih m (done ++ [u]) (h.dup hc) hwf'

/-- `max n (largest variable of cnf)`. -/
def maxVar (cnf : List (List Int)) (n : Nat) : Nat :=
  cnf.foldl (fun n c => c.foldl (fun n l => max n l.natAbs) n) n

theorem bumpVars_eq {n : Nat} {l : Int} (h : l ≠ 0) : bumpVars n l = max n l.natAbs := by
  have := Int.natAbs_pos.mpr h
  unfold bumpVars
  generalize l.natAbs = k at this ⊢
  split <;> omega

theorem foldl_bumpVars : ∀ (ls : List Int) (n : Nat), 0 ∉ ls →
    ls.foldl bumpVars n = ls.foldl (fun n l => max n l.natAbs) n := by
  intro ls
  induction ls with
  | nil => intro n _; rfl
  | cons l ls ih =>
    intro n h
    simp only [List.mem_cons, not_or] at h
    simp only [List.foldl_cons]
    rw [bumpVars_eq (fun e => h.1 e.symm)]
    exact ih _ h.2

theorem foldl_max_ge : ∀ (ls : List Int) (n : Nat),
    n ≤ ls.foldl (fun n l => max n l.natAbs) n ∧
    ∀ l ∈ ls, l.natAbs ≤ ls.foldl (fun n l => max n l.natAbs) n := by
  intro ls
  induction ls with
  | nil => intro n; simp
  | cons l ls ih =>
    intro n
    simp only [List.foldl_cons]
    obtain ⟨i1, i2⟩ := ih (max n l.natAbs)
    refine ⟨by omega, ?_⟩
    intro x hx
    rcases List.mem_cons.mp hx with rfl | hx
    · omega
    · exact i2 x hx

theorem bumpAll_spec (n : Nat) (ls : List Int) (hz : 0 ∉ ls) :
    n ≤ bumpAll n ls ∧ ∀ l ∈ ls, l ≠ 0 ∧ l.natAbs ≤ bumpAll n ls := by
  unfold bumpAll
  rw [foldl_bumpVars _ _ hz]
  have := foldl_max_ge ls n
  exact ⟨this.1, fun l hl => ⟨fun e => hz (e ▸ hl), this.2 l hl⟩⟩

theorem LitsOk_mono {k k' : Nat} {c : Cl} (h : LitsOk k c) (hk : k ≤ k') : LitsOk k' c :=
  fun l hl => ⟨(h l hl).1, Nat.le_trans (h l hl).2 hk⟩

/-- `pb` is `pb0` with units and constraints added that together say `φ`; variables may have been
    declared, nothing else has changed. The new units are non-null literals over the declared
    variables, the new constraints are of the shape `Ok`. -/
structure Extends (H : Asg → Cl → Prop) (Ok : Nat → Cl → Prop) (φ : Asg → Prop) (pb0 pb : Pb) : Prop where
  nbVars : pb0.nbVars ≤ pb.nbVars
  status : pb.status = pb0.status
  sem : ∀ a, Models H a pb.units pb.clauses ↔ Models H a pb0.units pb0.clauses ∧ φ a
  units : ∀ u ∈ pb.units, u ∈ pb0.units ∨ (u ≠ 0 ∧ u.natAbs ≤ pb.nbVars)
  clauses : ∀ c ∈ pb.clauses, c ∈ pb0.clauses ∨ Ok pb.nbVars c

section Extends
variable {H : Asg → Cl → Prop} {Ok : Nat → Cl → Prop} {φ ψ : Asg → Prop} {pb0 pb1 pb : Pb}

theorem Extends.congr (E : Extends H Ok φ pb0 pb) (h : ∀ a, φ a ↔ ψ a) : Extends H Ok ψ pb0 pb :=
  ⟨E.nbVars, E.status, fun a => (E.sem a).trans (and_congr_right' (h a)), E.units, E.clauses⟩

theorem Extends.trans (hmono : ∀ k k' c, Ok k c → k ≤ k' → Ok k' c) (E1 : Extends H Ok φ pb0 pb1)
    (E2 : Extends H Ok ψ pb1 pb) : Extends H Ok (fun a => φ a ∧ ψ a) pb0 pb := by
  refine ⟨Nat.le_trans E1.nbVars E2.nbVars, E2.status.trans E1.status, fun a => ?_, fun u hu => ?_,
    fun c hc => ?_⟩
  · rw [E2.sem a, E1.sem a, and_assoc]
  · rcases E2.units u hu with h | h
    · exact (E1.units u h).imp_right fun h => ⟨h.1, Nat.le_trans h.2 E2.nbVars⟩
    · exact Or.inr h
  · rcases E2.clauses c hc with h | h
    · exact (E1.clauses c h).imp_right fun h => hmono _ _ _ h E2.nbVars
    · exact Or.inr h

theorem Extends.declare (pb : Pb) {n' : Nat} (hn : pb.nbVars ≤ n') :
    Extends H Ok (fun _ => True) pb { pb with nbVars := n' } :=
  ⟨hn, rfl, fun _ => (and_iff_left trivial).symm, fun _ hu => Or.inl hu, fun _ hc => Or.inl hc⟩

theorem Extends.addUnits (pb : Pb) {n' : Nat} {us' ls : List Int} (hn : pb.nbVars ≤ n')
    (hls : ∀ l ∈ ls, l ≠ 0 ∧ l.natAbs ≤ n') (hus : ∀ x, x ∈ us' ↔ x ∈ pb.units ∨ x ∈ ls) :
    Extends H Ok (fun a => ∀ l ∈ ls, litTrue a l = true) pb { pb with nbVars := n', units := us' } := by
  refine ⟨hn, rfl, fun a => ?_, fun u hu => ((hus u).mp hu).imp_right (hls u), fun _ hc => Or.inl hc⟩
  unfold Models
  constructor
  · rintro ⟨h1, h2⟩
    exact ⟨⟨fun u hu => h1 u ((hus u).mpr (Or.inl hu)), h2⟩, fun l hl => h1 l ((hus l).mpr (Or.inr hl))⟩
  · rintro ⟨⟨h1, h2⟩, h3⟩
    exact ⟨fun u hu => ((hus u).mp hu).elim (h1 u) (h3 u), h2⟩

theorem Extends.addClause (pb : Pb) {n' : Nat} {c : Cl} (hn : pb.nbVars ≤ n') (hc : Ok n' c) :
    Extends H Ok (fun a => H a c) pb { pb with nbVars := n', clauses := pb.clauses ++ [c] } := by
  refine ⟨hn, rfl, fun a => Models_clauses_append, fun _ hu => Or.inl hu, fun d hd => ?_⟩
  rcases List.mem_append.mp hd with h | h
  · exact Or.inl h
  · rw [List.mem_singleton.mp h]; exact Or.inr hc

theorem Extends.of_empty {n : Nat} {st : Status} (E : Extends H Ok φ ⟨n, [], st, [], []⟩ pb) :
    pb.status = st ∧ (∀ a, Models H a pb.units pb.clauses ↔ φ a) ∧
    (∀ u ∈ pb.units, u ≠ 0 ∧ u.natAbs ≤ pb.nbVars) ∧ ∀ c ∈ pb.clauses, Ok pb.nbVars c :=
  ⟨E.status, fun a => (E.sem a).trans (and_iff_right Models_nil),
    fun u hu => (E.units u hu).resolve_left List.not_mem_nil,
    fun c hc => (E.clauses c hc).resolve_left List.not_mem_nil⟩

end Extends

/-- Outcome of the first loop of a parser on the constraints `cs`, `sem` giving their meaning:
    it stopped on a constraint no assignment satisfies, or it extended `pb0` by all of `cs`. -/
def LinesOk {α : Type} (H : Asg → Cl → Prop) (Ok : Nat → Cl → Prop) (sem : α → Asg → Prop)
    (cs : List α) (pb0 pb : Pb) (early : Bool) : Prop :=
  (early = true → pb.status = .unsat ∧ ∃ c ∈ cs, ∀ a, ¬ sem c a) ∧
  (early = false → Extends H Ok (fun a => ∀ c ∈ cs, sem c a) pb0 pb)

section LinesOk
variable {α : Type} {H : Asg → Cl → Prop} {Ok : Nat → Cl → Prop} {sem : α → Asg → Prop}
  {c : α} {rest : List α} {pb0 pb1 pb : Pb} {early : Bool}

theorem LinesOk.nil : LinesOk H Ok sem [] pb pb false :=
  ⟨nofun, fun _ => (Extends.declare pb (Nat.le_refl _)).congr fun _ => ⟨fun _ => nofun, fun _ => trivial⟩⟩

theorem LinesOk.stop (hs : pb.status = .unsat) (hc : ∀ a, ¬ sem c a) :
    LinesOk H Ok sem (c :: rest) pb0 pb true :=
  ⟨fun _ => ⟨hs, c, List.mem_cons_self .., hc⟩, nofun⟩

theorem LinesOk.cons (hmono : ∀ k k' c, Ok k c → k ≤ k' → Ok k' c) (E : Extends H Ok (sem c) pb0 pb1)
    (L : LinesOk H Ok sem rest pb1 pb early) : LinesOk H Ok sem (c :: rest) pb0 pb early := by
  refine ⟨fun he => ?_, fun he => (E.trans hmono (L.2 he)).congr fun a =>
    (List.forall_mem_cons (p := fun c => sem c a)).symm⟩
  obtain ⟨h1, d, hd, h2⟩ := L.1 he
  exact ⟨h1, d, List.mem_cons_of_mem _ hd, h2⟩

end LinesOk

theorem parseLines_spec (cnf : List (List Int)) (pb0 pb : Pb) (early : Bool)
    (h : parseLines cnf pb0 = some (pb, early)) :
    LinesOk clauseH LitsOk (fun c a => clauseTrue a c = true) cnf pb0 pb early ∧
    pb.nbVars = maxVar (cnf.takeWhile (fun c => !c.isEmpty)) pb0.nbVars := by
  fun_induction parseLines cnf pb0 with
  | case1 pb0 => cases h; exact ⟨LinesOk.nil, rfl⟩
  | case2 rest pb0 => cases h; exact ⟨LinesOk.stop rfl fun a => by simp [clauseTrue], rfl⟩
  | case3 => cases h
  | case4 l rest pb0 hl ih =>
    obtain ⟨b1, b2⟩ := bumpAll_spec pb0.nbVars [l] (by simpa using Ne.symm hl)
    obtain ⟨L, N⟩ := ih h
    refine ⟨LinesOk.cons (fun _ _ _ => LitsOk_mono)
      ((Extends.addUnits pb0 b1 b2 fun _ => List.mem_append).congr fun a => by simp [clauseTrue]) L, ?_⟩
    rw [N, bumpVars_eq hl]; rfl
  | case5 => cases h
  | case6 l1 l2 t rest pb0 hz ih =>
    obtain ⟨b1, b2⟩ := bumpAll_spec pb0.nbVars (l1 :: l2 :: t) hz
    obtain ⟨L, N⟩ := ih h
    refine ⟨LinesOk.cons (fun _ _ _ => LitsOk_mono)
      ((Extends.addClause pb0 b1 (c := ⟨l1 :: l2 :: t, none, 1⟩) b2).congr fun a => Iff.rfl) L, ?_⟩
    rw [N, foldl_bumpVars _ _ hz]; rfl

theorem finish_cases (simp : Pb → Pb) (pb : Pb) (hu : ∀ u ∈ pb.units, u ≠ 0 ∧ u.natAbs ≤ pb.nbVars) :
    ((finish simp pb).status = .unsat ∧ (finish simp pb).nbVars = pb.nbVars ∧
      ∀ a, ¬ ∀ u ∈ pb.units, litTrue a u = true) ∨
    ∃ m, m.length = pb.nbVars ∧ MInv m pb.units ∧ finish simp pb = simp { pb with model := m } := by
  have huwf : ∀ u ∈ pb.units, u ≠ 0 ∧ varOf u < (List.replicate pb.nbVars (0 : Int)).length := by
    intro u h
    obtain ⟨h1, h2⟩ := hu u h
    refine ⟨h1, ?_⟩
    rw [List.length_replicate]; exact varOf_lt h1 h2
  obtain ⟨b1, b2, b3⟩ := bindUnits_spec pb.units (List.replicate pb.nbVars 0) [] (MInv.init _) huwf
  simp only [List.nil_append, List.length_replicate] at b1 b2 b3
  simp only [finish]
  split
  · rename_i hb
    exact Or.inl ⟨rfl, rfl, b3 hb⟩
  · rename_i hb
    exact Or.inr ⟨_, b1, b2 (by simpa using hb), rfl⟩

theorem finish_spec {H : Asg → Cl → Prop} {Ok : Nat → Cl → Prop} {φ : Asg → Prop} {n : Nat}
    (simp : Pb → Pb) {pb : Pb} (E : Extends H Ok φ ⟨n, [], .indet, [], []⟩ pb)
    (hsimp : ∀ m, m.length = pb.nbVars → MInv m pb.units →
      ((simp { pb with model := m }).status = .unsat → ∀ a, ¬ Models H a pb.units pb.clauses) ∧
      ((simp { pb with model := m }).status ≠ .unsat →
        ∀ a, Models H a pb.units pb.clauses ↔
          Models H a (simp { pb with model := m }).units (simp { pb with model := m }).clauses)) :
    ((finish simp pb).status = .unsat → ¬ ∃ a, φ a) ∧
    ((finish simp pb).status ≠ .unsat →
      ∀ a, φ a ↔ Models H a (finish simp pb).units (finish simp pb).clauses) := by
  obtain ⟨-, j2, j3, -⟩ := E.of_empty
  rcases finish_cases simp pb j3 with ⟨f1, -, f3⟩ | ⟨m, hm, hinv, he⟩
  · exact ⟨fun _ ⟨a, ha⟩ => f3 a ((j2 a).mpr ha).1, fun hne => absurd f1 hne⟩
  · rw [he]
    obtain ⟨s1, s2⟩ := hsimp m hm hinv
    exact ⟨fun hu ⟨a, ha⟩ => s1 hu a ((j2 a).mpr ha), fun hne a => (j2 a).symm.trans (s2 hne a)⟩

/-- **C01/C02/C13, pure CNF.** `ParseSlice` / `ParseSliceNb` preserve the set of models.
    `parseSlice cnf n = none` is the Go `panic` on a null literal. -/
theorem parseSlice_equiv (cnf : List (List Int)) (n : Nat) (r : Pb)
    (h : parseSlice cnf n = some r) :
    (r.status = .unsat → ¬ CnfSat cnf) ∧
    (r.status ≠ .unsat →
      (∀ a, cnfTrue a cnf = true ↔
        (∀ u ∈ r.units, litTrue a u = true) ∧ (∀ c ∈ r.clauses, clauseTrue a c.lits = true)) ∧
      (r.status = .sat ↔ r.clauses = []) ∧
      (∀ c ∈ r.clauses, 2 ≤ c.lits.length ∧ c.lits.Nodup ∧ (∀ x ∈ c.lits, -x ∉ c.lits) ∧
        ∀ x ∈ c.lits, x ≠ 0 ∧ x.natAbs ≤ r.nbVars ∧ mget r.model (varOf x) = 0) ∧
      MInv r.model r.units ∧ r.model.length = r.nbVars) ∧
    r.nbVars = maxVar (cnf.takeWhile (fun c => !c.isEmpty)) n := by
  unfold parseSlice at h
  split at h
  · cases h
  · rename_i pb hp
    cases h
    obtain ⟨L, i1⟩ := parseLines_spec _ _ _ _ hp
    obtain ⟨s1, c, hc, s2⟩ := L.1 rfl
    exact ⟨fun _ ⟨a, ha⟩ => s2 a (List.all_eq_true.mp ha c hc), fun hne => absurd s1 hne, i1⟩
  · rename_i pb hp
    simp only [Option.some.injEq] at h
    obtain ⟨L, i1⟩ := parseLines_spec _ _ _ _ hp
    obtain ⟨j1, j2, j3, j4⟩ := (L.2 rfl).of_empty
    have hsem : ∀ a, Sem a pb.units pb.clauses ↔ cnfTrue a cnf = true :=
      Sem_eq ▸ fun a => (j2 a).trans List.all_eq_true.symm
    rcases finish_cases simplify2 pb j3 with ⟨f1, f2, f3⟩ | ⟨m, hm, hinv, he⟩
    · rw [h] at f1 f2
      exact ⟨fun _ ⟨a, ha⟩ => f3 a ((hsem a).mpr ha).1, fun hne => absurd f1 hne, f2.trans i1⟩
    · have S := simplify2_spec { pb with model := m } j1 hinv (hm ▸ j4)
      rw [← he, h] at S
      refine ⟨fun hu ⟨a, ha⟩ => S.unsat hu a ((hsem a).mpr ha), fun hne => ?_, S.nbVars.trans i1⟩
      obtain ⟨o1, o2, o3, o4⟩ := S.ok hne
      refine ⟨fun a => (hsem a).symm.trans (o2 a), o4, fun c hc => ?_, o1,
        S.mlen.trans (hm.trans S.nbVars.symm)⟩
      obtain ⟨w, n1, n2, n3, n4⟩ := o3 c hc
      refine ⟨n1, n2, n3, fun x hx => ⟨(w x hx).1, ?_, n4 x hx⟩⟩
      have h1 := (w x hx).2
      have h2 := S.nbVars
      simp only at h1 h2
      omega

/-- `parseSlice` on a CNF with duplicate literals, a tautology, units and a declared-but-unused variable -/
example : ∃ r, parseSlice [[1, 2, 2, -3], [3], [4, -4, 5], [-1, -3, 2, 6], [6, 7, 6]] 9 = some r ∧
    r.status = .indet ∧ r.nbVars = 9 ∧ r.units = [3] ∧
    r.clauses.map (·.lits) = [[1, 2], [6, 7], [-1, 6, 2]] := by
  refine ⟨_, rfl, ?_⟩
  decide +kernel

example : (parseSlice [[1, 2], [-1], [-2]] 0).map (·.status) = some .unsat := by decide +kernel
example : (parseSlice [[1, 2], [-1], [3, 0]] 0) = none := by decide +kernel
example : (parseSlice [[1, 2], [], [3, 0]] 5).map (fun r => (r.status, r.nbVars)) = some (.unsat, 5) := by decide +kernel

#print axioms parseSlice_equiv
#print axioms loop2_fuel

theorem lhs_rot (a : Asg) (r : List (Int × Int)) : lhs a (rot r) = lhs a r := lhs_perm a (rot_perm r)

theorem wsum_nil : wsum [] = 0 := rfl

theorem wsum_cons (t : Int × Int) (ts : List (Int × Int)) : wsum (t :: ts) = t.1 + wsum ts := by
  simp [wsum]

theorem wsum_append (xs ys : List (Int × Int)) : wsum (xs ++ ys) = wsum xs + wsum ys := by
  simp [wsum]

theorem wsum_perm {xs ys : List (Int × Int)} (h : xs.Perm ys) : wsum xs = wsum ys :=
  additive_perm wsum_cons h

theorem wsum_rot (r : List (Int × Int)) : wsum (rot r) = wsum r := wsum_perm (rot_perm r)

theorem wsum_eq_litSum (ts : List (Int × Int)) : wsum ts = litSum (fun _ => true) ts := (litSum_true ts).symm

theorem lhs_bounds (a : Asg) (ts : List (Int × Int)) (h : ∀ t ∈ ts, 0 ≤ t.1) :
    0 ≤ lhs a ts ∧ lhs a ts ≤ wsum ts := by
  rw [lhs_eq_litSum, wsum_eq_litSum]
  exact ⟨litSum_nonneg _ h, litSum_mono h fun _ _ _ => rfl⟩

theorem lhs_full (a : Asg) (ts : List (Int × Int)) (h : ∀ t ∈ ts, 0 < t.1) :
    (wsum ts ≤ lhs a ts ↔ ∀ t ∈ ts, litTrue a t.2 = true) := by
  rw [lhs_eq_litSum, wsum_eq_litSum]
  exact litSum_full h

/-- number of true literals, as the left-hand side of a cardinality constraint
    (`GS.Constr.count a ls` as an `Int`: `lhs_ones`) -/
def cnt (a : Asg) (ls : List Int) : Int := lhs a (ls.map (fun l => (1, l)))

theorem cnt_nil (a : Asg) : cnt a [] = 0 := rfl

theorem cnt_cons (a : Asg) (l : Int) (ls : List Int) :
    cnt a (l :: ls) = (if litTrue a l = true then 1 else 0) + cnt a ls := by
  simp [cnt, lhs, termVal]

theorem cnt_rot (a : Asg) (r : List Int) : cnt a (rot r) = cnt a r :=
  lhs_perm a ((rot_perm r).map _)

theorem cnt_bounds (a : Asg) (ls : List Int) : 0 ≤ cnt a ls ∧ cnt a ls ≤ ls.length := by
  rw [cnt, lhs_ones]
  exact ⟨Int.natCast_nonneg _, Int.ofNat_le.2 List.countP_le_length⟩

theorem cnt_full (a : Asg) (ls : List Int) :
    ((ls.length : Int) ≤ cnt a ls ↔ ∀ l ∈ ls, litTrue a l = true) := by
  have := List.countP_le_length (p := litTrue a) (l := ls)
  rw [cnt, lhs_ones, ← List.countP_eq_length]
  omega

theorem one_le_cnt (a : Asg) (ls : List Int) : 1 ≤ cnt a ls ↔ ∃ l ∈ ls, litTrue a l = true := by
  rw [cnt, lhs_ones, ← List.countP_pos_iff]; omega

/-- the constraint of a clause as a `GS.Lin` -/
def Cl.lin (c : Cl) : Lin := ⟨c.terms, c.card⟩

/-- `a` satisfies the units `us` and the constraints `cs` (semantics `GS.Lin.holds`). -/
def SemL (a : Asg) (us : List Int) (cs : List Cl) : Prop :=
  (∀ u ∈ us, litTrue a u = true) ∧ ∀ c ∈ cs, c.lin.holds a = true

theorem holds_pb (a : Asg) (c : Cl) : c.lin.holds a = true ↔ c.card ≤ lhs a c.terms :=
  decide_eq_true_iff

theorem terms_none {c : Cl} (h : c.weights = none) : c.terms = c.lits.map (fun l => (1, l)) := by
  simp [Cl.terms, h]

theorem holds_card {a : Asg} {c : Cl} (h : c.weights = none) :
    c.lin.holds a = true ↔ c.card ≤ cnt a c.lits := by
  rw [holds_pb, terms_none h, cnt]

/-- a constraint read as a linear constraint -/
def linH (a : Asg) (c : Cl) : Prop := c.lin.holds a = true

theorem SemL_eq : SemL = Models linH := rfl

/-- What the outcome of `scanCard`, entered with `k` true literals seen, says about the literals `s`. -/
def CardOut (m : List Int) (card : Int) (s : List Int) (k : Nat) : Option (List Int × Nat) → Prop
  | none => ∀ a, Agree a m → card ≤ cnt a s + k
  | some (ys, k') => (∀ x ∈ ys, x ∈ s) ∧
      ∀ a, Agree a m → cnt a s + k = cnt a ys + k' ∧ ((k : Int) < card → (k' : Int) < card)

section CardOut
variable {m : List Int} {card : Int} {lit : Int} {r : List Int} {k k' : Nat} {o : Option (List Int × Nat)}

theorem CardOut.refl (s : List Int) : CardOut m card s k (some (s, k)) :=
  ⟨fun _ h => h, fun _ _ => ⟨rfl, id⟩⟩

/-- `j++`: the head literal stays. -/
theorem CardOut.keep (h : CardOut m card r k o) :
    CardOut m card (lit :: r) k (o.map fun p => (lit :: p.1, p.2)) := by
  rcases o with _ | ⟨ys, k'⟩
  · intro a hA
    have := h a hA
    rw [cnt_cons]
    split <;> omega
  · refine ⟨fun x hx => ?_, fun a hA => ?_⟩
    · rcases List.mem_cons.mp hx with rfl | hx
      · exact List.mem_cons_self ..
      · exact List.mem_cons_of_mem _ (h.1 x hx)
    · have := h.2 a hA
      show cnt a (lit :: r) + k = cnt a (lit :: ys) + k' ∧ _
      rw [cnt_cons, cnt_cons]
      exact ⟨by omega, this.2⟩

/-- The head literal is removed; it is worth `δ` under every assignment that agrees with the model. -/
theorem CardOut.drop {δ : Nat} (h : CardOut m card (rot r) (k + δ) o)
    (hδ : ∀ a, Agree a m → (if litTrue a lit = true then (1 : Int) else 0) = δ)
    (hk : (k : Int) < card → ((k + δ : Nat) : Int) < card) : CardOut m card (lit :: r) k o := by
  rcases o with _ | ⟨ys, k'⟩
  · intro a hA
    have := h a hA
    rw [cnt_rot] at this
    rw [cnt_cons, hδ a hA]
    omega
  · refine ⟨fun x hx => List.mem_cons_of_mem _ (mem_rot.mp (h.1 x hx)), fun a hA => ?_⟩
    have := h.2 a hA
    rw [cnt_rot] at this
    rw [cnt_cons, hδ a hA]
    exact ⟨by omega, fun hk' => this.2 (hk hk')⟩

end CardOut

theorem scanCard_spec (m : List Int) (card : Int) (n : Nat) (s : List Int) (k : Nat) (hnz : ∀ l ∈ s, l ≠ 0) :
    CardOut m card s k (scanCard m card n s k) := by
  fun_induction scanCard m card n s k with
  | case1 s k => exact .refl s
  | case2 n k => exact .refl []
  | case3 n lit r k h0 ih => exact (ih fun l h => hnz l (List.mem_cons_of_mem _ h)).keep
  | case4 n lit r k h0 hv hk =>
    intro a hA
    have := (cnt_bounds a r).1
    rw [cnt_cons, if_pos (agree_true hA (hnz lit (List.mem_cons_self ..)) h0 hv)]
    omega
  | case5 n lit r k h0 hv hk ih =>
    refine (ih fun l h => hnz l (List.mem_cons_of_mem _ (mem_rot.mp h))).drop (fun a hA => ?_) (by omega)
    rw [if_pos (agree_true hA (hnz lit (List.mem_cons_self ..)) h0 hv)]; rfl
  | case6 n lit r k h0 hv ih =>
    refine (ih fun l h => hnz l (List.mem_cons_of_mem _ (mem_rot.mp h))).drop (δ := 0) (fun a hA => ?_) id
    rw [agree_false hA (hnz lit (List.mem_cons_self ..)) h0 hv]; rfl

theorem updCard_of_lt {card w : Int} (h : w < card) : updCard card (-w) = card - w := by
  unfold updCard; rw [if_neg (by omega)]; rfl

theorem updCard_of_ge {card w : Int} (hw : 0 < w) (h : card ≤ w) : updCard card (-w) = 1 := by
  unfold updCard; rw [if_pos (by omega)]

theorem one_le_updCard {card add : Int} (h : 1 ≤ card) : 1 ≤ updCard card add := by
  unfold updCard; split <;> omega

/-- a cardinality constraint as `ParseCardConstrs` / `NewCardClause` build them -/
def ClOk (k : Nat) (c : Cl) : Prop := LitsOk k c ∧ c.weights = none ∧ 1 ≤ c.card

theorem ClOk_mono {k k' : Nat} {c : Cl} (h : ClOk k c) (hk : k ≤ k') : ClOk k' c :=
  ⟨LitsOk_mono h.1 hk, h.2⟩

theorem passCard_spec : ∀ (n : Nat) (pb : Pb) (s : List Cl), pb.status ≠ .unsat →
    MInv pb.model pb.units → (∀ c ∈ s, ClOk pb.model.length c) →
    PassOk linH ClOk pb s (passCard n pb s).pb (passCard n pb s).kept := by
  intro n
  induction n with
  | zero => intro pb s hst hinv hwf; exact PassOk.refl hst hinv hwf
  | succ n ih =>
    intro pb s hst hinv hwf
    cases s with
    | nil => exact PassOk.refl hst hinv hwf
    | cons c r =>
      obtain ⟨hc, hcw, hcc⟩ := hwf c (by simp)
      have hnz : ∀ l ∈ c.lits, l ≠ 0 := fun l hl => (hc l hl).1
      have hwfr : ∀ c ∈ r, ClOk pb.model.length c := fun d hd => hwf d (List.mem_cons_of_mem _ hd)
      have hwfrot : ∀ c ∈ rot r, ClOk pb.model.length c := fun d hd => hwfr d (mem_rot.mp hd)
      have S := scanCard_spec pb.model c.card c.lits.length c.lits 0 hnz
      simp only [passCard]
      generalize scanCard pb.model c.card c.lits.length c.lits 0 = o at S ⊢
      rcases o with _ | ⟨ls, nbSat⟩
      · -- clauseSat
        refine (ih pb (rot r) hst hinv hwfrot).trans rfl rfl fun a => ?_
        rw [Models_rot]
        refine (Models_cons_iff (fun hu => iff_true_intro ?_) r).trans (by rw [true_and])
        rw [linH, holds_card hcw]
        simpa using S a (hinv.agree hu)
      · dsimp only
        obtain ⟨hsub, hcnt0⟩ := S
        have hcnt : ∀ a, (∀ u ∈ pb.units, litTrue a u = true) →
            cnt a c.lits = cnt a ls + nbSat ∧ (nbSat : Int) < c.card := by
          intro a hu
          have := hcnt0 a (hinv.agree hu)
          exact ⟨by simpa using this.1, this.2 (by omega)⟩
        by_cases hlt : (ls.length : Int) < c.card - nbSat
        · -- nbLits < card: Unsat
          rw [if_pos hlt]
          refine PassOk.fail rfl fun a hs' => ?_
          obtain ⟨h1, h2⟩ := Models_cons.mp hs'
          rw [linH, holds_card hcw] at h1
          have := (hcnt a h2.1).1
          have b := cnt_bounds a ls
          omega
        · rw [if_neg hlt]
          by_cases heq : (ls.length : Int) = c.card - nbSat
          · -- UP: under the units, `c` holds iff all of `ls` are true
            rw [if_pos heq]
            have hlsok : ∀ l ∈ ls, l ≠ 0 ∧ varOf l < pb.model.length := by
              intro l hl
              have := hc l (hsub l hl)
              exact ⟨this.1, varOf_lt this.1 this.2⟩
            obtain ⟨au, ao⟩ := addUnits_spec ls pb hst hinv hlsok
            have hsem : ∀ a, Models linH a pb.units (c :: r) ↔ Models linH a (pb.units ++ ls) (rot r) := by
              intro a
              rw [Models_rot]
              refine (Models_cons_iff (fun hu => ?_) r).trans (and_comm.trans Models_units_append.symm)
              rw [linH, holds_card hcw, ← cnt_full, (hcnt a hu).1]
              omega
            by_cases hun : (addUnits pb ls).status = .unsat
            · rw [if_pos hun]
              refine PassOk.fail hun fun a hs' => ?_
              exact au hun a ((hsem a).mp hs').1
            · rw [if_neg hun]
              obtain ⟨o1, o2, o3, o4⟩ := ao hun
              exact (ih (addUnits pb ls) (rot r) hun o4 (o3 ▸ hwfrot)).trans o1 o3 (o2 ▸ hsem)
          · -- kept, with the true literals taken off both sides
            rw [if_neg heq]
            refine (ih pb r hst hinv hwfr).keep rfl rfl
              ⟨fun x hx => hc x (hsub x hx), hcw, one_le_updCard hcc⟩
              fun a => Models_cons_iff (fun hu => ?_) r
            rw [linH, holds_card hcw, linH, holds_card (by exact hcw)]
            have := hcnt a hu
            show _ ↔ updCard c.card (-(nbSat : Int)) ≤ cnt a ls
            rw [updCard_of_lt this.2]
            omega

theorem loopCard_eq (n : Nat) (pb : Pb) :
    loopCard n pb = loopG (fun pb => passCard pb.clauses.length pb pb.clauses) n pb := by
  induction n generalizing pb with
  | zero => rfl
  | succ n ih => simp only [loopCard, loopG, ih]

/-- **C02, cardinality constraints.** `simplifyCard` preserves the set of models
    (semantics `GS.Lin.holds`). `loopG_spec` is for every fuel: that the fuel of `simplifyCard`
    lets the `for restart` loop run to completion is not shown (for `simplify2`: `loop2_fuel`). -/
theorem simplifyCard_equiv (pb : Pb) (hst : pb.status = .indet) (hinv : MInv pb.model pb.units)
    (hwf : ∀ c ∈ pb.clauses, ClOk pb.model.length c) :
    ((simplifyCard pb).status = .unsat → ∀ a, ¬ SemL a pb.units pb.clauses) ∧
    ((simplifyCard pb).status ≠ .unsat →
      MInv (simplifyCard pb).model (simplifyCard pb).units ∧
      ∀ a, SemL a pb.units pb.clauses ↔ SemL a (simplifyCard pb).units (simplifyCard pb).clauses) := by
  rw [simplifyCard, loopCard_eq, SemL_eq]
  exact loopG_spec (fun pb => passCard_spec _ pb _) _ pb hst hinv hwf

/-- the hypotheses of `simplifyCard_equiv` are met by the state `ParseCardConstrs` reaches on
    `{[-1], 1}, {[1 2 3], 2}` before calling `simplifyCard` -/
example : MInv [-1, 0, 0] [-1] ∧ (∀ c ∈ [(⟨[1, 2, 3], none, 2⟩ : Cl)], ClOk 3 c) := by
  refine ⟨?_, ?_⟩
  · exact (bindUnits_spec [-1] (List.replicate 3 0) [] (MInv.init 3) (by decide)).2.1 (by decide)
  · intro c hc
    simp only [List.mem_singleton] at hc
    subst hc
    refine ⟨?_, rfl, by decide⟩
    intro l hl
    simp only [List.mem_cons, List.not_mem_nil, or_false] at hl
    rcases hl with rfl | rfl | rfl <;> decide

example : (parseCardConstrs [⟨[-1], 1⟩, ⟨[1, 2, 3], 2⟩]).map (fun r => (r.status, r.units, r.clauses)) =
    some (.sat, [-1, 3, 2], []) := by decide +kernel

#print axioms simplifyCard_equiv

end GS.Simplify
