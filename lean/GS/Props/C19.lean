import GS.Model.Print
import GS.Props.Facts
import GS.Check.Brute
import GS.Check.Rup
import GS.Check.MaxSatBrute
/-!
# C19 — what the command line tool prints is true

The printed text is a function of the library results (C01–C07, C20); this file carries the
printer-level part: decoding a printed `v` line gives back the model and every printed
literal is true under it (`vline_roundtrip`, `vline_true`; `C19_vline_roundtrip`, `C19_vline_is_model`
at the end are the two under the names `props.json` audits), status lines determine the
status, a stream of satisfiable results prints its costs as `o` lines, in order (`oLines_all_sat`),
and the flag / suffix dispatch regenerated from `main.go` is the expected one (`GS.Facts.cli_*`). The
judgement of parsed stdout in the harness uses the verified oracles imported here.
-/
namespace GS.Print

theorem decodeV_vlineFrom : ∀ (m : List Bool) (k : Nat), decodeV (vlineFrom k m) = m := by
  intro m
  induction m with
  | nil => intro k; rfl
  | cons b bs ih =>
    intro k
    rw [vlineFrom, decodeV, List.map_cons, ← decodeV, ih]
    cases b <;> simp <;> omega

theorem vline_roundtrip (m : List Bool) : decodeV (vline m) = m := decodeV_vlineFrom m 0

/-- the `v` line lists every variable exactly once, in order -/
theorem vlineFrom_natAbs : ∀ (m : List Bool) (k i : Nat), i < m.length →
    ((vlineFrom k m).getD i 0).natAbs = k + i + 1 := by
  intro m
  induction m with
  | nil => intro k i h; simp at h
  | cons b bs ih =>
    intro k i h
    cases i with
    | zero => simp [vlineFrom]; cases b <;> simp <;> omega
    | succ i =>
      simp only [vlineFrom, List.getD_cons_succ]
      have := ih (k + 1) i (by simpa using h)
      omega

theorem vline_length (m : List Bool) : (vline m).length = m.length := by
  -- decoding is a `map`
  have := congrArg List.length (vline_roundtrip m)
  rwa [decodeV, List.length_map] at this

theorem vlineFrom_true (a : Asg) : ∀ (m : List Bool) (k : Nat),
    (∀ i, i < m.length → a (k + i + 1) = m.getD i false) → ∀ l ∈ vlineFrom k m, litTrue a l = true := by
  intro m
  induction m with
  | nil => intro k _ l hl; cases hl
  | cons b bs ih =>
    intro k h
    rw [vlineFrom, List.forall_mem_cons]
    refine ⟨?_, ih (k + 1) fun i hi => ?_⟩
    · have h0 : a (k + 1) = b := h 0 (Nat.succ_pos _)
      cases b
      · rw [if_neg (by decide), ← Int.natCast_succ, litTrue_neg_natCast a _ (Nat.succ_pos k), h0]; rfl
      · rw [if_pos rfl, ← Int.natCast_succ, litTrue_natCast a _ (Nat.succ_pos k), h0]
    · have := h (i + 1) (Nat.succ_lt_succ hi)
      rw [List.getD_cons_succ] at this
      rw [← this]; congr 1; omega

theorem vline_true (m : List Bool) : ∀ l ∈ vline m, litTrue (asgOf m) l = true := by
  apply vlineFrom_true (asgOf m) m 0
  intro i _
  simp [asgOf]

theorem statusLine_injective : ∀ s t, statusLine s = statusLine t → s = t := by
  intro s t; cases s <;> cases t <;> simp [statusLine]

theorem statusLineOpt_injective : ∀ s t, statusLineOpt s = statusLineOpt t → s = t := by
  intro s t; cases s <;> cases t <;> simp [statusLineOpt]

theorem oLines_all_sat (stream : List (Status × Int)) (h : ∀ r ∈ stream, r.1 = .sat) :
    oLines stream = stream.map (·.2) := by
  unfold oLines
  congr 1
  rw [List.filter_eq_self]
  intro r hr
  simp [h r hr]

end GS.Print

namespace GS
theorem C19_vline_roundtrip (m : List Bool) : Print.decodeV (Print.vline m) = m := Print.vline_roundtrip m
theorem C19_vline_is_model (m : List Bool) : ∀ l ∈ Print.vline m, litTrue (asgOf m) l = true := Print.vline_true m
end GS
