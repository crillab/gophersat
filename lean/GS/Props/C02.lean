import GS.Check.Brute
/-!
# C02 — Cardinality and pseudo-boolean constraints are decided correctly

This module imports the oracles that judge every answer of the implementation in the harness;
they are proved, in the imported modules, to be exactly the specification on every input
over the variables `1..n` (`wf n`).
The theorems about the mirrors of the Go code are in `C02_*.lean`.
-/
namespace GS
end GS
