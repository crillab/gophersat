import GS.Check.Brute
import GS.Check.MaxSatBrute
/-!
# C13 — DIMACS, OPB and WCNF texts mean what their formats say

This module imports the oracles that judge every answer of the implementation in the harness;
they are proved, in the imported modules, to be exactly the specification on every input
over the variables `1..n` (`wf n`).
The theorems about the mirrors of the Go code are in `C13_*.lean`.
-/
namespace GS
end GS
