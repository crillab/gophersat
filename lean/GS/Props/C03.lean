import GS.Check.Brute
/-!
# C03 — Reported optimum is the true minimum of the cost function

The oracle `bruteOpt` that judges every answer of the implementation in the harness is proved to be
exactly the specification, over all inputs with literals in `1..n`, in `GS.Check.Brute` (`bruteOpt_none`, `bruteOpt_unique`).
The theorems about the mirrors of `Optimal` / `Minimize` are in `C03_Optim` and `C03_OptimSigned`.
-/
