import GS.Props.C02_PbPropWatch
/-!
# C02 (support) — the watch invariant of a cardinality constraint across calls and backjumps

A cardinality constraint is watched by its first `card+1` positions (`watchClause`; `swapFalse` moves
false literals out of them).  Invariant `CInv`: no literal among the first `card+1` positions is false,
or `card` literals are true.  `simplifyCardConstr` answering `true` re-establishes it at the current
level and at every level below (the assignment after a later `cleanupBindings`), given it for the levels
below only (`card_call_levelInv`); bindings that falsify none of the first `card+1` literals keep it
(`cinv_extend`); under it the constraint is not violated (`card_no_missed_conflict`) and holds at a total
assignment (`cinv_total_holds`).
-/
namespace GS.PbProp
open GS

def CInv (card : Int) (m : Nat → Int) (ls : List Int) : Prop :=
  (FirstNF m ls (card + 1).toNat ∧ card + 1 ≤ ls.length) ∨ card ≤ cnt m .sat ls

theorem nf_ge_of_firstNF {m : Nat → Int} :
    ∀ (c : Nat) (ls : List Int), c ≤ ls.length → FirstNF m ls c → (c : Int) ≤ litSum (nfFlag m) (ones ls)
  | 0, ls, _, _ => litSum_nonneg _ (ones_nonneg ls)
  | c + 1, l :: ls, hlen, h => by
    have := nf_ge_of_firstNF c ls (by simpa using hlen) fun k l' hk hl' => h (k + 1) l' (by omega) hl'
    rw [litSum_ones_cons, nfFlag_eq_true.2 (h 0 l (by omega) rfl), if_pos rfl]
    omega

theorem card_no_missed_conflict {card : Int} {m : Nat → Int} {ls : List Int} (hc0 : 0 ≤ card)
    (h : CInv card m ls) : card ≤ cnt m .sat ls + cnt m .indet ls := by
  rcases h with ⟨h, hlen⟩ | h
  · have := nf_ge_of_firstNF (card + 1).toNat ls (by omega) h
    rw [nf_ones] at this
    omega
  · have := cnt_nonneg m .indet ls; omega

theorem cinv_total_holds {card : Int} {m : Nat → Int} {ls : List Int} (hc0 : 0 ≤ card)
    (h : CInv card m ls) (htot : ∀ l ∈ ls, m l.natAbs ≠ 0) : ∀ a, Ext a m → CardHolds a ls card :=
  fun a ha => holds_of_total (ts := ones ls) ha (fun t ht => htot _ (lit_mem_of_mem_ones ht))
    (by rw [nf_ones]; exact card_no_missed_conflict hc0 h)

theorem cinv_extend {card : Int} {m m' : Nat → Int} {ls : List Int}
    (hext : ∀ v, m v ≠ 0 → m' v = m v)
    (hG : ∀ (k : Nat) (l : Int), k < (card + 1).toNat → ls[k]? = some l → litStatus m l ≠ .unsat →
      litStatus m' l ≠ .unsat)
    (h : CInv card m ls) : CInv card m' ls := by
  rcases h with ⟨h, hlen⟩ | h
  · exact Or.inl ⟨fun k l hk hl => hG k l hk hl (h k l hk hl), hlen⟩
  · have := sat_mono hext (ones_nonneg ls)
    rw [← cnt_eq_litSum, ← cnt_eq_litSum] at this
    exact Or.inr (Int.le_trans h this)

theorem card_call_levelInv {lvl card : Int} (hlvl : 0 < lvl) {st st' : St}
    (hnd : (st.lits.map Int.natAbs).Nodup) (hc0 : 0 ≤ card) (hlen : card + 1 ≤ st.lits.length)
    (hw : ∀ k : Nat, (k : Int) < card + 1 → st.watched[k]? = some true)
    (hbelow : ∀ k, k < lvl → CInv card (restrict st.m k) st.lits)
    (h : simplifyCard lvl card st = .ok (true, st')) :
    CInv card st'.m st'.lits ∧ ∀ k, k < lvl → CInv card (restrict st'.m k) st'.lits := by
  have hlvl' : lvl ≠ 0 := by omega
  cases simplifyCard_run h with
  | sat hc => exact ⟨Or.inr hc, hbelow⟩
  | @tight ps m1 hc hs hps =>
    -- as many literals are handed over as were unbound: all are bound afterwards, hence true
    have hmem : ∀ m l, Short (ones st.lits) card m l → l ∈ st.lits :=
      fun _ _ ⟨_, _, hm, _⟩ => lit_mem_of_mem_ones hm
    have hR := hs.reached hlvl' hmem (Reached.refl st.m st.lits lvl)
    have hz : cnt m1 .indet st.lits + ps.length ≤ cnt st.m .indet st.lits := hs.indet hlvl' hmem
    have hz0 : cnt m1 .indet st.lits = 0 := by have := cnt_nonneg m1 .indet st.lits; omega
    have hb : ∀ l ∈ st.lits, m1 l.natAbs ≠ 0 := fun l hl h0 => by
      have := cnt_pos_of_mem hl (status_indet_iff.2 h0); omega
    have := nf_le_sat_of (ones_nonneg st.lits) fun t ht =>
      all_true_of_reached hlvl hR hnd hb t.2 (lit_mem_of_mem_ones ht)
    rw [nf_ones, ← cnt_eq_litSum] at this
    dsimp only at this ⊢
    exact ⟨Or.inr (by omega), fun k hk => by rw [hR.restrict hk]; exact hbelow k hk⟩
  | swap hc hq =>
    have hfirst := swapFalse_firstNF hc0 hlen (by have := hc (by omega); omega) hw hq
    have hlen' : card + 1 ≤ st'.lits.length := by rw [(swapFalse_effect hq).2.2.1.length_eq]; exact hlen
    exact ⟨Or.inl ⟨hfirst, hlen'⟩,
      fun k _ => Or.inl ⟨fun i l hi hl hs => hfirst i l hi hl (status_unsat_of_restrict hs), hlen'⟩⟩

/-- Non-vacuity of the hypotheses of `card_call_levelInv`: `x1 + x2 + x3 + x4 ≥ 2`, `x1` false at level 2,
    call at level 2: at level 1 nothing is bound and no literal among the first three is false. -/
example : CInv 2 (restrict (mOf [-2, 0, 0, 0]) 1) [1, 2, 3, 4] := by
  left
  refine ⟨?_, by decide⟩
  intro k l hk hl
  have hk' : k < 3 := hk
  have : l ∈ [1, 2, 3, 4] := List.mem_of_getElem? hl
  simp only [List.mem_cons, List.not_mem_nil, or_false] at this
  rcases this with rfl | rfl | rfl | rfl <;> decide

end GS.PbProp

#print axioms GS.PbProp.card_call_levelInv
#print axioms GS.PbProp.card_no_missed_conflict
#print axioms GS.PbProp.cinv_extend
#print axioms GS.PbProp.cinv_total_holds
