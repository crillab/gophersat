import GS.Model.BfLex
import GS.Model.BfRender
import GS.Props.C17_Parse
/-!
# C17 — the lexical layer of `bf.Parse` (`GS.BfLex`)

Subject: `GS.BfLex.lexRaw` / `lex` / `parseBytes`, the mirror of `text/scanner` as `bf.Parse` configures
it. The token texts of the documented grammar (`goodText`: identifiers and the twelve punctuation
characters), written with any blanks between them (`Layout`) and at least one between two adjacent
identifiers (`sepOk`), are read back one `step` at a time (`lexRaw_render`). Composed with
`parse_renderP` this gives `parseBytes_render`: the bytes of any rendering of a formula are parsed as
the formula; a name `t`, no Go keyword (`Syn.wfB`), becomes the variable `code (tokBytes t)`, an
injective numbering (`code_injective`). The scanner mirror is total (`lex_total`): every scanner
function returns a suffix of what it was given (`…_sfx`), so every step that delivers a token
consumes a byte; hence `lexAux_render` need only say what the loop answers when it answers. The
examples at the end record what the hypotheses exclude and the leniencies of the Go scanner.
-/
namespace GS.BfLex
open GS GS.BfParse GS.BfRender

/-- an identifier of `text/scanner` (ASCII): a letter or `_`, then letters, digits, `_` -/
def wfIdent : List Nat → Bool
  | [] => false
  | b :: r => isIdentStart b && r.all isIdentCont

def isPunctText (t : List Nat) : Bool := (punct? t).isSome

/-- the token texts of the documented grammar: identifiers and the twelve punctuation characters -/
def goodText (t : List Nat) : Bool := wfIdent t || isPunctText t

/-- `lay i` = the bytes written before token number `i` (`lay n` after the last of `n` tokens) -/
abbrev Layout := Nat → List Nat

def renderFrom (lay : Layout) : Nat → List (List Nat) → List Nat
  | i, [] => lay i
  | i, t :: ts => lay i ++ (t ++ renderFrom lay (i+1) ts)

def renderBytes (texts : List (List Nat)) (lay : Layout) : List Nat := renderFrom lay 0 texts

/-- only blanks (space, tab, LF, CR) between the tokens -/
def blankLay (lay : Layout) : Prop := ∀ i, (lay i).all isWs = true

/-- there is a separator between any two adjacent identifiers -/
def sepOk (lay : Layout) : Nat → List (List Nat) → Bool
  | _, [] => true
  | _, [_] => true
  | i, a :: b :: ts => (!(wfIdent a && wfIdent b) || !(lay (i+1)).isEmpty) && sepOk lay (i+1) (b :: ts)

theorem digits_sfx (hex : Bool) (bs : List Nat) : digits hex bs <:+ bs := List.dropWhile_suffix _

theorem sfx_ite {c : Prop} [Decidable c] {a b l : List Nat} (ha : a <:+ l) (hb : b <:+ l) :
    (if c then a else b) <:+ l := by
  split <;> assumption

theorem numExponent_sfx (bs : List Nat) : numExponent bs <:+ bs := by
  unfold numExponent
  split
  · refine sfx_ite ((digits_sfx false _).trans ?_) (List.suffix_refl _)
    split
    · exact (List.suffix_cons _ _).trans (List.suffix_cons _ _)
    · exact (List.suffix_cons _ _).trans (List.suffix_cons _ _)
    · exact List.suffix_cons _ _
  · exact List.suffix_refl _

/-- the prefix alone may consume nothing; the digit loop after it then consumes the leading digit -/
theorem numPrefix_sfx (b : Nat) (r : List Nat) (hb : isDecimal b = true) :
    digits (numPrefix (b :: r)).2 (numPrefix (b :: r)).1 <:+ r := by
  unfold numPrefix
  split
  · rename_i r' heq
    simp only [List.cons.injEq] at heq
    obtain ⟨_, rfl⟩ := heq
    split
    · split
      · exact (digits_sfx _ _).trans (List.suffix_cons _ _)
      · split
        · exact (digits_sfx _ _).trans (List.suffix_cons _ _)
        · exact digits_sfx _ _
    · exact digits_sfx _ _
  · simp only [digits, List.dropWhile_cons, hb, Bool.true_or, ↓reduceIte, Bool.false_eq_true]
    exact List.dropWhile_suffix _

theorem scanNumber_dot_sfx (bs : List Nat) : scanNumber bs true <:+ bs :=
  (numExponent_sfx _).trans (digits_sfx false bs)

theorem scanNumber_sfx (b : Nat) (r : List Nat) (hb : isDecimal b = true) :
    scanNumber (b :: r) false <:+ r := by
  have h0 := numPrefix_sfx b r hb
  simp only [scanNumber, Bool.false_eq_true, ↓reduceIte]
  split
  · rename_i r' heq
    rw [heq] at h0
    exact (numExponent_sfx _).trans ((digits_sfx _ _).trans ((List.suffix_cons _ _).trans h0))
  · exact (numExponent_sfx _).trans h0

theorem scanDigits_sfx (base : Nat) : ∀ (n : Nat) (bs : List Nat), scanDigits base n bs <:+ bs
  | 0, _ => List.suffix_refl _
  | _+1, [] => List.suffix_refl _
  | n+1, _ :: r => sfx_ite ((scanDigits_sfx base n r).trans (List.suffix_cons _ _)) (List.suffix_refl _)

theorem scanEscape_sfx (q : Nat) : ∀ bs : List Nat, scanEscape q bs <:+ bs
  | [] => List.suffix_refl _
  | c :: r =>
    have hex : ∀ n, scanDigits 16 n r <:+ c :: r := fun n => (scanDigits_sfx 16 n r).trans (List.suffix_cons _ _)
    sfx_ite (List.suffix_cons _ _) <| sfx_ite (scanDigits_sfx 8 3 _) <|
      sfx_ite (hex 2) <| sfx_ite (hex 4) <| sfx_ite (hex 8) (List.suffix_refl _)

theorem scanString_sfx (q : Nat) : ∀ (fuel : Nat) (bs : List Nat), scanString q fuel bs <:+ bs
  | 0, _ => List.suffix_refl _
  | _+1, [] => List.suffix_refl _
  | f+1, c :: r =>
    have tl := List.suffix_cons c r
    sfx_ite tl <| sfx_ite tl <|
      sfx_ite (((scanString_sfx q f _).trans (scanEscape_sfx q r)).trans tl) ((scanString_sfx q f r).trans tl)

theorem scanRawString_sfx (bs : List Nat) : scanRawString bs <:+ bs :=
  (List.drop_suffix _ _).trans (List.dropWhile_suffix _)

theorem blockComment_sfx : ∀ bs : List Nat, blockComment bs <:+ bs := by
  intro bs
  fun_induction blockComment bs
  · exact List.suffix_refl _
  · exact (List.suffix_cons _ _).trans (List.suffix_cons _ _)
  · rename_i ih; exact ih.trans (List.suffix_cons _ _)

/-- a step that delivers a token or skips a comment consumes at least one byte -/
def Prog (bs : List Nat) : Step → Prop
  | .tok _ rest => rest.length < bs.length
  | .skip rest => rest.length < bs.length
  | _ => True

theorem Prog.ite {bs : List Nat} {c : Prop} [Decidable c] {a b : Step} (ha : c → Prog bs a)
    (hb : Prog bs b) : Prog bs (if c then a else b) := by
  split
  · exact ha ‹_›
  · exact hb

theorem step_progress (bs : List Nat) : Prog bs (step bs) := by
  unfold step
  split
  · trivial
  · rename_i b r heq
    have hr : r.length < bs.length := by
      have := (List.dropWhile_suffix isWs (l := bs)).length_le
      rw [heq] at this
      exact this
    -- every branch leaves a suffix of `r`
    have tok : ∀ {t rest : List Nat}, rest <:+ r → Prog bs (.tok t rest) :=
      fun h => Nat.lt_of_le_of_lt h.length_le hr
    have skip : ∀ {rest : List Nat}, rest <:+ r → Prog bs (.skip rest) :=
      fun h => Nat.lt_of_le_of_lt h.length_le hr
    refine Prog.ite (fun _ => trivial) ?_
    refine Prog.ite (fun _ => tok (List.dropWhile_suffix _)) ?_
    refine Prog.ite (fun hd => tok (scanNumber_sfx b r hd)) ?_
    refine Prog.ite (fun _ => tok (scanString_sfx b _ r)) ?_
    refine Prog.ite (fun _ => tok (scanRawString_sfx r)) ?_
    refine Prog.ite (fun _ => ?_) (Prog.ite (fun _ => ?_) (tok (List.suffix_refl _)))
    · split
      · exact Prog.ite (fun _ => tok (scanNumber_dot_sfx _)) (tok (List.suffix_refl _))
      · exact tok (List.suffix_refl _)
    · split
      · exact skip ((List.dropWhile_suffix _).trans (List.suffix_cons _ _))
      · exact skip ((blockComment_sfx _).trans (List.suffix_cons _ _))
      · exact tok (List.suffix_refl _)

theorem lexAux_total : ∀ (fuel : Nat) (bs : List Nat), bs.length < fuel →
    (∃ ts, lexAux fuel bs = .ok ts) ∨ lexAux fuel bs = .error "unmodelled" := by
  intro fuel
  induction fuel with
  | zero => intro _ h; omega
  | succ f ih =>
    intro bs h
    have hp := step_progress bs
    simp only [lexAux]
    split
    · exact .inl ⟨[], rfl⟩
    · exact .inr rfl
    · rename_i rest hs
      exact ih rest (by rw [hs] at hp; simp only [Prog] at hp; omega)
    · rename_i t rest hs
      rcases ih rest (by rw [hs] at hp; simp only [Prog] at hp; omega) with ⟨ts, h1⟩ | h1
      · exact .inl ⟨t :: ts, by rw [h1]⟩
      · exact .inr (by rw [h1])

/-- the lexer never runs out of fuel: it answers a token list, or `unmodelled` -/
theorem lexRaw_total (bs : List Nat) : (∃ ts, lexRaw bs = .ok ts) ∨ lexRaw bs = .error "unmodelled" :=
  lexAux_total _ bs (Nat.lt_succ_self _)

theorem lex_total (bs : List Nat) : (∃ ts, lex bs = .ok ts) ∨ lex bs = .error "unmodelled" := by
  rcases lexRaw_total bs with ⟨ts, h⟩ | h
  · exact .inl ⟨ts.map toWire, by simp [lex, h]⟩
  · exact .inr (by simp [lex, h])

theorem step_ws (ws X : List Nat) (h : ws.all isWs = true) : step (ws ++ X) = step X := by
  unfold step
  rw [List.dropWhile_append_of_pos (List.all_eq_true.1 h)]

theorem step_blank (ws : List Nat) (h : ws.all isWs = true) : step ws = .eof := by
  have := step_ws ws [] h
  rwa [List.append_nil] at this

/-- a byte that `step` delivers as a one-character token by its last branch -/
def Single (b : Nat) : Prop :=
  b < 128 ∧ isWs b = false ∧ isIdentStart b = false ∧ isDecimal b = false ∧
    b ≠ 34 ∧ b ≠ 39 ∧ b ≠ 96 ∧ b ≠ 46 ∧ b ≠ 47

instance (b : Nat) : Decidable (Single b) := by unfold Single; infer_instance

theorem punct_single {t : List Nat} (h : isPunctText t = true) : ∃ b, t = [b] ∧ Single b := by
  unfold isPunctText punct? at h
  split at h
  iterate 12 exact ⟨_, rfl, by decide +kernel⟩
  cases h

theorem step_single (R : List Nat) {b : Nat} (hb : Single b) : step (b :: R) = .tok [b] R := by
  obtain ⟨h128, hw, hi, hd, h34, h39, h96, h46, h47⟩ := hb
  unfold step
  rw [List.dropWhile_cons_of_neg (by simp [hw])]
  simp [Nat.not_le.2 h128, hi, hd, h34, h39, h96, h46, h47]

def headNotIdent : List Nat → Prop
  | [] => True
  | c :: _ => isIdentCont c = false

theorem span_ident (r R : List Nat) (hr : r.all isIdentCont = true) (hR : headNotIdent R) :
    (r ++ R).takeWhile isIdentCont = r ∧ (r ++ R).dropWhile isIdentCont = R := by
  rw [List.takeWhile_append_of_pos (List.all_eq_true.1 hr), List.dropWhile_append_of_pos (List.all_eq_true.1 hr)]
  cases R with
  | nil => simp
  | cons c R => simp [show isIdentCont c = false from hR]

theorem identStart_facts {b : Nat} (h : isIdentStart b = true) :
    b < 128 ∧ isWs b = false := by
  simp only [isIdentStart, isLetter, Bool.or_eq_true, Bool.and_eq_true, decide_eq_true_eq, beq_iff_eq] at h
  refine ⟨by omega, ?_⟩
  simp only [isWs, Bool.or_eq_false_iff, beq_eq_false_iff_ne]
  omega

theorem step_ident (t R : List Nat) (h : wfIdent t = true) (hR : headNotIdent R) :
    step (t ++ R) = .tok t R := by
  cases t with
  | nil => simp [wfIdent] at h
  | cons b r =>
    simp only [wfIdent, Bool.and_eq_true] at h
    obtain ⟨h128, hnw⟩ := identStart_facts h.1
    obtain ⟨h1, h2⟩ := span_ident r R h.2 hR
    unfold step
    have : ¬ (128 ≤ b) := by omega
    simp [hnw, this, h.1, h1, h2]

theorem step_good (t R : List Nat) (h : goodText t = true)
    (hR : wfIdent t = true → headNotIdent R) : step (t ++ R) = .tok t R := by
  cases hw : wfIdent t with
  | true => exact step_ident t R hw (hR hw)
  | false =>
    simp only [goodText, hw, Bool.false_or] at h
    obtain ⟨b, rfl, hb⟩ := punct_single h
    exact step_single R hb

theorem ws_notIdent {c : Nat} (h : isWs c = true) : isIdentCont c = false := by
  simp only [isWs, Bool.or_eq_true, beq_iff_eq] at h
  rcases h with ((h | h) | h) | h <;> subst h <;> decide

theorem head_after_ident (lay : Layout) (hb : blankLay lay) (i : Nat) (t : List Nat) (ts : List (List Nat))
    (ht : wfIdent t = true) (hg : ∀ u ∈ ts, goodText u = true) (hs : sepOk lay i (t :: ts) = true) :
    headNotIdent (renderFrom lay (i+1) ts) := by
  cases hl : lay (i+1) with
  | cons c l =>
    have hc : isWs c = true := by have := hb (i+1); rw [hl] at this; simp at this; exact this.1
    cases ts <;> simp only [renderFrom, hl] <;> exact ws_notIdent hc
  | nil =>
    cases ts with
    | nil => simp only [renderFrom, hl]; trivial
    | cons u us =>
      simp only [sepOk, hl, ht, Bool.true_and, List.isEmpty_nil, Bool.not_true, Bool.or_false,
        Bool.and_eq_true, Bool.not_eq_true'] at hs
      have hgu := hg u (by simp)
      simp only [goodText, hs.1, Bool.false_or] at hgu
      obtain ⟨b, rfl, _, _, hi, hd, _⟩ := punct_single hgu
      simp [renderFrom, hl, headNotIdent, isIdentCont, hi, hd]

theorem sepOk_tail {lay : Layout} {i : Nat} {t : List Nat} {ts : List (List Nat)}
    (hs : sepOk lay i (t :: ts) = true) : sepOk lay (i+1) ts = true := by
  cases ts with
  | nil => rfl
  | cons u us => simp only [sepOk, Bool.and_eq_true] at hs; exact hs.2

/-- whenever the loop answers, it answers the texts that were written (`lexAux_total`: it does answer) -/
theorem lexAux_render (lay : Layout) (hb : blankLay lay) :
    ∀ (texts : List (List Nat)) (i fuel : Nat), lexAux fuel (renderFrom lay i texts) ≠ .error "fuel" →
      (∀ t ∈ texts, goodText t = true) → sepOk lay i texts = true →
      lexAux fuel (renderFrom lay i texts) = .ok texts := by
  intro texts
  induction texts with
  | nil =>
    intro i fuel hf _ _
    cases fuel with
    | zero => exact absurd rfl hf
    | succ f => simp only [renderFrom, lexAux, step_blank _ (hb i)]
  | cons t ts ih =>
    intro i fuel hf hg hs
    cases fuel with
    | zero => exact absurd rfl hf
    | succ f =>
      have hgs : ∀ u ∈ ts, goodText u = true := fun u hu => hg u (by simp [hu])
      have hstep := step_good t (renderFrom lay (i+1) ts) (hg t (by simp))
        fun hw => head_after_ident lay hb i t ts hw hgs hs
      simp only [renderFrom, lexAux, step_ws _ _ (hb i), hstep] at hf ⊢
      rw [ih (i+1) f (fun e => hf (by rw [e])) hgs (sepOk_tail hs)]

/-- the scanner reads back the texts that were written, whatever the blanks, provided two adjacent
identifiers are separated -/
theorem lexRaw_render (texts : List (List Nat)) (lay : Layout) (hb : blankLay lay)
    (hg : ∀ t ∈ texts, goodText t = true) (hs : sepOk lay 0 texts = true) :
    lexRaw (renderBytes texts lay) = .ok texts := by
  refine lexAux_render lay hb texts 0 _ (fun e => ?_) hg hs
  rcases lexRaw_total (renderBytes texts lay) with ⟨ts, h⟩ | h <;>
    exact absurd (h.symm.trans e) (by simp)

theorem lex_render (texts : List (List Nat)) (lay : Layout) (hb : blankLay lay)
    (hg : ∀ t ∈ texts, goodText t = true) (hs : sepOk lay 0 texts = true) :
    lex (renderBytes texts lay) = .ok (texts.map toWire) := by
  simp [lex, lexRaw_render texts lay hb hg hs]

/-- the bytes of a token of `GS.BfRender` when names are written as themselves (`BAR` is `|`) -/
def tokBytes (t : String) : List Nat := if t = "BAR" then [124] else t.toList.map Char.toNat

/-- the token of the parser mirror the lexer produces for the text of `t` -/
def wireTok (t : String) : String := toWire (tokBytes t)

/-- a name of the documented grammar: an identifier that is no Go keyword -/
def wfName (t : String) : Bool := wfIdent (tokBytes t) && (kwIndex (tokBytes t)).isNone

theorem punctFix_wireTok : PunctAll fun t => wireTok t = t := by
  constructor <;> decide +kernel

theorem punctAll_good : PunctAll (fun t => goodText (tokBytes t) = true) := by
  constructor <;> decide +kernel

theorem punct?_none_of_wfIdent {t : List Nat} (h : wfIdent t = true) : punct? t = none := by
  cases hp : punct? t with
  | none => rfl
  | some p =>
    obtain ⟨b, rfl, _, _, hi, _⟩ := punct_single (t := t) (by simp [isPunctText, hp])
    simp [wfIdent, hi] at h

theorem wireTok_of_wfName {t : String} (h : wfName t = true) : wireTok t = vtok (code (tokBytes t)) := by
  simp only [wfName, Bool.and_eq_true, Option.isNone_iff_eq_none] at h
  simp [wireTok, toWire, punct?_none_of_wfIdent h.1, h.2, vtok]

theorem plainTok_wireTok {t : String} (h : wfName t = true) : plainTok (wireTok t) = true := by
  rw [wireTok_of_wfName h]; exact plainTok_of_v (isVTok_vtok _)

/-- well-formed formula of the documented grammar, names written as themselves: every name is an
identifier and no Go keyword, exactly-one groups are not empty -/
def _root_.GS.BfRender.Syn.wfB : Syn → Bool
  | .var t => wfName t
  | .uniq ns => !ns.isEmpty && ns.all wfName
  | .not s => s.wfB
  | .bin _ l r => l.wfB && r.wfB

/-- the documented reading; the name `t` is the variable number `code (bytes of t)` -/
def _root_.GS.BfRender.Syn.toSFB : Syn → SF
  | .var t => SF.var (code (tokBytes t))
  | .uniq ns => SF.unique (ns.map (fun t => code (tokBytes t)))
  | .not s => SF.not s.toSFB
  | .bin op l r => op.mk l.toSFB r.toSFB

theorem wfName_good {t : String} (h : wfName t = true) : goodText (tokBytes t) = true := by
  simp only [wfName, Bool.and_eq_true] at h
  simp [goodText, h.1]

-- `Syn.wfB`, `Syn.toSFB` are `Syn.wf`, `Syn.toSF` after the renaming `wireTok`: each of the next three
-- facts is the fact about one name (`plainTok_wireTok`, `wfName_good`, `wireTok_of_wfName`) carried
-- through the tree
theorem wf_mapNames (s : Syn) (h : s.wfB = true) : (s.mapNames wireTok).wf = true := by
  induction s <;> simp_all [Syn.wfB, Syn.mapNames, Syn.wf, plainTok_wireTok]

theorem allNames_of_wfB (s : Syn) (h : s.wfB = true) :
    s.allNames (fun t => goodText (tokBytes t)) = true := by
  induction s <;> simp_all [Syn.wfB, Syn.allNames, wfName_good]

theorem toSF_mapNames (s : Syn) (h : s.wfB = true) : (s.mapNames wireTok).toSF = s.toSFB := by
  induction s <;> simp_all [Syn.wfB, Syn.mapNames, Syn.toSF, Syn.toSFB, wireTok_of_wfName, nameId_vtok]

theorem renderP_good (d : Deco) (s : Syn) (h : s.wfB = true) :
    ∀ t ∈ (renderP d s).map tokBytes, goodText t = true := by
  have := (renderP_all punctAll_good s d).trans (allNames_of_wfB s h)
  simpa using this

theorem lex_renderP (d : Deco) (s : Syn) (lay : Layout) (h : s.wfB = true) (hb : blankLay lay)
    (hs : sepOk lay 0 ((renderP d s).map tokBytes) = true) :
    lex (renderBytes ((renderP d s).map tokBytes) lay) = .ok (renderP d (s.mapNames wireTok)) := by
  rw [lex_render _ lay hb (renderP_good d s h) hs, renderP_mapNames punctFix_wireTok, List.map_map]
  rfl

/-- C17 on bytes: parsing the bytes of any rendering of a formula — minimal parentheses plus any
redundant ones (`d`), any blanks between the tokens (`lay`), at least one between two adjacent
identifiers — gives back the formula. -/
theorem parseBytes_render (d : Deco) (s : Syn) (lay : Layout) (h : s.wfB = true) (hb : blankLay lay)
    (hs : sepOk lay 0 ((renderP d s).map tokBytes) = true) :
    parseBytes (renderBytes ((renderP d s).map tokBytes) lay) = .ok (.ok s.toSFB []) := by
  simp only [parseBytes, lex_renderP d s lay h hb hs]
  rw [parse_renderP d _ (wf_mapNames s h), toSF_mapNames s h]

theorem wfIdent_append {a b : List Nat} (ha : wfIdent a = true) (hb : wfIdent b = true) :
    wfIdent (a ++ b) = true := by
  cases a with
  | nil => simp [wfIdent] at ha
  | cons x a =>
    cases b with
    | nil => simpa using ha
    | cons y b =>
      simp only [wfIdent, Bool.and_eq_true] at ha hb
      simp [wfIdent, ha.1, ha.2, hb.2, isIdentCont, hb.1]

theorem lay_nil_blank : blankLay (fun _ => []) := fun _ => rfl

/-- two identifiers written without a blank are read as ONE identifier: the separator between two
identifiers is required -/
theorem sep_required (a b : List Nat) (ha : wfIdent a = true) (hb : wfIdent b = true) :
    lexRaw (a ++ b) = .ok [a ++ b] := by
  have := lexRaw_render [a ++ b] (fun _ => []) lay_nil_blank
    (by intro t ht; simp at ht; subst ht; simp [goodText, wfIdent_append ha hb]) rfl
  simpa [renderBytes, renderFrom] using this

/-- no separator is needed anywhere else: with no blank at all, a token list in which no two
identifiers are adjacent is read back -/
theorem no_sep_needed (texts : List (List Nat)) (hg : ∀ t ∈ texts, goodText t = true)
    (hs : sepOk (fun _ => []) 0 texts = true) : lexRaw texts.flatten = .ok texts := by
  have := lexRaw_render texts (fun _ => []) lay_nil_blank hg hs
  have e : ∀ (ts : List (List Nat)) (i : Nat), renderFrom (fun _ => []) i ts = ts.flatten := by
    intro ts; induction ts with
    | nil => intro i; rfl
    | cons t ts ih => intro i; simp [renderFrom, ih]
  rwa [renderBytes, e] at this

theorem sepOk_of_spaced (lay : Layout) (h : ∀ i, lay (i+1) ≠ []) :
    ∀ (texts : List (List Nat)) (i : Nat), sepOk lay i texts = true := by
  intro texts
  induction texts with
  | nil => intro _; rfl
  | cons a texts ih =>
  cases texts with
  | nil => intro _; rfl
  | cons b ts =>
    intro i
    have := ih (i+1)
    have hne : (lay (i+1)).isEmpty = false := by
      cases hl : lay (i+1) with
      | nil => exact absurd hl (h i)
      | cons _ _ => rfl
    simp [sepOk, this, hne]

def codeR : List Nat → Nat
  | [] => 1
  | b :: r => codeR r * 256 + b

theorem code_eq_codeR (bs : List Nat) : code bs = codeR bs.reverse := by
  have : ∀ (l : List Nat), codeR l = l.foldr (fun b a => a * 256 + b) 1 := by
    intro l; induction l with
    | nil => rfl
    | cons b r ih => simp [codeR, ih]
  rw [this, code, List.foldr_reverse]

theorem codeR_pos : ∀ l : List Nat, 1 ≤ codeR l
  | [] => Nat.le_refl _
  | b :: r => by have := codeR_pos r; simp only [codeR]; omega

theorem codeR_injective : ∀ (bs cs : List Nat), (∀ b ∈ bs, b < 256) → (∀ c ∈ cs, c < 256) →
    codeR bs = codeR cs → bs = cs := by
  intro bs
  induction bs with
  | nil =>
    intro cs
    cases cs with
    | nil => intro _ _ _; rfl
    | cons c cs => intro _ _ h; have := codeR_pos cs; simp only [codeR] at h; omega
  | cons b bs ih =>
    intro cs
    cases cs with
    | nil => intro _ _ h; have := codeR_pos bs; simp only [codeR] at h; omega
    | cons c cs =>
    intro hb hc h
    simp only [codeR] at h
    have h1 := hb b (by simp)
    have h2 := hc c (by simp)
    have e1 : codeR bs = codeR cs := by omega
    have e2 : b = c := by omega
    rw [ih cs (fun x hx => hb x (by simp [hx])) (fun x hx => hc x (by simp [hx])) e1, e2]

/-- the numbering of token texts is injective on byte lists: distinct names are distinct variables,
as long as none is a Go keyword (`toWire` sends the keyword number `i` to `k<i>`, the variable
`1000 + i`; `Syn.wfB` excludes them) -/
theorem code_injective (bs cs : List Nat) (hb : ∀ b ∈ bs, b < 256) (hc : ∀ c ∈ cs, c < 256)
    (h : code bs = code cs) : bs = cs := by
  rw [code_eq_codeR, code_eq_codeR] at h
  have := codeR_injective _ _ (by simpa using hb) (by simpa using hc) h
  simpa using this

/-- bytes of an ASCII string -/
def ofStr (s : String) : List Nat := s.toList.map Char.toNat

/-- on a string literal (`String.ofList` of its characters for the kernel) `ofStr` needs no UTF-8
decoding; the test vectors below are rewritten with this before they are evaluated -/
theorem ofStr_ofList (l : List Char) : ofStr (String.ofList l) = l.map Char.toNat := by simp [ofStr]

-- for `decide` on the equations between answers of `lexRaw`, `lex` below
deriving instance DecidableEq for Except

-- the hypotheses of `lex_render` on a concrete rendering, and its conclusion recomputed
def exTexts : List (List Nat) := ["(", "ab_1", "|", "^", "c", ")", "-", ">", "{", "x", ",", "y", "}", ";", "Z", "q"].map ofStr
def exLay : Layout := fun i => if i = 1 then [] else if i = 7 then [32, 10] else if i = 15 then [9] else if i % 3 = 0 then [32] else []
example : sepOk exLay 0 exTexts = true := by decide +kernel
example : ∀ t ∈ exTexts, goodText t = true := by decide +kernel
example : renderBytes exTexts exLay = ofStr " (ab_1| ^c) - \n>{ x,y };Z\tq" := by
  repeat rw [ofStr_ofList]
  decide +kernel
example : lexRaw (ofStr " (ab_1| ^c) - \n>{ x,y };Z\tq") = .ok exTexts := by
  repeat rw [ofStr_ofList]
  decide +kernel

-- `->` may be written with blanks (even a newline, even a comment) between `-` and `>`
example : lex (ofStr "a->b") = .ok ["v353", "-", ">", "v354"] := by
  repeat rw [ofStr_ofList]
  decide +kernel
example : lex (ofStr "a - > b") = .ok ["v353", "-", ">", "v354"] := by
  repeat rw [ofStr_ofList]
  decide +kernel
example : lex (ofStr "a-\n>b") = .ok ["v353", "-", ">", "v354"] := by
  repeat rw [ofStr_ofList]
  decide +kernel
example : lex (ofStr "a-/* c */>b // d") = .ok ["v353", "-", ">", "v354"] := by
  repeat rw [ofStr_ofList]
  decide +kernel
example : code (ofStr "a") = 353 ∧ code (ofStr "b") = 354 := by
  repeat rw [ofStr_ofList]
  decide +kernel

-- `parseBytes_render` on a concrete formula: the hypotheses hold, the rendering is the expected text
def exSyn : Syn := .bin .seq (.bin .imp (.bin .and (.var "p1") (.not (.bin .or (.var "q") (.var "_r")))) (.uniq ["x", "y", "true"])) (.var "BARx")
example : exSyn.wfB = true := by decide +kernel
example : (renderP (fun _ => 0) exSyn).map tokBytes =
    ["p1", "&", "^", "(", "q", "|", "_r", ")", "-", ">", "{", "x", ",", "y", ",", "true", "}", ";", "BARx"].map ofStr := by decide +kernel
example : parseBytes (ofStr "p1&^(q|_r)->{x,y,true};BARx") = .ok (.ok exSyn.toSFB []) := by
  have := parseBytes_render (fun _ => 0) exSyn (fun _ => []) (by decide +kernel) lay_nil_blank (by decide +kernel)
  rwa [show renderBytes ((renderP (fun _ => 0) exSyn).map tokBytes) (fun _ => []) =
    ofStr "p1&^(q|_r)->{x,y,true};BARx" from by rw [ofStr_ofList]; decide +kernel] at this
-- redundant parentheses around every sub-term at depth 3; a blank, nothing, tab CR LF, nothing, in
-- turn, between the tokens
def exDeco : Deco := fun p => if p.length = 3 then 1 else 0
def exLay2 : Layout := fun i => if i % 4 = 0 then [32] else if i % 4 = 2 then [9, 13, 10] else []
theorem exLay2_blank : blankLay exLay2 := by
  intro i; unfold exLay2; split
  · rfl
  · split <;> rfl
example : parseBytes (ofStr " (p1\t\r\n)& (^\t\r\n(q |_r\t\r\n)) ->\t\r\n{x ,y\t\r\n,true };\t\r\nBARx") =
    .ok (.ok exSyn.toSFB []) := by
  have := parseBytes_render exDeco exSyn exLay2 (by decide +kernel) exLay2_blank (by decide +kernel)
  rwa [show renderBytes ((renderP exDeco exSyn).map tokBytes) exLay2 =
    ofStr " (p1\t\r\n)& (^\t\r\n(q |_r\t\r\n)) ->\t\r\n{x ,y\t\r\n,true };\t\r\nBARx" from by rw [ofStr_ofList]; decide +kernel] at this

-- what `wfIdent` excludes: the text is not read back as one token
example : wfIdent (ofStr "1a") = false := by
  repeat rw [ofStr_ofList]
  decide +kernel
example : lexRaw (ofStr "1a") = .ok [ofStr "1", ofStr "a"] := by
  repeat rw [ofStr_ofList]
  decide +kernel          -- a number, then a name
example : wfIdent (ofStr "a-b") = false := by
  repeat rw [ofStr_ofList]
  decide +kernel
example : lexRaw (ofStr "a-b") = .ok [ofStr "a", ofStr "-", ofStr "b"] := by
  repeat rw [ofStr_ofList]
  decide +kernel
example : wfIdent (ofStr "a.b") = false := by
  repeat rw [ofStr_ofList]
  decide +kernel
example : lexRaw (ofStr "a.b") = .ok [ofStr "a", ofStr ".", ofStr "b"] := by
  repeat rw [ofStr_ofList]
  decide +kernel
example : lex (ofStr "caf\u00e9") = .error "unmodelled" := by
  repeat rw [ofStr_ofList]
  decide +kernel
-- two identifiers need a separator (`sep_required`), an identifier and a punctuation character do not
example : lexRaw (ofStr "ab") = .ok [ofStr "ab"] := by
  repeat rw [ofStr_ofList]
  decide +kernel
example : lexRaw (ofStr "a&b") = .ok [ofStr "a", ofStr "&", ofStr "b"] := by
  repeat rw [ofStr_ofList]
  decide +kernel
-- `true`, `false`, `not` are ordinary names (bf has no syntax for constants); the Go keywords are
-- identifiers for the scanner but `token.Lookup` refuses them inside braces (and only there).
-- (`wfName "BAR"` is false only because `GS.BfRender` writes the token `|` as the string `BAR`;
-- the lexer itself reads the identifier `BAR` as a name like any other.)
example : wfName "true" = true ∧ wfName "not" = true ∧ wfName "_" = true := by decide +kernel
example : wfIdent (ofStr "func") = true ∧ wfName "func" = false := by
  repeat rw [ofStr_ofList]
  decide +kernel
example : lex (ofStr "BAR | BARx") = .ok ["v21119314", "BAR", "v5406544504"] := by
  repeat rw [ofStr_ofList]
  decide +kernel
example : lex (ofStr "{a, func}") = .ok ["{", "v353", ",", "k10", "}"] := by
  repeat rw [ofStr_ofList]
  decide +kernel
example : parse ["{", "v353", ",", "k10", "}"] = .err := by with_unfolding_all rfl
example : lex (ofStr "{a, fun}") = .ok ["{", "v353", ",", "v23491950", "}"] := by
  repeat rw [ofStr_ofList]
  decide +kernel
example : lex (ofStr "func & a") = .ok ["k10", "&", "v353"] := by
  repeat rw [ofStr_ofList]
  decide +kernel
-- any token text that is no punctuation is a name for bf.Parse: numbers, quoted strings, `.`, …
-- (`12 & "a b" | 0x1p-2 | {1, 'c'}` is accepted by bf.Parse)
example : lex (ofStr "12 & \"a b\" | 0x1p-2 | {1, 'c'}") =
    .ok ["v78130", "&", "v1247170028066", "BAR", "v334767760354610", "BAR", "{", "v305", ",", "v19358503", "}"] := by
  rw [ofStr_ofList]
  decide +kernel
example : code (ofStr "12") = 78130 ∧ code (ofStr "\"a b\"") = 1247170028066 := by
  repeat rw [ofStr_ofList]
  decide +kernel
-- lexical errors of text/scanner are printed and ignored: an unterminated string is a name, an
-- unterminated comment ends the text
example : lex (ofStr "a & \"bc") = .ok ["v353", "&", "v19030627"] := by
  repeat rw [ofStr_ofList]
  decide +kernel
example : lex (ofStr "a /* & ") = .ok ["v353"] := by
  repeat rw [ofStr_ofList]
  decide +kernel
example : lex (ofStr "a & // b") = .ok ["v353", "&"] := by
  repeat rw [ofStr_ofList]
  decide +kernel
example : parseBytes (ofStr "") = .ok .err := rfl

#print axioms lexRaw_render
#print axioms lex_render
#print axioms lex_renderP
#print axioms parseBytes_render
#print axioms lex_total
#print axioms sep_required
#print axioms no_sep_needed
#print axioms sepOk_of_spaced
#print axioms code_injective

end GS.BfLex
