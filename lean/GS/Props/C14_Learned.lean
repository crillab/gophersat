import GS.Props.C14_PbSet
import GS.Props.C14_SimplifyPB
/-!
# C14 — end-to-end statement over the mirrors

`cuttingPlanes` returns `pb.clause().SimplifyPB()` where `pb` was obtained from problem
constraints by `roundToOne` and `clash`. `pb.clause()` lists the non-zero positions
(`PbSet.termsFrom`) and `NewPBClause` sorts them (an unspecified permutation `ts`).
For every such permutation, whatever `SimplifyPB` returns is a consequence of the problem.
-/
namespace GS

theorem termsFrom_weight_pos (k : Nat) (ws : List Int) : ∀ t ∈ PbSet.termsFrom k ws, 0 < t.1 := by
  induction ws generalizing k with
  | nil => simp [PbSet.termsFrom]
  | cons w ws ih =>
    rw [PbSet.termsFrom]
    by_cases h0 : w = 0
    · rw [if_pos h0]; exact ih (k+1)
    · rw [if_neg h0]
      intro t ht
      rcases List.mem_cons.mp ht with rfl | ht
      · exact iabs_pos h0
      · exact ih (k+1) t ht

theorem derivable_terms_hold {prob : List PbSet} {q : PbSet} (hd : Derivable prob q)
    {ts : List (Int × Int)} (hperm : ts.Perm (PbSet.termsFrom 0 q.weights))
    {a : Asg} (ha : ∀ p ∈ prob, p.holds a = true) :
    (∀ t ∈ ts, 0 ≤ t.1) ∧ Lin.holds a ⟨ts, q.card⟩ = true := by
  refine ⟨fun t ht => Int.le_of_lt (termsFrom_weight_pos 0 q.weights t (hperm.mem_iff.mp ht)), ?_⟩
  have hq := derivation_sound a prob q hd ha
  rw [← toLin_holds] at hq
  show decide (q.card ≤ lhs a ts) = true
  rw [lhs_perm a hperm]
  exact hq

/-- **C14, final step.** If `q` is derivable from `prob` and `ts` is any ordering of the terms
    of `q`, then in every model of `prob`: the units returned by `SimplifyPB` are true and the
    returned learned constraint holds. -/
theorem learned_sound (prob : List PbSet) (q : PbSet) (hd : Derivable prob q)
    (ts : List (Int × Int)) (hperm : ts.Perm (PbSet.termsFrom 0 q.weights))
    (units : List Int) (rest : Option (List (Int × Int) × Int))
    (h : simplifyTerms ts q.card = .done units rest)
    (a : Asg) (ha : ∀ p ∈ prob, p.holds a = true) :
    (∀ u ∈ units, litTrue a u = true) ∧ (∀ r, rest = some r → Lin.holds a ⟨r.1, r.2⟩ = true) := by
  obtain ⟨hw, hq⟩ := derivable_terms_hold hd hperm ha
  exact (simplify_equiv ts q.card hw units rest h a).mp hq

/-- **C14, final step, `ok = false`.** If `SimplifyPB` reports `ok = false` (the solver then
    answers UNSAT), the problem has no model. -/
theorem learned_unsat_sound (prob : List PbSet) (q : PbSet) (hd : Derivable prob q)
    (ts : List (Int × Int)) (hperm : ts.Perm (PbSet.termsFrom 0 q.weights))
    (h : simplifyTerms ts q.card = .unsat) (a : Asg) : ¬ ∀ p ∈ prob, p.holds a = true := by
  intro ha
  obtain ⟨hw, hq⟩ := derivable_terms_hold hd hperm ha
  rw [simplify_unsat ts q.card hw h a] at hq
  cases hq

/-- the learned `x2 ≥ 1` of the example derivation: `SimplifyPB` turns it into the unit `x2`. -/
example : simplifyTerms (PbSet.termsFrom 0 [0, 1]) 1 = .done [2] none := by decide

end GS
