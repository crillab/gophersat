import GS.Props.C14_CpLemmas
/-!
# C14 — the control flow of `(*Solver).cuttingPlanes` only composes the verified operations

`GS.Model.CpAnalyze` mirrors the function line by line. Here: under the executable trail
invariant `cpInv`, the pbSet that reaches `pb.clause().SimplifyPB()` is `Derivable` from the
problem/learned constraints `prob` (each `roundToOne` is applied under `roundSafe`, discharged
from "the resolvent is conflicting under the current model" resp. "the reason propagates its
literal"; each `clash` on operands of equal width: `resolve_spec`), hence every answer is a
consequence of `prob`. One iteration under the invariant (`step_ok`): the loop ends (`finish`, or one of
the two UNSAT returns), or it goes on from a state that meets the invariant again; it does not panic,
because some trail literal falsifies a resolvent that is not infeasible.
-/
namespace GS.Cp
open GS

/-- the walk stops at the first literal `e` that falsifies `ws` (there is one); none of the
    literals it passes is falsified in `ws`, so un-assigning them leaves the free weight as it was -/
theorem walk_spec {n : Nat} {prob : List PbSet} {ws : List Int} {rt : List Entry} (lvl : Int)
    {m : List Int} (hok : trailOk n prob rt = true) (hm : m = modelOfR n rt)
    (h : ∃ e ∈ rt, falsifies ws e.lit = true) :
    ∃ lw pass e rest, walk ws lvl m rt = some (lw, modelOfR n (e :: rest), e :: rest) ∧
      rt = pass ++ e :: rest ∧ falsifies ws e.lit = true ∧
      freeSum (modelOfR n (e :: rest)) (fun _ => false) 0 ws = freeSum m (fun _ => false) 0 ws := by
  induction rt generalizing lvl m with
  | nil => obtain ⟨_, he, _⟩ := h; cases he
  | cons x xs ih =>
    rw [walk]
    by_cases hx : falsifies ws x.lit = true
    · rw [if_pos hx, hm]; exact ⟨lvl, [], x, xs, rfl, rfl, hx, rfl⟩
    · obtain ⟨hxok, hrest⟩ := trailOk_cons hok
      obtain ⟨e, he, hf⟩ := h
      have hm' : m.set (varIdx x.lit) 0 = modelOfR n xs := by
        rw [hm]; exact modelOfR_pop n x xs hxok.dist
      obtain ⟨lw, pass, e', rest, hw, hsplit, hf', hfs⟩ := ih _ hrest hm'
        ⟨e, (List.mem_cons.mp he).resolve_left fun h => hx (h ▸ hf), hf⟩
      rw [if_neg hx, hw, hsplit]
      refine ⟨lw, x :: pass, e', rest, rfl, rfl, hf', hfs.trans ?_⟩
      apply freeSum_set_zero
      intro i hi; rw [Nat.zero_add] at hi; subst hi
      apply notFalsifies_nonFalsified ws m x hxok.lev1 _ (by simpa using hx)
      rw [hm]; exact modelOfR_head xs hxok.litn

structure LoopInv (n : Nat) (prob : List PbSet) (pb : PbSet) (lvl : Int) (m : List Int)
    (rt : List Entry) : Prop where
  width : ∀ p ∈ prob, p.weights.length = n
  /-- the resolvent is a consequence of the problem … -/
  der : Derivable prob pb
  /-- … that is falsified under the current (partly zeroed) model -/
  confl : freeSum m (fun _ => false) 0 pb.weights < pb.card
  model : m = modelOfR n rt
  trail : trailOk n prob rt = true
  lvls : ∀ e ∈ rt, (e.level : Int) ≤ lvl

theorem LoopInv.trailModel {n : Nat} {prob : List PbSet} {pb : PbSet} {lvl : Int} {m : List Int}
    {rt : List Entry} (I : LoopInv n prob pb lvl m rt) : TrailModel n prob m rt :=
  ⟨I.model, I.trail⟩

theorem pbOf_card (n : Nat) (c : Lin) : (pbOf n c).card = c.degree := rfl

theorem sumAbs_eq : ∀ (ws : List Int) (k : Nat), sumAbs ws = sumPos (fun _ w => iabs w) k ws
  | [], _ => rfl
  | _ :: ws, k => by rw [sumAbs, sumAbs_eq ws (k+1)]; rfl

/-- why the inner walk does not run off the trail (`s.trail[ptr]` with `ptr < 0`) -/
theorem exists_falsifier {n : Nat} {prob : List PbSet} {pb : PbSet} {lvl : Int} {m : List Int}
    {rt : List Entry} (I : LoopInv n prob pb lvl m rt) (hinf : ¬ infeasible pb = true) :
    ∃ e ∈ rt, falsifies pb.weights e.lit = true := by
  apply Classical.byContradiction
  intro hn
  have hall : ∀ i, pb.weights.getD i 0 = 0 ∨ nonFalsified m (0+i) (pb.weights.getD i 0) := by
    intro i
    rw [Nat.zero_add]
    exact (I.trailModel.counted_or pb.weights i).resolve_right fun ⟨e, he, _, hf⟩ => hn ⟨e, he, hf⟩
  have h1 : freeSum m (fun _ => false) 0 pb.weights = sumAbs pb.weights := by
    rw [freeSum_eq, sumAbs_eq _ 0]
    exact sumPos_congr _ 0 fun i => selW_counted (hall i)
  have h2 := I.confl
  unfold infeasible at hinf
  simp only [decide_eq_true_eq] at hinf
  omega

/-- the body of the loop once the walk has stopped at `e`: round the resolvent on the variable of
    `e` and, when `e` was propagated, add its reason rounded on the same variable -/
def Resolve (n : Nat) (pb : PbSet) (m : List Int) (e : Entry) (pb' : PbSet) : Prop :=
  ∃ pb1, pb.roundToOne m (varIdx e.lit) = some pb1 ∧
    ((e.reason = none ∧ pb' = pb1) ∨
     ∃ r pb2, e.reason = some r ∧ (pbOf n r).roundToOne m (varIdx e.lit) = some pb2 ∧
       pb' = pb1.clash pb2)

/-- **The resolution step.** From a derivable resolvent that is conflicting under the model of
    `e :: rest` and falsified by `e`, it makes a derivable conflicting one; when `e` was propagated
    its variable does not occur in it. -/
theorem resolve_spec {n : Nat} {prob : List PbSet} {pb : PbSet} {m : List Int} {e : Entry}
    {rest : List Entry} {pb' : PbSet} (hw : ∀ p ∈ prob, p.weights.length = n)
    (hder : Derivable prob pb) (hc : freeSum m (fun _ => false) 0 pb.weights < pb.card)
    (he : EntryOk n prob e rest) (hm : m = modelOfR n (e :: rest))
    (hf : falsifies pb.weights e.lit = true) (h : Resolve n pb m e pb') :
    Derivable prob pb' ∧ freeSum m (fun _ => false) 0 pb'.weights < pb'.card ∧
      (e.reason = none ∧ falsifies pb'.weights e.lit = true ∨
       pb'.weights.getD (varIdx e.lit) 0 = 0) := by
  obtain ⟨pb1, hr1, hcase⟩ := h
  have hder1 : Derivable prob pb1 := Derivable.round m _ hder (roundSafe_of_conflict pb m _ hc) hr1
  have hc1 := round_conflict pb pb1 m _ hc hr1
  have hf1 := round_falsifies pb pb1 m e.lit hr1 hf
  rcases hcase with ⟨hreason, rfl⟩ | ⟨r, pb2, hreason, hr2, rfl⟩
  · exact ⟨hder1, hc1, Or.inl ⟨hreason, hf1⟩⟩
  · have hp2 : freeSum m (fun i => i == varIdx e.lit) 0 (pbOf n r).weights < (pbOf n r).card := by
      rw [hm]; simp only [modelOfR]
      rw [freeSum_set_excl, pbOf_card]
      exact he.rprop r hreason
    have hder2 : Derivable prob pb2 :=
      Derivable.round m _ (Derivable.ax (he.rmem r hreason)) (roundSafe_of_propagating _ m _ hp2) hr2
    have hlen : pb1.weights.length = pb2.weights.length := by
      rw [derivable_length prob n hw pb1 hder1, derivable_length prob n hw pb2 hder2]
    refine ⟨Derivable.clash hder1 hder2 hlen, ?_, Or.inr ?_⟩
    · exact clash_conflict pb1 pb2 m _ hlen hc1 (round_propagating _ pb2 m _ hp2 hr2)
        (by rw [round_locked _ pb2 m _ hr2]; decide)
    · -- weight `∓1` in the rounded resolvent (falsified by `e.lit`), `±1` in the rounded reason
      exact clash_cancel hlen (round_locked pb pb1 m _ hr1) (round_locked _ pb2 m _ hr2)
        ((falsifies_iff.mp hf1).2.trans
          ((he.rsign r hreason).2.symm.trans (round_sign_at _ pb2 m _ hr2).2.symm))

/-- what `step` is under the invariant. `done`: the loop test failed and `finish` ran, or one of the
    two `return nil, nil, -1`. `next`: the walk stopped at the first literal `e` that falsifies the
    resolvent, the level became that of `e`, the resolution step was taken at `e`, and the
    invariant holds again. There is no third case: the Go function does not panic inside the loop. -/
def StepOk (n : Nat) (prob : List PbSet) (pb : PbSet) (lvl : Int) (m : List Int) (rt : List Entry) :
    Step → Prop
  | .done o =>
    (∃ l, onlyFalsified pb.weights m rt lvl = some l ∧ o = finish pb m l) ∨
    (o = ⟨.unsat, none⟩ ∧ (lvl = 1 ∨ infeasible pb = true))
  | .next pb' lvl' m' rt' =>
    LoopInv n prob pb' lvl' m' rt' ∧
    ∃ pass e rest, rt = pass ++ e :: rest ∧ rt' = e :: rest ∧ lvl' = (e.level : Int) ∧
      falsifies pb.weights e.lit = true ∧
      (e.reason = none ∧ falsifies pb'.weights e.lit = true ∨
       pb'.weights.getD (varIdx e.lit) 0 = 0)

theorem step_ok {n : Nat} {prob : List PbSet} {pb : PbSet} {lvl : Int} {m : List Int}
    {rt : List Entry} (I : LoopInv n prob pb lvl m rt) :
    StepOk n prob pb lvl m rt (step n pb lvl m rt) := by
  unfold step
  cases hof : onlyFalsified pb.weights m rt lvl with
  | some l => exact Or.inl ⟨l, hof, rfl⟩
  | none =>
    simp only []
    by_cases h1 : lvl = 1
    · rw [if_pos h1]; exact Or.inr ⟨rfl, Or.inl h1⟩
    rw [if_neg h1]
    by_cases h2 : infeasible pb = true
    · rw [if_pos h2]; exact Or.inr ⟨rfl, Or.inr h2⟩
    rw [if_neg h2]
    -- a trail literal falsifies the resolvent (else it would be infeasible): no `s.trail[-1]`
    obtain ⟨lw, pass, e, rest, hwalk, hsplit, hf, hfs⟩ :=
      walk_spec lvl I.trail I.model (exists_falsifier I h2)
    have htr : trailOk n prob (e :: rest) = true := trailOk_suffix pass (hsplit ▸ I.trail)
    obtain ⟨he, _⟩ := trailOk_cons htr
    have hlvl : iabs (modelAt (modelOfR n (e :: rest)) (varIdx e.lit)) = (e.level : Int) := by
      rw [modelOfR_head rest he.litn, iabs_signedLvl]
    -- the weights divided by are not 0: `e` falsifies the resolvent, its reason contains it
    obtain ⟨pb1, hr1⟩ :=
      roundToOne_isSome pb (modelOfR n (e :: rest)) (varIdx e.lit) (falsifies_iff.mp hf).1
    have key : ∀ pb', Resolve n pb (modelOfR n (e :: rest)) e pb' →
        StepOk n prob pb lvl m rt (.next pb' e.level (modelOfR n (e :: rest)) (e :: rest)) := by
      intro pb' hres
      obtain ⟨hder, hc, hcase⟩ :=
        resolve_spec I.width I.der (by rw [hfs]; exact I.confl) he rfl hf hres
      refine ⟨⟨I.width, hder, hc, rfl, htr, fun x hx => ?_⟩, pass, e, rest, hsplit, rfl, rfl, hf, hcase⟩
      rcases List.mem_cons.mp hx with rfl | hx
      · exact Int.le_refl _
      · exact Int.ofNat_le.mpr (he.mono x hx)
    rw [hwalk]
    simp only [hr1, hlvl]
    cases hreason : e.reason with
    | none => exact key _ ⟨pb1, hr1, Or.inl ⟨hreason, rfl⟩⟩
    | some r =>
      obtain ⟨pb2, hr2⟩ :=
        roundToOne_isSome (pbOf n r) (modelOfR n (e :: rest)) (varIdx e.lit) (he.rsign r hreason).1
      simp only [hr2]
      exact key _ ⟨pb1, hr1, Or.inr ⟨r, pb2, hreason, hr2, rfl⟩⟩

section
variable {n : Nat} {prob : List PbSet} {pb : PbSet} {lvl : Int} {m : List Int} {rt : List Entry}

theorem step_next_spec {pb' : PbSet} {lvl' : Int} {m' : List Int} {rt' : List Entry}
    (I : LoopInv n prob pb lvl m rt) (h : step n pb lvl m rt = .next pb' lvl' m' rt') :
    StepOk n prob pb lvl m rt (.next pb' lvl' m' rt') :=
  h ▸ step_ok I

theorem step_done_spec {o : Out} (I : LoopInv n prob pb lvl m rt)
    (h : step n pb lvl m rt = .done o) : StepOk n prob pb lvl m rt (.done o) :=
  h ▸ step_ok I

end

/-- the `SimplifyPB` call of `finish` on the raw pbSet `q` -/
def simpOf (q : PbSet) : SimpOut := simplifyTerms (sortTerms (clauseTerms 0 q.weights)) q.card

/-- how the answer of `finish` is read off `SimplifyPB` of the raw pbSet -/
structure FinishSpec (pb : PbSet) (m : List Int) (l : Int) (o : Out) : Prop where
  raw : ∀ q, o.raw = some q → pb.roundToOne m (varIdx (-l)) = some q
  unsat : o.res = .unsat → ∃ q, o.raw = some q ∧ simpOf q = .unsat
  units : ∀ ls, o.res = .units ls → ∃ q rest, o.raw = some q ∧ simpOf q = .done ls rest ∧
    ∃ u ∈ ls, newFact m u = true
  learned : ∀ c u b, o.res = .learned c u b → ∃ q us, o.raw = some q ∧ simpOf q = .done us (some c) ∧
    u = -l ∧ b = (backtrackLevel pb.weights m (-l)).toNat ∧ ∀ x ∈ us, newFact m x = false
  learnedNil : ∀ u b, o.res = .learnedNil u b → ∃ q us, o.raw = some q ∧ simpOf q = .done us none ∧
    u = -l ∧ ∀ x ∈ us, newFact m x = false

theorem FinishSpec.of_stuck {pb : PbSet} {m : List Int} {l : Int} {w : Stuck} {r : Option PbSet}
    (h : ∀ q, r = some q → pb.roundToOne m (varIdx (-l)) = some q) :
    FinishSpec pb m l ⟨.stuck w, r⟩ :=
  ⟨h, nofun, nofun, nofun, nofun⟩

theorem finish_spec (pb : PbSet) (m : List Int) (l : Int) : FinishSpec pb m l (finish pb m l) := by
  have none_new {us : List Int} (h : ¬ us.any (newFact m) = true) : ∀ x ∈ us, newFact m x = false :=
    fun x hx => Bool.eq_false_iff.mpr fun hn => h (List.any_eq_true.mpr ⟨x, hx, hn⟩)
  -- the cases in the order of the branches of `finish`: `divZero`, `card`, `unsat`, `index` (the `panic` of
  -- `simplifyTerms`), `units`, `learned`, `learnedNil`
  fun_cases finish pb m l with
  | case1 => exact .of_stuck nofun
  | case2 _ q hq => exact .of_stuck fun _ h => Option.some.inj h ▸ hq
  | case3 _ q hq _ hs =>
    exact ⟨fun _ h => Option.some.inj h ▸ hq, fun _ => ⟨q, rfl, hs⟩, nofun, nofun, nofun⟩
  | case4 _ q hq => exact .of_stuck fun _ h => Option.some.inj h ▸ hq
  | case5 _ q hq _ us rest hs hany =>
    exact ⟨fun _ h => Option.some.inj h ▸ hq, nofun,
      fun _ h => by cases h; exact ⟨q, rest, rfl, hs, List.any_eq_true.mp hany⟩, nofun, nofun⟩
  | case6 _ _ q hq _ us hany c hs =>
    exact ⟨fun _ h => Option.some.inj h ▸ hq, nofun, nofun,
      fun _ _ _ h => by cases h; exact ⟨q, us, rfl, hs, rfl, rfl, none_new hany⟩, nofun⟩
  | case7 _ _ q hq _ us hany hs =>
    exact ⟨fun _ h => Option.some.inj h ▸ hq, nofun, nofun, nofun,
      fun _ _ h => by cases h; exact ⟨q, us, rfl, hs, rfl, none_new hany⟩⟩

def NoModel (prob : List PbSet) : Prop := ∀ a : Asg, ¬ ∀ p ∈ prob, p.holds a = true

def AgreeAt (a : Asg) (m : List Int) (j : Nat) : Prop :=
  (0 < modelAt m j → a (j+1) = true) ∧ (modelAt m j < 0 → a (j+1) = false)

theorem AgreeAt.sel {a : Asg} {m : List Int} {j : Nat} (hag : AgreeAt a m j) {excl : Nat → Bool}
    (he : excl j = false) {p : Bool} (h : asgSel a j p) : modSel m excl j p := by
  refine ⟨he, ?_⟩
  rcases Int.lt_trichotomy (modelAt m j) 0 with hm | hm | hm
  · exact Or.inr (by rw [← h, hag.2 hm]; exact decide_eq_false (by omega))
  · exact Or.inl hm
  · exact Or.inr (by rw [← h, hag.1 hm]; exact decide_eq_true hm)

theorem lhsFrom_le_freeSum (a : Asg) (m : List Int) (hag : ∀ j, AgreeAt a m j) (k : Nat)
    (ws : List Int) : PbSet.lhsFrom a k ws ≤ freeSum m (fun _ => false) k ws := by
  rw [lhsFrom_eq, freeSum_eq]
  exact sumPos_le ws k fun _ => selW_mono ((hag _).sel rfl)

theorem lhsFrom_le_freeSum_excl (a : Asg) (m : List Int) (v : Nat) (hag : ∀ j, j ≠ v → AgreeAt a m j)
    (ws : List Int) :
    PbSet.lhsFrom a 0 ws ≤ freeSum m (fun i => i == v) 0 ws + selW (asgSel a) v (ws.getD v 0) := by
  rw [lhsFrom_eq, freeSum_eq]
  exact sumPos_le_add_at (g := selW (modSel m fun i => i == v)) v (fun w => selW_nonneg ..)
    (selW_zero ..) ws
    fun i hi => selW_mono ((hag _ hi).sel (excl := fun i => i == v) (beq_eq_false_iff_ne.mpr hi))

/-- a constraint that holds under `a` and propagates its literal at `v` under a model that `a` agrees with
    elsewhere makes that literal true under `a` -/
theorem forced (a : Asg) (m : List Int) (v : Nat) (c : PbSet) (lit : Int)
    (hag : ∀ j, j ≠ v → AgreeAt a m j) (hc : c.holds a = true)
    (hp : freeSum m (fun i => i == v) 0 c.weights < c.card)
    (hs : 0 < c.weights.getD v 0 ↔ 0 < lit) : a (v+1) = decide (0 < lit) := by
  rw [holds_iff] at hc
  have h1 := lhsFrom_le_freeSum_excl a m v hag c.weights
  have hpos : 0 < selW (asgSel a) v (c.weights.getD v 0) := by omega
  -- the literal of `c` at `v` is true under `a`, and it is `lit`
  unfold selW at hpos
  split at hpos
  · rename_i h; exact h.trans (decide_eq_decide.mpr hs)
  · exact absurd hpos (by decide)

theorem unitPb_getD (n : Nat) (l : Int) (i : Nat) :
    (unitPb n l).weights.getD i 0 = if varIdx l = i ∧ i < n then (if l > 0 then 1 else -1) else 0 := by
  unfold unitPb
  simp only [List.getD_eq_getElem?_getD, List.getElem?_set, List.length_replicate,
    List.getElem?_replicate]
  by_cases h1 : varIdx l = i
  · subst h1
    by_cases h2 : varIdx l < n
    · simp [h2]
    · simp [h2]
  · by_cases h2 : i < n
    · simp [h1, h2]
    · simp [h1, h2]

/-- every model of `prob` agrees with a trail all of whose literals are at level 1 -/
theorem trail_true (n : Nat) (prob : List PbSet) (a : Asg) (ha : ∀ p ∈ prob, p.holds a = true) :
    ∀ rt : List Entry, trailOk n prob rt = true → (∀ e ∈ rt, e.level ≤ 1) →
      ∀ j, AgreeAt a (modelOfR n rt) j := by
  intro rt
  induction rt with
  | nil =>
    intro _ _ j
    have : modelAt (modelOfR n []) j = 0 := modelOfR_notin n [] j (by simp)
    constructor <;> intro h <;> omega
  | cons e rest ih =>
    intro hok hl
    obtain ⟨he, hrest⟩ := trailOk_cons hok
    have ih := ih hrest (fun x hx => hl x (by simp [hx]))
    have hlev : e.level = 1 := by have := hl e (by simp); have := he.lev1; omega
    have hlit : a (varIdx e.lit + 1) = decide (0 < e.lit) := by
      cases hr : e.reason with
      | none =>
        have hmem := he.fact hr hlev
        apply forced a (modelOfR n rest) (varIdx e.lit) (unitPb n e.lit) e.lit (fun j _ => ih j)
          (ha _ hmem)
        · rw [freeSum_excl_zero]
          · show (0:Int) < 1
            decide
          · intro i hi
            rw [unitPb_getD, if_neg]
            intro h; exact hi (by omega)
        · rw [unitPb_getD, if_pos ⟨rfl, he.litn⟩]
          split <;> omega
      | some r =>
        apply forced a (modelOfR n rest) (varIdx e.lit) (pbOf n r) e.lit (fun j _ => ih j)
          (ha _ (he.rmem r hr))
        · exact he.rprop r hr
        · exact (he.rsign r hr).2
    intro j
    unfold AgreeAt
    by_cases hj : j = varIdx e.lit
    · subst hj
      rw [modelOfR_head rest he.litn, hlit]
      have hs := signedLvl_pos e he.lev1
      exact ⟨fun h => decide_eq_true (hs.mp h),
        fun h => decide_eq_false fun h' => by have := hs.mpr h'; omega⟩
    · simp only [modelOfR]
      rw [modelAt_set_ne _ _ _ _ hj]; exact ih j

theorem lhsFrom_le_sumAbs (a : Asg) (k : Nat) (ws : List Int) : PbSet.lhsFrom a k ws ≤ sumAbs ws := by
  rw [lhsFrom_eq, sumAbs_eq ws k]
  exact sumPos_le ws k fun _ => selW_le_iabs _ _ _

/-- the two `return nil, nil, -1` inside the loop are justified -/
theorem loop_unsat_sound {n : Nat} {prob : List PbSet} {pb : PbSet} {lvl : Int} {m : List Int}
    {rt : List Entry} (I : LoopInv n prob pb lvl m rt) (h : lvl = 1 ∨ infeasible pb = true) :
    NoModel prob := by
  intro a ha
  have hpb := derivation_sound a prob pb I.der ha
  rw [holds_iff] at hpb
  rcases h with h | h
  · subst h
    have hag := trail_true n prob a ha rt I.trail (fun e he => by have := I.lvls e he; omega)
    have := lhsFrom_le_freeSum a m (by rw [I.model]; exact hag) 0 pb.weights
    have := I.confl
    omega
  · unfold infeasible at h
    simp only [decide_eq_true_eq] at h
    have := lhsFrom_le_sumAbs a 0 pb.weights
    omega

/-- what the answer theorems use of an `Out` of `loop`: `FinishSpec` without `newFact` and `btLvl`, and with
    `raw = none` allowed for the two UNSAT returns inside the loop -/
structure Reads (o : Out) : Prop where
  unsat : o.res = .unsat → o.raw = none ∨ ∃ q, o.raw = some q ∧ simpOf q = .unsat
  units : ∀ ls, o.res = .units ls → ∃ q rest, o.raw = some q ∧ simpOf q = .done ls rest
  learned : ∀ c u b, o.res = .learned c u b → ∃ q us, o.raw = some q ∧ simpOf q = .done us (some c)

structure Sound (prob : List PbSet) (o : Out) : Prop where
  der : ∀ q, o.raw = some q → Derivable prob q
  reads : Reads o
  unsat : o.res = .unsat → o.raw = none → NoModel prob

theorem Sound.of_raw_none {prob : List PbSet} {r : Result} (hu : r = .unsat → NoModel prob)
    (h1 : ∀ ls, r ≠ .units ls) (h2 : ∀ c u b, r ≠ .learned c u b) : Sound prob ⟨r, none⟩ :=
  ⟨nofun, ⟨fun _ => Or.inl rfl, fun ls h => absurd h (h1 ls), fun c u b h => absurd h (h2 c u b)⟩,
    fun h _ => hu h⟩

/-- `loop` runs `step` from a state that meets `P fuel` until it answers `.done`, or until the fuel
    is used up; `P` (which may count the fuel left) is carried along the `.next` steps -/
theorem loop_run {n : Nat} (P : Nat → PbSet → Int → List Int → List Entry → Prop)
    (hP : ∀ {k pb lvl m rt pb' lvl' m' rt'}, P (k+1) pb lvl m rt →
      step n pb lvl m rt = .next pb' lvl' m' rt' → P k pb' lvl' m' rt') :
    ∀ (fuel : Nat) (pb : PbSet) (lvl : Int) (m : List Int) (rt : List Entry), P fuel pb lvl m rt →
      ∃ k pb' lvl' m' rt', P k pb' lvl' m' rt' ∧
        (step n pb' lvl' m' rt' = .done (loop n fuel pb lvl m rt) ∨
         k = 0 ∧ loop n fuel pb lvl m rt = ⟨.stuck .fuel, none⟩) := by
  intro fuel
  induction fuel with
  | zero => exact fun pb lvl m rt h => ⟨0, pb, lvl, m, rt, h, Or.inr ⟨rfl, rfl⟩⟩
  | succ fuel ih =>
    intro pb lvl m rt h
    unfold loop
    cases hs : step n pb lvl m rt with
    | done o => exact ⟨_, pb, lvl, m, rt, h, Or.inl hs⟩
    | next pb' lvl' m' rt' => exact ih _ _ _ _ (hP h hs)

theorem loop_sound {n : Nat} {prob : List PbSet} {fuel : Nat} {pb : PbSet} {lvl : Int} {m : List Int}
    {rt : List Entry} (I : LoopInv n prob pb lvl m rt) : Sound prob (loop n fuel pb lvl m rt) := by
  obtain ⟨_, pb', _, m', _, I', hs | ⟨_, he⟩⟩ :=
    loop_run (fun _ => LoopInv n prob) (fun I hs => (step_next_spec I hs).1) fuel _ _ _ _ I
  · rcases step_done_spec I' hs with ⟨l, _, he⟩ | ⟨he, hun⟩ <;> rw [he]
    · have S := finish_spec pb' m' l
      refine ⟨?_, ⟨?_, ?_, ?_⟩, ?_⟩
      · intro q hq
        exact Derivable.round m' _ I'.der (roundSafe_of_conflict pb' m' _ I'.confl) (S.raw q hq)
      · intro h; exact Or.inr (S.unsat h)
      · intro ls h
        obtain ⟨q, rest, h1, h2, _⟩ := S.units ls h
        exact ⟨q, rest, h1, h2⟩
      · intro c u b h
        obtain ⟨q, us, h1, h2, _⟩ := S.learned c u b h
        exact ⟨q, us, h1, h2⟩
      · intro h hn
        obtain ⟨q, hq, _⟩ := S.unsat h
        rw [hn] at hq; cases hq
    · exact .of_raw_none (fun _ => loop_unsat_sound I' hun) nofun nofun
  · rw [he]; exact .of_raw_none nofun nofun nofun

theorem cpInv_loopInv (prob : List PbSet) (s : State) (h : cpInv prob s = true) :
    LoopInv s.n prob (pbOf s.n s.confl) s.lvl (modelOfR s.n s.trail.reverse) s.trail.reverse := by
  unfold cpInv widthOk conflOk lvlOk at h
  simp only [Bool.and_eq_true, List.all_eq_true, beq_iff_eq, List.contains_iff_mem,
    decide_eq_true_eq, freeSumB_eq] at h
  obtain ⟨⟨⟨h1, h2⟩, h3, h4⟩, h5⟩ := h
  exact ⟨h1, Derivable.ax h3, h4, rfl, h2, fun e he => h5 e (List.mem_reverse.mp he)⟩

theorem cpAnalyze_spec (prob : List PbSet) (s : State) (h : cpInv prob s = true) :
    Sound prob (cpAnalyze s) :=
  loop_sound (cpInv_loopInv prob s h)

/-- **C14 (control flow), derivability.** Under the trail invariant, the pbSet that
    `cuttingPlanes` hands to `pb.clause().SimplifyPB()` is obtained from constraints of `prob` by
    `roundToOne` (under its side condition) and `clash` (on equal widths) only. -/
theorem cpAnalyze_derivable (prob : List PbSet) (s : State) (h : cpInv prob s = true)
    (q : PbSet) (hq : (cpAnalyze s).raw = some q) : Derivable prob q :=
  (cpAnalyze_spec prob s h).der q hq

theorem simp_perm (q : PbSet) :
    (sortTerms (clauseTerms 0 q.weights)).Perm (PbSet.termsFrom 0 q.weights) := by
  rw [← clauseTerms_eq]; exact sortTerms_perm _

/-- **C14 (control flow), soundness of the answers.** In every model of `prob`: returned units
    are true, the returned learned constraint holds. -/
theorem cpAnalyze_sound (prob : List PbSet) (s : State) (h : cpInv prob s = true)
    (a : Asg) (ha : ∀ p ∈ prob, p.holds a = true) :
    (∀ ls, (cpAnalyze s).res = .units ls → ∀ u ∈ ls, litTrue a u = true) ∧
    (∀ c u b, (cpAnalyze s).res = .learned c u b → Lin.holds a ⟨c.1, c.2⟩ = true) := by
  have S := cpAnalyze_spec prob s h
  constructor
  · intro ls hl u hu
    obtain ⟨q, rest, hq, hsimp⟩ := S.reads.units ls hl
    exact (learned_sound prob q (S.der q hq) _ (simp_perm q) ls rest hsimp a ha).1 u hu
  · intro c u b hl
    obtain ⟨q, us, hq, hsimp⟩ := S.reads.learned c u b hl
    exact (learned_sound prob q (S.der q hq) _ (simp_perm q) us (some c) hsimp a ha).2 c rfl

/-- **C14 (control flow), UNSAT answers.** `newLvl = -1` is returned only when `prob` has no
    model (top-level conflict, infeasible resolvent, or `SimplifyPB` reporting `ok = false`). -/
theorem cpAnalyze_unsat (prob : List PbSet) (s : State) (h : cpInv prob s = true)
    (hu : (cpAnalyze s).res = .unsat) : NoModel prob := by
  have S := cpAnalyze_spec prob s h
  rcases S.reads.unsat hu with hn | ⟨q, hq, hsimp⟩
  · exact S.unsat hu hn
  · intro a
    exact learned_unsat_sound prob q (S.der q hq) _ (simp_perm q) hsimp a

/-! Asserting literal and progress: `assertingOk` / `progressOk` (`GS.Model.CpAnalyze`) are the
executable forms, which the driver op `cpanalyze_check` evaluates on states dumped from real runs. -/

/-- the statement of `cpAnalyze_asserting` (`GS.Props.C14_CpAsserting`): in the `learned c unit btLvl` case,
    after backjumping to `btLvl` the learned constraint propagates `unit` (or is conflicting): `unit` is
    unbound, occurs in `c` with its sign, and the non-falsified other literals weigh less than the degree -/
def cpAnalyze_asserting_statement : Prop :=
  ∀ (prob : List PbSet) (s : State), cpInv prob s = true → assertingOk s = true

/-- The asserting literal at the level of `finish` alone: the literal returned is the negation of
    the one `onlyFalsified` found, its weight in the raw pbSet is exactly 1, the raw pbSet is still
    falsified under the walked model when the resolvent was, and the units `SimplifyPB` found are
    all already true at level 1 in the walked model. -/
theorem cpAnalyze_asserting_partial (pb : PbSet) (m : List Int) (l : Int) (c : List (Int × Int) × Int)
    (u : Int) (b : Nat) (h : (finish pb m l).res = .learned c u b)
    (hc : freeSum m (fun _ => false) 0 pb.weights < pb.card) :
    u = -l ∧ b = (backtrackLevel pb.weights m (-l)).toNat ∧
    ∃ q us, (finish pb m l).raw = some q ∧ simpOf q = .done us (some c) ∧
      iabs (q.weights.getD (varIdx u) 0) = 1 ∧
      freeSum m (fun _ => false) 0 q.weights < q.card ∧ ∀ x ∈ us, newFact m x = false := by
  obtain ⟨q, us, h1, h2, h3, h4, h5⟩ := (finish_spec pb m l).learned c u b h
  have hr := (finish_spec pb m l).raw q h1
  subst h3
  exact ⟨rfl, h4, q, us, h1, h2, round_locked pb q m _ hr, round_conflict pb q m _ hc hr, h5⟩

/-- the statement of `cpAnalyze_progress` (`GS.Props.C14_CpAsserting`): the answer is never "units that are
    all already true at level 1", with "already true" read in the model *at entry*; the code tests it in the
    model after the walk (`cpAnalyze_progress_partial`) -/
def cpAnalyze_progress_statement : Prop :=
  ∀ (prob : List PbSet) (s : State), cpInv prob s = true → progressOk s = true

/-- What the code guarantees by its own test: when it answers `units ls`, one of the units is not "true at
    level 1" in the model *after the walk* `m` (unbound there, bound at another level, or false);
    when it answers `learned`, every unit found by `SimplifyPB` is true at level 1 in `m`. A unit
    that is true at level 1 at entry but was passed (hence unbound) by the walk counts as new. -/
theorem cpAnalyze_progress_partial (pb : PbSet) (m : List Int) (l : Int) :
    (∀ ls, (finish pb m l).res = .units ls → ∃ u ∈ ls, newFact m u = true) ∧
    (∀ c u b, (finish pb m l).res = .learned c u b →
      ∃ q us, (finish pb m l).raw = some q ∧ simpOf q = .done us (some c) ∧ ∀ x ∈ us, newFact m x = false) := by
  constructor
  · intro ls h
    obtain ⟨_, _, _, _, hu⟩ := (finish_spec pb m l).units ls h
    exact hu
  · intro c u b h
    obtain ⟨q, us, h1, h2, _, _, h5⟩ := (finish_spec pb m l).learned c u b h
    exact ⟨q, us, h1, h2, h5⟩

/-! Concrete states taken from real runs. -/

/-- clause-like run: conflict `x11 + x1 + x5 ≥ 1`, trail `¬x1@2 ¬x11@3 ¬x5@3`, the last one
    propagated by `x11 + ¬x5 ≥ 1`. Go: `learned 2 11 | 1 1 1 1 11 | raw 1 1 1 1 11`. -/
def ex1 : State :=
  ⟨11, 3, ⟨[(1, 11), (1, 1), (1, 5)], 1⟩,
    [⟨-1, 2, none⟩, ⟨-11, 3, none⟩, ⟨-5, 3, some ⟨[(1, 11), (1, -5)], 1⟩⟩]⟩
def ex1prob : List PbSet := [pbOf 11 ⟨[(1, 11), (1, 1), (1, 5)], 1⟩, pbOf 11 ⟨[(1, 11), (1, -5)], 1⟩]

example : cpInv ex1prob ex1 = true := by decide +kernel
example : cpAnalyze ex1 = ⟨.learned ([(1, 1), (1, 11)], 1) 11 2,
    some ⟨[1, 0, 0, 0, 0, 0, 0, 0, 0, 0, 1], 1⟩⟩ := by decide +kernel
example : assertingOk ex1 = true ∧ progressOk ex1 = true ∧ decisionsOk ex1.trail.reverse = true := by decide +kernel

/-- PB run with rounding: conflict `8 x1 + 7 ¬x2 + 6 ¬x5 + 5 x6 + 4 ¬x4 ≥ 13`, trail
    `¬x1@2 ¬x6@3 x5@3`, `x5` propagated by `4 x1 + 2 x6 + x5 ≥ 1`.
    Go: `learned 2 6 | 1 1 1 1 6 | raw 1 2 1 1 6`. -/
def ex2 : State :=
  ⟨6, 3, ⟨[(8, 1), (7, -2), (6, -5), (5, 6), (4, -4)], 13⟩,
    [⟨-1, 2, none⟩, ⟨-6, 3, none⟩, ⟨5, 3, some ⟨[(4, 1), (2, 6), (1, 5)], 1⟩⟩]⟩
def ex2prob : List PbSet :=
  [pbOf 6 ⟨[(8, 1), (7, -2), (6, -5), (5, 6), (4, -4)], 13⟩, pbOf 6 ⟨[(4, 1), (2, 6), (1, 5)], 1⟩]

example : cpInv ex2prob ex2 = true := by decide +kernel
example : cpAnalyze ex2 = ⟨.learned ([(1, 1), (1, 6)], 1) 6 2, some ⟨[2, 0, 0, 0, 0, 1], 1⟩⟩ := by decide +kernel

/-- UNSAT inside the loop: fact `x1@1`, decision `¬x3@2`, `x2@2` and `x8@2` propagated by
    `x1 + x2 + x3 + x8 ≥ 3`, conflict `¬x3 + ¬x8 + ¬x2 ≥ 2`. Go: `unsat`. -/
def ex3 : State :=
  ⟨8, 2, ⟨[(1, -3), (1, -8), (1, -2)], 2⟩,
    [⟨1, 1, none⟩, ⟨-3, 2, none⟩, ⟨2, 2, some ⟨[(1, 1), (1, 2), (1, 3), (1, 8)], 3⟩⟩,
      ⟨8, 2, some ⟨[(1, 1), (1, 2), (1, 3), (1, 8)], 3⟩⟩]⟩
def ex3prob : List PbSet :=
  [pbOf 8 ⟨[(1, -3), (1, -8), (1, -2)], 2⟩, pbOf 8 ⟨[(1, 1), (1, 2), (1, 3), (1, 8)], 3⟩, unitPb 8 1]

example : cpInv ex3prob ex3 = true := by decide +kernel
example : cpAnalyze ex3 = ⟨.unsat, none⟩ := by decide +kernel

/-- A real state in which the walk passes (and unbinds) a top-level literal, `¬x2@1`, and the
    answer is not UNSAT: Go answers `units -12 | raw 1 1 -12`, the refutation of the top-level fact
    `x12` (the caller then answers UNSAT). -/
def ex4 : State :=
  ⟨12, 3, ⟨[(1, 9), (1, 4), (1, -6), (1, -12), (1, 8), (1, -11)], 3⟩,
    [⟨12, 1, none⟩, ⟨-4, 1, some ⟨[(1, -4), (1, -12), (1, -2)], 2⟩⟩,
      ⟨-2, 1, some ⟨[(1, -4), (1, -12), (1, -2)], 2⟩⟩, ⟨7, 2, none⟩, ⟨-6, 3, none⟩,
      ⟨-1, 3, some ⟨[(1, -1), (1, -2), (1, 6)], 2⟩⟩,
      ⟨-9, 3, some ⟨[(1, 6), (1, -12), (1, -2), (1, -9), (1, -8)], 3⟩⟩,
      ⟨-8, 3, some ⟨[(1, 6), (1, -12), (1, -2), (1, -9), (1, -8)], 3⟩⟩]⟩

example : cpAnalyze ex4 = ⟨.units [-12], some ⟨[0, 0, 0, 0, 0, 0, 0, 0, 0, 0, 0, -1], 1⟩⟩ := by decide +kernel

/-- **Finding (distinct variables on the trail, required by `entryOk`).** Real states violate it:
    after an answer `units 1 2` with `x1` already a top-level fact, the caller re-binds every returned unit
    (`unifyLiteral(unit, 1)`), so the trail of the next conflict starts `x1@1 x1@1 x2@1 …`. -/
example : trailOk 2 [unitPb 2 1, unitPb 2 2] [⟨2, 1, none⟩, ⟨1, 1, none⟩, ⟨1, 1, none⟩] = false := by decide +kernel

#print axioms cpAnalyze_derivable
#print axioms cpAnalyze_sound
#print axioms cpAnalyze_unsat
#print axioms cpAnalyze_asserting_partial
#print axioms cpAnalyze_progress_partial

end GS.Cp
