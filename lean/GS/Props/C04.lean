import GS.Check.MaxSatBrute
/-!
# C04 — MaxSAT answers minimise the weight of violated soft constraints

The oracle `bruteMaxSat` that judges every answer of the implementation in the harness is proved to
be exactly the specification, over all inputs with literals in `1..n`, in `GS.Check.MaxSatBrute`
(`bruteMaxSat_none`, `bruteMaxSat_unique`). The theorems about the
encodings built by `maxsat.New` / `ParseWCNF` are in `C04_MaxSat`, `C04_MaxSatNew`, `C04_MaxSatSigned`.
-/
