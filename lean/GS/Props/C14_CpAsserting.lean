import GS.Props.C14_CpAnalyze
/-!
# C14 — `cuttingPlanes`: no panic, termination, asserting literal, progress

On the mirror `GS.Model.CpAnalyze`, with the loop invariant of `GS.Props.C14_CpAnalyze`:

1. `cpAnalyze_fuel`: under `cpInv` and `decisionsOk` the mirror never answers `stuck` — the Go
   function neither indexes out of range, nor divides by zero, nor hits the `NewPBClause` panic, nor
   loops (the fuel `2 * len(trail) + 2` is never exhausted);
2. `cpAnalyze_asserting`: in the `learned c unit btLvl` case, after the backjump to `btLvl` the
   learned constraint propagates `unit` (or is conflicting);
3. `cpAnalyze_progress`: in the `units ls` case one of the units is not already true at level 1 in
   the model at entry.
-/
namespace GS.Cp
open GS

theorem varIdx_neg (l : Int) : varIdx (-l) = varIdx l := by
  unfold varIdx; rw [Int.natAbs_neg]

theorem falsifies_of_round (p q : PbSet) (m : List Int) (v : Nat) (hq : p.roundToOne m v = some q)
    (x : Int) (hf : falsifies q.weights x = true) : falsifies p.weights x = true := by
  obtain ⟨hne, hs⟩ := falsifies_iff.mp hf
  obtain ⟨s1, s2⟩ := round_sign p q m v hq (varIdx x)
  exact falsifies_iff.mpr (by omega)

theorem decisionsOk_suffix : ∀ (xs : List Entry) {ys : List Entry},
    decisionsOk (xs ++ ys) = true → decisionsOk ys = true
  | [], _, h => h
  | _ :: xs, _, h => by
    simp only [List.cons_append, decisionsOk, Bool.and_eq_true] at h
    exact decisionsOk_suffix xs h.2

/-- the literals that falsify `ws` in the run of level-`lvl` literals on top of the trail -/
def falsRun (ws m : List Int) (lvl : Int) (rt : List Entry) : List Int :=
  ((rt.takeWhile (fun e => decide (iabs (modelAt m (varIdx e.lit)) = lvl))).filter
    (fun e => falsifies ws e.lit)).map (·.lit)

/-- the accumulator holds what the scan has found so far: it answers as if that literal came first -/
theorem onlyFalsifiedAux_eq_some (ws m : List Int) (lvl : Int) (l : Int) :
    ∀ (rt : List Entry) (res : Option Int),
      onlyFalsifiedAux ws m lvl res rt = some l ↔ res.toList ++ falsRun ws m lvl rt = [l] := by
  intro rt
  induction rt with
  | nil => intro res; cases res <;> simp [onlyFalsifiedAux, falsRun]
  | cons x rest ih =>
    intro res
    by_cases h1 : iabs (modelAt m (varIdx x.lit)) = lvl
    · by_cases h2 : falsifies ws x.lit = true
      · cases res with
        | some r => simp [onlyFalsifiedAux, falsRun, h1, h2]
        | none => simp [onlyFalsifiedAux, falsRun, h1, h2, ih]
      · simp [onlyFalsifiedAux, falsRun, h1, h2, ih]
    · cases res <;> simp [onlyFalsifiedAux, falsRun, h1]

/-- **what `onlyFalsified` answers under the invariant**: `l` iff `l` is the one literal of level `lvl`
    on the remaining trail that falsifies `ws` (the literals of level `lvl` come first) -/
theorem onlyFalsified_iff {n : Nat} {prob : List PbSet} {lvl : Int} {m : List Int} {rt : List Entry}
    (T : TrailModel n prob m rt) (hl : ∀ e ∈ rt, (e.level : Int) ≤ lvl) (ws : List Int) (l : Int) :
    onlyFalsified ws m rt lvl = some l ↔
      (rt.filter fun e => falsifies ws e.lit && decide ((e.level : Int) = lvl)).map (·.lit) = [l] := by
  have hlv : ∀ e ∈ rt, iabs (modelAt m (varIdx e.lit)) = (e.level : Int) := fun e he => by
    rw [T.modelAt_lit he, iabs_signedLvl]
  have hrun : falsRun ws m lvl rt =
      (rt.filter fun e => falsifies ws e.lit && decide ((e.level : Int) = lvl)).map (·.lit) := by
    unfold falsRun
    rw [takeWhile_eq_filter, List.filter_filter]
    · exact congrArg _ (List.filter_congr fun e he => by rw [hlv e he])
    · refine (trailOk_levels T.trail).imp_of_mem fun {y b} hy hb hle => ?_
      simp only [decide_eq_true_eq, hlv y hy, hlv b hb]
      intro hbl
      have := hl y hy
      omega
  rw [onlyFalsified, onlyFalsifiedAux_eq_some, hrun]
  exact Iff.rfl

theorem onlyFalsified_spec {n : Nat} {prob : List PbSet} {pb : PbSet} {lvl : Int} {m : List Int}
    {rt : List Entry} {l : Int} (I : LoopInv n prob pb lvl m rt)
    (h : onlyFalsified pb.weights m rt lvl = some l) :
    (∃ e ∈ rt, e.lit = l ∧ falsifies pb.weights l = true ∧ (e.level : Int) = lvl) ∧
    ∀ x ∈ rt, (x.level : Int) = lvl → falsifies pb.weights x.lit = true → x.lit = l := by
  have hF := (onlyFalsified_iff I.trailModel I.lvls _ l).mp h
  constructor
  · obtain ⟨e, he, rfl⟩ := List.mem_map.mp (hF ▸ List.mem_cons_self (a := l) (l := []))
    obtain ⟨he1, he2⟩ := List.mem_filter.mp he
    rw [Bool.and_eq_true, decide_eq_true_eq] at he2
    exact ⟨e, he1, rfl, he2.1, he2.2⟩
  · intro x hx hxl hxf
    have : x.lit ∈ [l] := hF ▸ List.mem_map.mpr
      ⟨x, List.mem_filter.mpr ⟨hx, by rw [hxf, decide_eq_true hxl]; rfl⟩, rfl⟩
    exact List.mem_singleton.mp this

theorem finish_ok (pb : PbSet) (m : List Int) (l : Int)
    (hc : freeSum m (fun _ => false) 0 pb.weights < pb.card)
    (hf : falsifies pb.weights l = true) : ∀ w, (finish pb m l).res ≠ .stuck w := by
  obtain ⟨hw, _⟩ := falsifies_iff.mp hf
  obtain ⟨q, hq⟩ := roundToOne_isSome pb m (varIdx (-l)) (by rw [varIdx_neg]; exact hw)
  have hcq := round_conflict pb q m _ hc hq
  have hcard : ¬ q.card < 1 := by
    have := freeSum_nonneg m (fun _ => false) 0 q.weights; omega
  intro w
  unfold finish
  simp only [hq, hcard, if_false]
  split
  · intro h; cases h
  · rename_i hp; exact absurd hp (simplify_no_panic _ _)
  · split
    · intro h; cases h
    · split <;> (intro h; cases h)

section
variable {n : Nat} {prob : List PbSet} {pb : PbSet} {lvl : Int} {m : List Int} {rt : List Entry}
  {pb' : PbSet} {lvl' : Int} {m' : List Int} {rt' : List Entry}

theorem step_done_ok {o : Out} (I : LoopInv n prob pb lvl m rt)
    (h : step n pb lvl m rt = .done o) : ∀ w, o.res ≠ .stuck w := by
  rcases step_done_spec I h with ⟨l, hl, rfl⟩ | ⟨rfl, _⟩
  · obtain ⟨⟨_, _, rfl, hf, _⟩, _⟩ := onlyFalsified_spec I hl
    exact finish_ok pb m _ I.confl hf
  · intro w h; cases h

def headFals (ws : List Int) : List Entry → Nat
  | [] => 0
  | e :: _ => if falsifies ws e.lit then 1 else 0

/-- the measure: two iterations per remaining trail literal, one less once the literal on top
    has been eliminated from the resolvent -/
def mu (pb : PbSet) (rt : List Entry) : Nat := 2 * rt.length + headFals pb.weights rt

/-- a decision above level 1 on top of the trail that falsifies `pb` is what `onlyFalsified` finds:
    every literal below it is at a lower level -/
theorem onlyFalsified_decision {e : Entry} {rest : List Entry}
    (I : LoopInv n prob pb (e.level : Int) m (e :: rest))
    (hd : decisionsOk (e :: rest) = true) (hr : e.reason = none) (hl1 : e.level ≠ 1)
    (hf : falsifies pb.weights e.lit = true) :
    onlyFalsified pb.weights m (e :: rest) (e.level : Int) = some e.lit := by
  simp only [decisionsOk, hr, Option.isNone_none, true_and, ne_eq, hl1, not_false_eq_true,
    if_true, Bool.and_eq_true, List.all_eq_true, decide_eq_true_eq] at hd
  refine (onlyFalsified_iff I.trailModel I.lvls _ _).mpr ?_
  rw [List.filter_cons, if_pos (by rw [hf, decide_eq_true rfl]; rfl),
    List.filter_eq_nil_iff.mpr fun x hx => ?_]
  · rfl
  · have := hd.1 x hx
    rw [Bool.and_eq_true, decide_eq_true_eq]
    exact fun h => by omega

theorem step_next_progress (I : LoopInv n prob pb lvl m rt) (hd : decisionsOk rt = true)
    (h : step n pb lvl m rt = .next pb' lvl' m' rt') :
    decisionsOk rt' = true ∧ 2 ≤ mu pb rt ∧
      (mu pb' rt' < mu pb rt ∨ ∃ o, step n pb' lvl' m' rt' = .done o) := by
  obtain ⟨I', pass, e, rest, hsplit, rfl, rfl, hf, hcase⟩ := step_next_spec I h
  have hd' : decisionsOk (e :: rest) = true := decisionsOk_suffix pass (hsplit ▸ hd)
  refine ⟨hd', ?_, ?_⟩
  · unfold mu; rw [hsplit]; simp only [List.length_append, List.length_cons]; omega
  rcases hcase with ⟨hreason, hf1⟩ | hz
  · -- reason-less literal: the next evaluation of the loop test ends the loop
    right
    by_cases hl1 : e.level = 1
    · cases hof' : onlyFalsified pb'.weights m' (e :: rest) e.level with
      | some l => exact ⟨_, by unfold step; rw [hof']⟩
      | none => exact ⟨⟨.unsat, none⟩, by unfold step; rw [hof', hl1]; rfl⟩
    · exact ⟨_, by unfold step; rw [onlyFalsified_decision I' hd' hreason hl1 hf1]⟩
  · -- resolution: the literal on top does not occur in the new resolvent
    left
    have hnf : headFals pb'.weights (e :: rest) = 0 := by
      simp only [headFals, Bool.eq_false_iff.mpr fun h => (falsifies_iff.mp h).1 hz]; rfl
    unfold mu
    rw [hnf, hsplit]
    simp only [List.length_append, List.length_cons]
    cases pass with
    | nil =>
      simp only [List.nil_append, headFals, hf, if_true, List.length_nil]; omega
    | cons p ps => simp only [List.length_cons]; omega

theorem loop_ok {fuel : Nat} (I : LoopInv n prob pb lvl m rt) (hd : decisionsOk rt = true)
    (hfuel : mu pb rt + 1 ≤ fuel) : ∀ w, (loop n fuel pb lvl m rt).res ≠ .stuck w := by
  -- the fuel covers the measure, plus the evaluation of the loop test that ends the loop; after the step
  -- at a reason-less literal the measure has not gone down, but the next test ends the loop
  obtain ⟨k, _, _, _, _, ⟨I', _, hk⟩, hs | ⟨rfl, _⟩⟩ := loop_run
    (fun k pb lvl m rt => LoopInv n prob pb lvl m rt ∧ decisionsOk rt = true ∧
      (mu pb rt + 1 ≤ k ∨ 1 ≤ k ∧ ∃ o, step n pb lvl m rt = .done o))
    (fun ⟨I, hd, hk⟩ hs => by
      obtain ⟨hd', hmu2, hprog⟩ := step_next_progress I hd hs
      refine ⟨(step_next_spec I hs).1, hd', ?_⟩
      rcases hk with hk | ⟨_, o, ho⟩
      · rcases hprog with hlt | ho
        · left; omega
        · right; exact ⟨by omega, ho⟩
      · rw [ho] at hs; cases hs)
    fuel _ _ _ _ ⟨I, hd, Or.inl hfuel⟩
  · exact step_done_ok I' hs
  · rcases hk with hk | ⟨hk, _⟩ <;> omega

end

/-- **No panic, no loop.** On a state that meets `cpInv` and `decisionsOk`, `cuttingPlanes`
    does not index out of range, does not divide by zero, does not call `NewPBClause` with a
    degree below 1, and its outer loop ends within `2 * len(trail) + 2` evaluations of its test. -/
theorem cpAnalyze_fuel (prob : List PbSet) (s : State) (h : cpInv prob s = true)
    (hd : decisionsOk s.trail.reverse = true) : ∀ w, (cpAnalyze s).res ≠ .stuck w := by
  apply loop_ok (cpInv_loopInv prob s h) hd
  unfold mu fuelOf
  have : headFals (pbOf s.n s.confl).weights s.trail.reverse ≤ 1 := by
    cases s.trail.reverse with
    | nil => simp [headFals]
    | cons e _ => simp only [headFals]; split <;> omega
  rw [List.length_reverse]; omega

/-- `full` is the whole (reversed) trail at entry; the walk has passed a prefix of it, all of whose
    literals are at levels ≥ the current level -/
structure WalkInv (n : Nat) (prob : List PbSet) (full : List Entry) (lvl : Int) (rt : List Entry) :
    Prop where
  fullOk : trailOk n prob full = true
  passed : ∃ passed, full = passed ++ rt ∧ ∀ p ∈ passed, lvl ≤ (p.level : Int)

theorem step_next_walk {n : Nat} {prob : List PbSet} {full : List Entry} {pb : PbSet} {lvl : Int}
    {m : List Int} {rt : List Entry} {pb' : PbSet} {lvl' : Int} {m' : List Int} {rt' : List Entry}
    (I : LoopInv n prob pb lvl m rt) (W : WalkInv n prob full lvl rt)
    (h : step n pb lvl m rt = .next pb' lvl' m' rt') : WalkInv n prob full lvl' rt' := by
  obtain ⟨_, pass, e, rest, hsplit, rfl, rfl, _, _⟩ := step_next_spec I h
  obtain ⟨passed, hfull, _⟩ := W.passed
  refine ⟨W.fullOk, passed ++ pass, by rw [hfull, hsplit, List.append_assoc], fun p hp => ?_⟩
  have hf := W.fullOk
  rw [hfull, hsplit, ← List.append_assoc] at hf
  exact Int.ofNat_le.mpr
    ((List.pairwise_append.mp (trailOk_levels hf)).2.2 p hp e List.mem_cons_self)

theorem le_backtrackAux (m : List Int) (v : Nat) (lvl : Int) :
    ∀ (ws : List Int) (k : Nat) (acc : Int), acc ≤ backtrackAux m v lvl k ws acc
  | [], _, _ => Int.le_refl _
  | _ :: ws, k, acc => by
    rw [backtrackAux]
    split
    · exact le_backtrackAux m v lvl ws _ _
    · exact Int.le_trans (by split <;> omega) (le_backtrackAux m v lvl ws _ _)

theorem backtrackAux_ge (m : List Int) (v : Nat) (lvl : Int) (ws : List Int) :
    ∀ (k : Nat) (acc : Int) (i : Nat), ws.getD i 0 ≠ 0 → k + i ≠ v →
      iabs (modelAt m (k+i)) ≠ lvl → iabs (modelAt m (k+i)) ≤ backtrackAux m v lvl k ws acc := by
  induction ws with
  | nil => intro _ _ _ h; exact absurd rfl h
  | cons w ws ih =>
    intro k acc i hw hv hl
    rw [backtrackAux]
    cases i with
    | zero =>
      rw [if_neg (not_or.mpr ⟨hw, hv⟩ : ¬ (w = 0 ∨ k = v))]
      refine Int.le_trans ?_ (le_backtrackAux m v lvl ws _ _)
      split
      · exact Int.le_refl _
      · rename_i hn
        exact Int.not_lt.mp fun h => hn ⟨h, hl⟩
    | succ i =>
      rw [← Nat.add_assoc, Nat.add_right_comm] at hv hl ⊢
      split <;> exact ih (k+1) _ i hw hv hl

theorem backtrackLevel_ge (ws m : List Int) (u : Int) (i : Nat) (hw : ws.getD i 0 ≠ 0)
    (hl : iabs (modelAt m i) ≠ iabs (modelAt m (varIdx u))) :
    iabs (modelAt m i) ≤ backtrackLevel ws m u := by
  have := backtrackAux_ge m (varIdx u) _ ws 0 1 i hw (fun h => hl (by rw [← h, Nat.zero_add]))
    (by rwa [Nat.zero_add])
  rwa [Nat.zero_add] at this

theorem backtrackAux_lt (m : List Int) (v : Nat) (lvl : Int) (hle : ∀ j, iabs (modelAt m j) ≤ lvl) :
    ∀ (ws : List Int) (k : Nat) (acc : Int), acc < lvl → backtrackAux m v lvl k ws acc < lvl := by
  intro ws
  induction ws with
  | nil => exact fun _ _ h => h
  | cons _ ws ih =>
    intro k acc h
    rw [backtrackAux]
    split
    · exact ih _ _ h
    · refine ih _ _ ?_
      split
      · rename_i hc; have := hle k; omega
      · exact h

theorem modelLevel_le {n : Nat} {prob : List PbSet} {lvl : Int} {m : List Int} {rt : List Entry}
    (T : TrailModel n prob m rt) (hl : ∀ e ∈ rt, (e.level : Int) ≤ lvl) (h0 : 0 ≤ lvl) (i : Nat) :
    iabs (modelAt m i) ≤ lvl := by
  by_cases hz : modelAt m i = 0
  · rw [hz, iabs_zero]; exact h0
  · obtain ⟨e, he, _, hme⟩ := T.lookup hz
    rw [hme, iabs_signedLvl]
    exact hl e he

/-- the model after the backjump to level `b`, read off the walked model -/
theorem TrailModel.modelAt_upTo {n : Nat} {prob : List PbSet} {m : List Int} {rt : List Entry}
    (T : TrailModel n prob m rt) (b : Nat) (j : Nat) :
    modelAt (modelOfR n (rt.filter fun e => decide (e.level ≤ b))) j =
      if iabs (modelAt m j) ≤ (b : Int) then modelAt m j else 0 := by
  by_cases h : ∃ e ∈ rt.filter (fun e => decide (e.level ≤ b)), varIdx e.lit = j
  · obtain ⟨e, he, hv⟩ := h
    obtain ⟨he1, he2⟩ := List.mem_filter.mp he
    rw [← hv, modelAt_mem List.filter_sublist T.trail e he, T.modelAt_lit he1,
      iabs_signedLvl, if_pos (Int.ofNat_le.mpr (of_decide_eq_true he2))]
  · rw [modelOfR_notin n _ j fun e he hv => h ⟨e, he, hv⟩]
    split
    · rename_i hle
      apply Classical.byContradiction
      intro hz
      obtain ⟨e, he, hv, hme⟩ := T.lookup (Ne.symm hz)
      rw [hme, iabs_signedLvl] at hle
      exact h ⟨e, List.mem_filter.mpr ⟨he, decide_eq_true (Int.ofNat_le.mp hle)⟩, hv⟩
    · rfl

/-- the facts about the state in which the loop ends -/
structure FinishState (n : Nat) (prob : List PbSet) (full : List Entry) (pb : PbSet) (lvl : Int)
    (m : List Int) (rt : List Entry) (l : Int) : Prop where
  inv : LoopInv n prob pb lvl m rt
  walk : WalkInv n prob full lvl rt
  found : onlyFalsified pb.weights m rt lvl = some l

namespace FinishState
variable {n : Nat} {prob : List PbSet} {full : List Entry} {pb : PbSet} {lvl : Int} {m : List Int}
  {rt : List Entry} {l : Int}

theorem entry (F : FinishState n prob full pb lvl m rt l) :
    ∃ e ∈ rt, e.lit = l ∧ falsifies pb.weights l = true ∧ (e.level : Int) = lvl :=
  (onlyFalsified_spec F.inv F.found).1

theorem lvl_pos (F : FinishState n prob full pb lvl m rt l) : 1 ≤ lvl := by
  obtain ⟨e, he, _, _, hl⟩ := F.entry
  have := trailOk_lev1 F.inv.trail e he
  omega

theorem modelAt_l (F : FinishState n prob full pb lvl m rt l) :
    iabs (modelAt m (varIdx l)) = lvl ∧ (0 < modelAt m (varIdx l) ↔ 0 < l) ∧ l ≠ 0 := by
  obtain ⟨e, he, rfl, _, hl⟩ := F.entry
  have hm := F.inv.trailModel.modelAt_lit he
  obtain ⟨_, ok⟩ := trailOk_mem F.inv.trail he
  exact ⟨by rw [hm, iabs_signedLvl]; exact hl, by rw [hm]; exact signedLvl_pos e ok.lev1, ok.lit0⟩

/-- a trail literal other than `l` that falsifies the rounded resolvent is not at level `lvl`
    (`onlyFalsified` found `l` alone there), so `backtrackLevel` has taken its level into its maximum -/
theorem others (F : FinishState n prob full pb lvl m rt l) (q : PbSet)
    (hq : pb.roundToOne m (varIdx l) = some q) (x : Entry) (hx : x ∈ rt) (hxl : x.lit ≠ l)
    (hf : falsifies q.weights x.lit = true) :
    (x.level : Int) ≠ lvl ∧ (x.level : Int) ≤ backtrackLevel pb.weights m (-l) := by
  have hfp := falsifies_of_round pb q m _ hq x.lit hf
  have hne : (x.level : Int) ≠ lvl := fun h => hxl ((onlyFalsified_spec F.inv F.found).2 x hx h hfp)
  have hxm := F.inv.trailModel.modelAt_lit hx
  have := backtrackLevel_ge pb.weights m (-l) (varIdx x.lit) (falsifies_iff.mp hfp).1
    (by rw [varIdx_neg, F.modelAt_l.1, hxm, iabs_signedLvl]; exact hne)
  rw [hxm, iabs_signedLvl] at this
  exact ⟨hne, this⟩

theorem btLvl_lt (F : FinishState n prob full pb lvl m rt l) (h2 : 2 ≤ lvl) :
    1 ≤ backtrackLevel pb.weights m (-l) ∧ backtrackLevel pb.weights m (-l) < lvl := by
  refine ⟨le_backtrackAux .., ?_⟩
  unfold backtrackLevel
  rw [varIdx_neg, F.modelAt_l.1]
  exact backtrackAux_lt m _ lvl (modelLevel_le F.inv.trailModel F.inv.lvls (by omega)) _ _ _ (by omega)

/-- the model once the solver has backjumped to level `b < lvl`: the remaining trail literals of
    level `≤ b` (the passed ones are all above) -/
theorem modelUpTo_eq (F : FinishState n prob full pb lvl m rt l) (trail : List Entry)
    (hfull : full = trail.reverse) (b : Nat) (hb : (b : Int) < lvl) :
    modelUpTo n b trail = modelOfR n (rt.filter (fun e => decide (e.level ≤ b))) := by
  unfold modelUpTo
  rw [← List.filter_reverse, ← hfull]
  obtain ⟨passed, hp, hlv⟩ := F.walk.passed
  rw [hp, List.filter_append]
  have : passed.filter (fun e => decide (e.level ≤ b)) = [] := by
    rw [List.filter_eq_nil_iff]
    intro a ha
    have := hlv a ha
    simp only [decide_eq_true_eq]; omega
  rw [this, List.nil_append]

theorem nonFalsified_bt (F : FinishState n prob full pb lvl m rt l) (q : PbSet)
    (hq : pb.roundToOne m (varIdx l) = some q) (b : Nat)
    (hb : backtrackLevel pb.weights m (-l) ≤ (b : Int)) (j : Nat) (hj : j ≠ varIdx l)
    (hw : q.weights.getD j 0 ≠ 0) :
    nonFalsified (modelOfR n (rt.filter (fun e => decide (e.level ≤ b)))) j (q.weights.getD j 0) ↔
      nonFalsified m j (q.weights.getD j 0) := by
  unfold nonFalsified
  rw [F.inv.trailModel.modelAt_upTo b j]
  split
  · exact Iff.rfl
  · rename_i hgt
    refine ⟨fun _ => ?_, fun _ => Or.inl rfl⟩
    rcases F.inv.trailModel.counted_or q.weights j with h | ⟨e, he, hv, hfal⟩
    · exact h.resolve_left hw
    exfalso
    have hxl : e.lit ≠ l := by intro h; rw [h] at hv; exact hj hv.symm
    have := (F.others q hq e he hxl hfal).2
    rw [← hv, F.inv.trailModel.modelAt_lit he, iabs_signedLvl] at hgt
    omega

end FinishState

/-- the literal `clauseTerms` makes of a non-zero weight `w` at position `k` -/
def posLit (k : Nat) (w : Int) : Int := if w < 0 then -((k:Int)+1) else (k:Int)+1

theorem posLit_spec (k : Nat) {w : Int} (hw : w ≠ 0) :
    varIdx (posLit k w) = k ∧ posLit k w ≠ 0 ∧ (0 < posLit k w ↔ 0 < w) := by
  unfold posLit varIdx; split <;> omega

theorem clauseTerms_cons (k : Nat) (w : Int) (ws : List Int) :
    clauseTerms k (w :: ws) =
      if w = 0 then clauseTerms (k+1) ws else (iabs w, posLit k w) :: clauseTerms (k+1) ws := rfl

theorem weightSum_clauseTerms (k : Nat) (ws : List Int) : weightSum (clauseTerms k ws) = sumAbs ws := by
  induction ws generalizing k with
  | nil => rfl
  | cons w ws ih =>
    simp only [clauseTerms, sumAbs]
    by_cases hw : w = 0
    · rw [if_pos hw, ih, hw, iabs_zero]; omega
    · rw [if_neg hw]; simp only [weightSum, ih]

theorem weightSum_sortTerms (ts : List (Int × Int)) : weightSum (sortTerms ts) = weightSum ts :=
  additive_perm (fun _ _ => rfl) (sortTerms_perm ts)

theorem clauseTerms_mem (ws : List Int) : ∀ (k i : Nat), ws.getD i 0 ≠ 0 →
    (iabs (ws.getD i 0), posLit (k + i) (ws.getD i 0)) ∈ clauseTerms k ws := by
  induction ws with
  | nil => intro k i h; simp at h
  | cons w ws ih =>
    intro k i h
    rw [clauseTerms_cons]
    cases i with
    | zero => rw [if_neg (show ¬ w = 0 from h)]; exact List.mem_cons_self
    | succ i =>
      have := ih (k+1) i h
      rw [Nat.add_right_comm] at this
      split
      · exact this
      · exact List.mem_cons_of_mem _ this

theorem neg_mem_clauseTerms (ws : List Int) (l : Int) (hl : l ≠ 0) (hf : falsifies ws l = true) :
    -l ∈ (clauseTerms 0 ws).map (·.2) := by
  obtain ⟨hw, hs⟩ := falsifies_iff.mp hf
  refine List.mem_map.mpr ⟨_, clauseTerms_mem ws 0 (varIdx l) hw, ?_⟩
  -- the same variable as `l`, with the opposite sign
  show posLit (0 + varIdx l) (ws.getD (varIdx l) 0) = -l
  generalize ws.getD (varIdx l) 0 = w at hw hs
  unfold posLit varIdx
  split <;> omega

theorem newFact_congr (m1 m2 : List Int) (u : Int)
    (h : modelAt m1 (varIdx u) = modelAt m2 (varIdx u)) : newFact m1 u = newFact m2 u := by
  unfold newFact litSat; rw [h]

theorem newFact_false {m : List Int} {x : Int} (h : newFact m x = false) :
    iabs (modelAt m (varIdx x)) = 1 ∧ (0 < modelAt m (varIdx x) ↔ 0 < x) := by
  unfold newFact litSat at h
  simp only [Bool.or_eq_false_iff, decide_eq_false_iff_not, ne_eq, Decidable.not_not,
    Bool.not_eq_false', Bool.and_eq_true, beq_iff_eq, decide_eq_decide, gt_iff_lt] at h
  exact ⟨h.1, h.2.2⟩

theorem newFact_neg_true (m : List Int) (l : Int) (hl : l ≠ 0)
    (hs : 0 < modelAt m (varIdx l) ↔ 0 < l) : newFact m (-l) = true := by
  unfold newFact litSat
  rw [varIdx_neg]
  have : (decide (modelAt m (varIdx l) > 0) == decide (-l > 0)) = false := by
    rw [beq_eq_false_iff_ne]
    intro h
    rw [decide_eq_decide] at h
    by_cases hp : 0 < l
    · have := h.mp (hs.mpr hp); omega
    · have : -l > 0 := by omega
      have := hs.mp (h.mpr this); omega
  simp only [this, Bool.and_false, Bool.not_false, Bool.or_true]

namespace FinishState
variable {n : Nat} {prob : List PbSet} {full : List Entry} {pb : PbSet} {lvl : Int} {m : List Int}
  {rt : List Entry} {l : Int}

theorem neg_mem_raw (F : FinishState n prob full pb lvl m rt l) (q : PbSet)
    (hq : pb.roundToOne m (varIdx l) = some q) :
    -l ∈ (sortTerms (clauseTerms 0 q.weights)).map (·.2) := by
  obtain ⟨_, _, _, hf, _⟩ := F.entry
  exact ((sortTerms_perm _).map (·.2)).mem_iff.mpr
    (neg_mem_clauseTerms q.weights l F.modelAt_l.2.2 (round_falsifies pb q m l hq hf))

theorem modelAt_entry (F : FinishState n prob full pb lvl m rt l) (x : Entry) (hx : x ∈ rt) :
    modelAt (modelOfR n full) (varIdx x.lit) = modelAt m (varIdx x.lit) := by
  obtain ⟨passed, hp, _⟩ := F.walk.passed
  rw [TrailModel.modelAt_lit ⟨rfl, F.walk.fullOk⟩ (hp ▸ List.mem_append_right _ hx),
    F.inv.trailModel.modelAt_lit hx]

/-- above level 1, a literal that is "new" for the walked model is new for the model at entry:
    the walk has not touched the top level -/
theorem newFact_entry (F : FinishState n prob full pb lvl m rt l) (h2 : 2 ≤ lvl) (u : Int)
    (hu : newFact m u = true) : newFact (modelOfR n full) u = true := by
  cases h0 : newFact (modelOfR n full) u with
  | true => rfl
  | false =>
    exfalso
    have hl1 := (newFact_false h0).1
    obtain ⟨e, he, hv, hme⟩ := TrailModel.lookup ⟨rfl, F.walk.fullOk⟩ (ne_zero_of_iabs_one hl1)
    rw [hme, iabs_signedLvl] at hl1
    obtain ⟨passed, hp, hlv⟩ := F.walk.passed
    rw [hp] at he
    rcases List.mem_append.mp he with he | he
    · have := hlv e he; omega
    · have := F.modelAt_entry e he
      rw [hv] at this
      rw [newFact_congr _ _ u this.symm, h0] at hu
      cases hu

/-- at level 1 the raw pbSet has a single falsified literal: its weights add up to at most its
    degree -/
theorem lvl1_sum (F : FinishState n prob full pb lvl m rt l) (h1 : lvl = 1) (q : PbSet)
    (hq : pb.roundToOne m (varIdx l) = some q) : sumAbs q.weights ≤ q.card := by
  have hall : ∀ i, i ≠ varIdx l → q.weights.getD i 0 = 0 ∨ nonFalsified m i (q.weights.getD i 0) := by
    intro i hi
    refine (F.inv.trailModel.counted_or q.weights i).resolve_right fun ⟨e, he, hv, hfal⟩ => ?_
    have hxl : e.lit ≠ l := by intro h; rw [h] at hv; exact hi hv.symm
    have hlev := (F.others q hq e he hxl hfal).1
    have := F.inv.lvls e he
    have := trailOk_lev1 F.inv.trail e he
    omega
  have hs := sumPos_le_add_at (f := fun _ w => iabs w) (g := selW (modSel m fun _ => false)) (varIdx l)
    (fun w => selW_nonneg ..) rfl q.weights
    (fun i hi => Int.le_of_eq (selW_counted (hall i hi)).symm)
  rw [← sumAbs_eq, ← freeSum_eq] at hs
  have hl := round_locked pb q m _ hq
  have hc := round_conflict pb q m _ F.inv.confl hq
  omega

/-- at level 1 the answer is `units` containing the refutation of the top-level literal found
    (or `unsat`): never a learned constraint -/
theorem lvl1_answer (F : FinishState n prob full pb lvl m rt l) (h1 : lvl = 1) :
    (∀ c u b, (finish pb m l).res ≠ .learned c u b) ∧
    (∀ ls, (finish pb m l).res = .units ls → -l ∈ ls) := by
  have S := finish_spec pb m l
  obtain ⟨_, _, hl0⟩ := F.modelAt_l
  have hnew : newFact m (-l) = true := newFact_neg_true m l hl0 F.modelAt_l.2.1
  -- all the literals of the raw pbSet are units
  have hall : ∀ q us rest, (finish pb m l).raw = some q → simpOf q = .done us rest → -l ∈ us := by
    intro q us rest hraw hs
    have hq := S.raw q hraw
    rw [varIdx_neg] at hq
    have hsum := F.lvl1_sum h1 q hq
    obtain ⟨pre, post, hts, rfl, hth, _, hle, _⟩ := simplify_done hs
    rw [weightSum_sortTerms, weightSum_clauseTerms] at hth hle
    cases post with
    | nil => rw [List.append_nil] at hts; rw [← hts]; exact F.neg_mem_raw q hq
    | cons t r =>
      -- the threshold is 0 and every weight is positive: no term is left over
      have := hle t rfl
      have := clauseTerms_pos
        ((sortTerms_perm _).mem_iff.mp (hts ▸ List.mem_append_right _ List.mem_cons_self))
      omega
  refine ⟨?_, ?_⟩
  · intro c u b h
    obtain ⟨q, us, hraw, hs, _, _, hold⟩ := S.learned c u b h
    have := hold _ (hall q us _ hraw hs)
    rw [hnew] at this; cases this
  · intro ls h
    obtain ⟨q, rest, hraw, hs, _⟩ := S.units ls h
    exact hall q ls rest hraw hs

end FinishState

theorem cpAnalyze_finish (prob : List PbSet) (s : State) (h : cpInv prob s = true)
    {q : PbSet} (hraw : (cpAnalyze s).raw = some q) :
    ∃ pb lvl m rt l, FinishState s.n prob s.trail.reverse pb lvl m rt l ∧
      cpAnalyze s = finish pb m l := by
  have I := cpInv_loopInv prob s h
  unfold cpAnalyze at hraw ⊢
  obtain ⟨_, pb, lvl, m, rt, ⟨I', W'⟩, hs | ⟨_, he⟩⟩ := loop_run
    (fun _ pb lvl m rt => LoopInv s.n prob pb lvl m rt ∧ WalkInv s.n prob s.trail.reverse lvl rt)
    (fun ⟨I, W⟩ hs => ⟨(step_next_spec I hs).1, step_next_walk I W hs⟩)
    (fuelOf s) _ _ _ _ ⟨I, I.trail, [], rfl, by intro p hp; cases hp⟩
  · rcases step_done_spec I' hs with ⟨l, hl, he⟩ | ⟨he, _⟩
    · exact ⟨pb, lvl, m, rt, l, ⟨I', W', hl⟩, he⟩
    · rw [he] at hraw; cases hraw
  · rw [he] at hraw; cases hraw

/-- **Progress.** When `cuttingPlanes` answers with top-level units, at least one of them is not
    already true at level 1 *in the model at entry*: the answer is never "nothing new". -/
theorem cpAnalyze_progress : cpAnalyze_progress_statement := by
  intro prob s h
  unfold progressOk
  cases hres : (cpAnalyze s).res with
  | units ls =>
    simp only [List.any_eq_true]
    obtain ⟨q, _, hq, _⟩ := (cpAnalyze_spec prob s h).reads.units ls hres
    obtain ⟨pb, lvl, m, rt, l, F, he⟩ := cpAnalyze_finish prob s h hq
    rw [he] at hres
    by_cases h2 : 2 ≤ lvl
    · obtain ⟨_, _, _, _, u, hu, hnew⟩ := (finish_spec pb m l).units ls hres
      exact ⟨u, hu, F.newFact_entry h2 u hnew⟩
    · have h1 : lvl = 1 := by have := F.lvl_pos; omega
      refine ⟨-l, (F.lvl1_answer h1).2 ls hres, ?_⟩
      obtain ⟨e, he', hel, _, _⟩ := F.entry
      have hm := F.modelAt_entry e he'
      rw [hel] at hm
      rw [newFact_congr _ m (-l) (by rw [varIdx_neg]; exact hm)]
      exact newFact_neg_true m l F.modelAt_l.2.2 F.modelAt_l.2.1
  | unsat => rfl
  | learned c u b => rfl
  | learnedNil u b => rfl
  | stuck w => rfl

namespace FinishState
variable {n : Nat} {prob : List PbSet} {full : List Entry} {pb : PbSet} {lvl : Int} {m : List Int}
  {rt : List Entry} {l : Int}

/-- **Asserting, on the raw pbSet.** Above level 1: with `b = backtrackLevel`, `b < lvl`; in the
    model after the backjump to `b` the variable of the literal found is unbound, the literals of
    the raw pbSet other than it that are not falsified weigh less than the degree, and every
    literal that is true at level 1 in the walked model keeps its value. -/
theorem raw_asserting (F : FinishState n prob full pb lvl m rt l) (h2 : 2 ≤ lvl) (q : PbSet)
    (hq : pb.roundToOne m (varIdx l) = some q) (trail : List Entry) (hfull : full = trail.reverse) :
    modelAt (modelUpTo n (backtrackLevel pb.weights m (-l)).toNat trail) (varIdx l) = 0 ∧
    freeSum (modelUpTo n (backtrackLevel pb.weights m (-l)).toNat trail)
      (fun i => i == varIdx l) 0 q.weights < q.card ∧
    (∀ x, newFact m x = false →
      modelAt (modelUpTo n (backtrackLevel pb.weights m (-l)).toNat trail) (varIdx x)
        = modelAt m (varIdx x)) := by
  obtain ⟨hb1, hb2⟩ := F.btLvl_lt h2
  have hbt : ((backtrackLevel pb.weights m (-l)).toNat : Int) = backtrackLevel pb.weights m (-l) :=
    Int.toNat_of_nonneg (by omega)
  rw [F.modelUpTo_eq trail hfull _ (by rw [hbt]; exact hb2)]
  have hup := F.inv.trailModel.modelAt_upTo (backtrackLevel pb.weights m (-l)).toNat
  refine ⟨?_, ?_, ?_⟩
  · rw [hup, F.modelAt_l.1, hbt, if_neg (Int.not_le.mpr hb2)]
  · rw [freeSum_congr _ m (fun i => i == varIdx l) 0 q.weights fun i hi hw => by
      rw [Nat.zero_add] at hi ⊢
      exact F.nonFalsified_bt q hq _ (Int.le_of_eq hbt.symm) i (by simpa using hi) hw]
    exact Int.lt_of_le_of_lt (freeSum_excl_le_none m _ 0 q.weights)
      (round_conflict pb q m _ F.inv.confl hq)
  · intro x hx
    rw [hup, (newFact_false hx).1, hbt, if_pos hb1]

end FinishState

/-! The raw pbSet goes through `clause()`, `SimplifyPB` and back to a pbSet: a set of literals given
by position and polarity, read as a set of DIMACS literals, gives the same weight on both sides. -/

section
variable (c : Nat → Bool → Prop) [∀ j p, Decidable (c j p)]

def litSel (l : Int) : Bool := decide (c (varIdx l) (decide (l > 0)))

theorem selW_eq_litSel {j : Nat} {w : Int} {t : Int × Int}
    (hv : varIdx t.2 = j) (hs : 0 < t.2 ↔ 0 < w) (ha : iabs w = t.1) :
    selW c j w = if litSel c t.2 then t.1 else 0 := by
  subst hv
  rw [selW, ha, show decide (w > 0) = decide (t.2 > 0) from decide_eq_decide.mpr hs.symm]
  simp only [litSel, decide_eq_true_eq]

theorem litSum_clauseTerms (k : Nat) (ws : List Int) :
    litSum (litSel c) (clauseTerms k ws) = sumPos (selW c) k ws := by
  induction ws generalizing k with
  | nil => rfl
  | cons w ws ih =>
    rw [sumPos, ← ih (k+1), clauseTerms_cons]
    by_cases hw : w = 0
    · rw [if_pos hw, hw, selW_zero, Int.zero_add]
    · obtain ⟨hv, _, hs⟩ := posLit_spec k hw
      rw [if_neg hw, selW_eq_litSel c (t := (iabs w, posLit k w)) hv hs rfl]
      rfl

end

/-- well-formed term list: distinct variables below `n`, non-zero literals, positive weights -/
structure TermsOk (n : Nat) (ts : List (Int × Int)) : Prop where
  dist : ts.Pairwise (fun a b => varIdx a.2 ≠ varIdx b.2)
  lit : ∀ t ∈ ts, t.2 ≠ 0 ∧ varIdx t.2 < n
  pos : ∀ t ∈ ts, 0 < t.1

theorem TermsOk.tail {n : Nat} {t : Int × Int} {ts : List (Int × Int)} (hok : TermsOk n (t :: ts)) :
    TermsOk n ts :=
  ⟨(List.pairwise_cons.mp hok.dist).2, fun x hx => hok.lit x (List.mem_cons_of_mem _ hx),
    fun x hx => hok.pos x (List.mem_cons_of_mem _ hx)⟩

theorem pbWeights_notin (n : Nat) (ts : List (Int × Int)) (v : Nat)
    (h : ∀ t ∈ ts, varIdx t.2 ≠ v) : (pbWeights n ts).getD v 0 = 0 := by
  induction ts with
  | nil =>
    simp only [pbWeights, List.getD_eq_getElem?_getD, List.getElem?_replicate]
    split <;> rfl
  | cons t ts ih =>
    exact (getD_set_ne (pbWeights n ts) _ v _ fun h' => h t (by simp) h'.symm).trans
      (ih fun t' ht' => h t' (by simp [ht']))

theorem pbWeights_mem (n : Nat) (ts : List (Int × Int)) (hok : TermsOk n ts) (t : Int × Int)
    (ht : t ∈ ts) : (pbWeights n ts).getD (varIdx t.2) 0 = signedW t := by
  induction ts with
  | nil => cases ht
  | cons x ts ih =>
    rcases List.mem_cons.mp ht with rfl | ht'
    · exact getD_set_self (pbWeights n ts) _ _
        (by rw [pbWeights_length]; exact (hok.lit t (by simp)).2)
    · exact (getD_set_ne (pbWeights n ts) _ _ _
        fun h => (List.pairwise_cons.mp hok.dist).1 t ht' h.symm).trans (ih hok.tail ht')

theorem signedW_sign {t : Int × Int} (hp : 0 < t.1) : signedW t ≠ 0 ∧ (signedW t > 0 ↔ t.2 > 0) := by
  unfold signedW; split <;> omega

section
variable (c : Nat → Bool → Prop) [∀ j p, Decidable (c j p)]

theorem selW_signedW (t : Int × Int) (hp : 0 < t.1) :
    selW c (varIdx t.2) (signedW t) = if litSel c t.2 then t.1 else 0 := by
  apply selW_eq_litSel c rfl <;> unfold signedW
  · split <;> constructor <;> intro <;> omega
  · unfold iabs; split <;> split <;> omega

theorem sumPos_pbWeights (n : Nat) (ts : List (Int × Int)) (hok : TermsOk n ts) :
    sumPos (selW c) 0 (pbWeights n ts) = litSum (litSel c) ts := by
  induction ts with
  | nil =>
    exact (sumPos_congr _ 0 fun i => by rw [pbWeights_notin n [] i (by simp), selW_zero]).trans
      (sumPos_zero _ 0)
  | cons t ts ih =>
    simp only [pbWeights, litSum]
    rw [sumPos_set (selW_zero c) _ 0 _ _ (by rw [pbWeights_length]; exact (hok.lit t (by simp)).2)
      (pbWeights_notin n ts _ fun t' ht' h => (List.pairwise_cons.mp hok.dist).1 t' ht' h.symm),
      ih hok.tail, Nat.zero_add, selW_signedW c t (hok.pos t (by simp))]
    omega

end

theorem clauseTerms_var (ws : List Int) : ∀ (k : Nat), ∀ t ∈ clauseTerms k ws,
    k ≤ varIdx t.2 ∧ varIdx t.2 < k + ws.length ∧ t.2 ≠ 0 := by
  induction ws with
  | nil => intro k t ht; cases ht
  | cons w ws ih =>
    intro k t ht
    rw [clauseTerms_cons] at ht
    rw [List.length_cons]
    have hrest : t ∈ clauseTerms (k+1) ws →
        k ≤ varIdx t.2 ∧ varIdx t.2 < k + (ws.length + 1) ∧ t.2 ≠ 0 := by
      intro h
      obtain ⟨h1, h2, h3⟩ := ih (k+1) t h
      exact ⟨by omega, by omega, h3⟩
    by_cases hw : w = 0
    · rw [if_pos hw] at ht; exact hrest ht
    · rw [if_neg hw] at ht
      rcases List.mem_cons.mp ht with rfl | ht
      · obtain ⟨hv, hne, _⟩ := posLit_spec k hw
        exact ⟨Nat.le_of_eq hv.symm, Nat.lt_of_le_of_lt (Nat.le_of_eq hv) (by omega), hne⟩
      · exact hrest ht

theorem clauseTerms_pairwise (ws : List Int) : ∀ (k : Nat),
    (clauseTerms k ws).Pairwise (fun a b => varIdx a.2 ≠ varIdx b.2) := by
  induction ws with
  | nil => intro k; exact List.Pairwise.nil
  | cons w ws ih =>
    intro k
    rw [clauseTerms_cons]
    by_cases hw : w = 0
    · rw [if_pos hw]; exact ih (k+1)
    · rw [if_neg hw, List.pairwise_cons]
      refine ⟨fun t ht => ?_, ih (k+1)⟩
      have := (clauseTerms_var ws (k+1) t ht).1
      have hv : varIdx (posLit k w) = k := (posLit_spec k hw).1
      show varIdx (posLit k w) ≠ varIdx t.2
      omega

theorem clauseTerms_ok (ws : List Int) : TermsOk ws.length (clauseTerms 0 ws) :=
  ⟨clauseTerms_pairwise ws 0,
   fun t ht => by
     obtain ⟨_, h2, h3⟩ := clauseTerms_var ws 0 t ht
     exact ⟨h3, by omega⟩,
   fun _ => clauseTerms_pos⟩

theorem TermsOk.perm {n : Nat} {xs ys : List (Int × Int)} (h : xs.Perm ys) (hok : TermsOk n ys) :
    TermsOk n xs :=
  ⟨(h.pairwise_iff (fun h' => Ne.symm h')).mpr hok.dist,
   fun t ht => hok.lit t (h.mem_iff.mp ht), fun t ht => hok.pos t (h.mem_iff.mp ht)⟩

theorem TermsOk.suffix {n : Nat} {pre ys : List (Int × Int)} (hok : TermsOk n (pre ++ ys)) :
    TermsOk n ys :=
  ⟨(List.pairwise_append.mp hok.dist).2.1,
   fun t ht => hok.lit t (List.mem_append_right _ ht), fun t ht => hok.pos t (List.mem_append_right _ ht)⟩

theorem TermsOk.reverse {n : Nat} {ts : List (Int × Int)} (hok : TermsOk n ts) : TermsOk n ts.reverse :=
  TermsOk.perm (List.reverse_perm ts) hok

theorem TermsOk.sat {n : Nat} {t : Int × Int} {rr : List (Int × Int)} (d : Int) (hd : 0 < d)
    (hok : TermsOk n (t :: rr)) : TermsOk n ((if t.1 > d then (d, t.2) else t) :: rr) := by
  have hp := List.pairwise_cons.mp hok.dist
  have h2 : (if t.1 > d then (d, t.2) else t).2 = t.2 := by split <;> rfl
  refine ⟨?_, ?_, ?_⟩
  · rw [List.pairwise_cons]
    exact ⟨fun a ha => by rw [h2]; exact hp.1 a ha, hp.2⟩
  · intro x hx
    rcases List.mem_cons.mp hx with rfl | hx
    · rw [h2]; exact hok.lit t (by simp)
    · exact hok.lit x (by simp [hx])
  · intro x hx
    rcases List.mem_cons.mp hx with rfl | hx
    · split
      · exact hd
      · exact hok.pos t (by simp)
    · exact hok.pos x (by simp [hx])

theorem simplify_learned {n : Nat} {ts : List (Int × Int)} {card : Int} {us : List Int}
    {c : List (Int × Int) × Int} (hs : simplifyTerms ts card = .done us (some c))
    (hok : TermsOk n ts) :
    TermsOk n c.1 ∧ ∀ x ∈ ts.map (·.2), x ∈ us ∨ x ∈ c.1.map (·.2) := by
  obtain ⟨pre, post, rfl, rfl, _, _, _, ⟨_, hc⟩ | ⟨hd, t, r, rfl, hc⟩⟩ := simplify_done hs
  · cases hc
  · cases hc
    have h2 : (if t.1 > card - weightSum pre then (card - weightSum pre, t.2) else t).2 = t.2 := by
      split <;> rfl
    refine ⟨TermsOk.sat _ (by omega) hok.suffix, fun x hx => ?_⟩
    rw [List.map_append] at hx
    exact (List.mem_append.mp hx).imp id fun hx => by simpa only [List.map_cons, h2] using hx

/-- **The learned constraint as a pbSet**: `pbOf` of the remainder that `SimplifyPB` makes of the raw
    pbSet `q`. Whatever set of literals is counted, if it holds the units and leaves `q` below its
    degree, it leaves the learned constraint below its degree; and a literal of `q` that is not a
    unit keeps its position and sign. -/
theorem simpOf_learned {n : Nat} {q : PbSet} {us : List Int} {c : List (Int × Int) × Int}
    (hlen : q.weights.length = n) (hs : simpOf q = .done us (some c)) :
    (∀ (s : Nat → Bool → Prop) [∀ j p, Decidable (s j p)], (∀ x ∈ us, litSel s x) →
      sumPos (selW s) 0 q.weights < q.card →
      sumPos (selW s) 0 (pbOf n ⟨c.1, c.2⟩).weights < c.2) ∧
    ∀ x ∈ (sortTerms (clauseTerms 0 q.weights)).map (·.2), x ∈ us ∨
      ((pbOf n ⟨c.1, c.2⟩).weights.getD (varIdx x) 0 ≠ 0 ∧
       ((pbOf n ⟨c.1, c.2⟩).weights.getD (varIdx x) 0 > 0 ↔ x > 0)) := by
  have hokS : TermsOk n (sortTerms (clauseTerms 0 q.weights)) :=
    TermsOk.perm (sortTerms_perm _) (hlen ▸ clauseTerms_ok q.weights)
  obtain ⟨hokC, hlitsC⟩ := simplify_learned hs hokS
  constructor
  · intro s _ hcount hlt
    show sumPos (selW s) 0 (pbWeights n c.1.reverse) < c.2
    rw [sumPos_pbWeights _ n _ (TermsOk.reverse hokC), litSum_perm _ (List.reverse_perm _)]
    refine Int.not_le.mp fun hle => Int.not_le.mpr ?_
      ((simplify_equiv_sel _ _ _ (fun t ht => Int.le_of_lt (hokS.pos t ht)) us (some c) hs).mpr
        ⟨hcount, fun r hr => by cases hr; exact hle⟩)
    rw [litSum_perm _ (sortTerms_perm _), litSum_clauseTerms]; exact hlt
  · intro x hx
    rcases hlitsC x hx with hin | hin
    · exact Or.inl hin
    · obtain ⟨t', ht', rfl⟩ := List.mem_map.mp hin
      have hw : (pbOf n ⟨c.1, c.2⟩).weights.getD (varIdx t'.2) 0 = signedW t' :=
        pbWeights_mem n _ (TermsOk.reverse hokC) t' (List.mem_reverse.mpr ht')
      rw [hw]; exact Or.inr (signedW_sign (hokC.pos t' ht'))

/-- **Asserting.** In the `learned c unit btLvl` case, after the backjump to `btLvl` the variable
    of `unit` is unbound, `unit` occurs in `c` (with its own sign), and the literals of `c` other
    than `unit` that are not falsified weigh less than the degree of `c`: `c` propagates `unit`
    (or is conflicting) at `btLvl`. -/
theorem cpAnalyze_asserting : cpAnalyze_asserting_statement := by
  intro prob s h
  unfold assertingOk
  cases hres : (cpAnalyze s).res with
  | unsat => rfl
  | units ls => rfl
  | learnedNil u b => rfl
  | stuck w => rfl
  | learned c u b =>
    obtain ⟨q0, _, hq0, _⟩ := (cpAnalyze_spec prob s h).reads.learned c u b hres
    obtain ⟨pb, lvl, m, rt, l, F, he⟩ := cpAnalyze_finish prob s h hq0
    rw [he] at hres
    obtain ⟨q, us, hraw, hs, hu, hb, hold⟩ := (finish_spec pb m l).learned c u b hres
    have hq := (finish_spec pb m l).raw q hraw
    rw [varIdx_neg] at hq
    have h2 : 2 ≤ lvl := by
      apply Classical.byContradiction
      intro hn
      have h1 : lvl = 1 := by have := F.lvl_pos; omega
      exact (F.lvl1_answer h1).1 c u b hres
    obtain ⟨RA1, RA2, RA3⟩ := F.raw_asserting h2 q hq s.trail rfl
    subst hu hb
    simp only []
    have hqlen : q.weights.length = s.n := by
      rw [roundToOne_length _ _ m _ hq]
      exact derivable_length prob s.n F.inv.width pb F.inv.der
    obtain ⟨hsum, hlit⟩ := simpOf_learned hqlen hs
    generalize hmbt : modelUpTo s.n (backtrackLevel pb.weights m (-l)).toNat s.trail = mbt
      at RA1 RA2 RA3 ⊢
    -- every unit found by `SimplifyPB` is counted after the backjump
    have hcount : ∀ x ∈ us, litSel (modSel mbt fun i => i == varIdx l) x := by
      intro x hx
      have hxo := hold x hx
      obtain ⟨hx1, hx2⟩ := newFact_false hxo
      refine decide_eq_true ⟨?_, ?_⟩
      · simp only [beq_eq_false_iff_ne, ne_eq]
        intro hv
        rw [hv, F.modelAt_l.1] at hx1
        omega
      · rw [RA3 x hxo]
        exact Or.inr (decide_eq_decide.mpr hx2)
    -- `-l` is a literal of the raw pbSet and not a unit
    rcases hlit _ (F.neg_mem_raw q hq) with hin | ⟨hw0, hwsign⟩
    · have := hold _ hin
      rw [newFact_neg_true m l F.modelAt_l.2.2 F.modelAt_l.2.1] at this
      cases this
    · simp only [Bool.and_eq_true, decide_eq_true_eq, beq_iff_eq, decide_eq_decide, ne_eq,
        decide_not, Bool.not_eq_true', decide_eq_false_iff_not]
      refine ⟨⟨by rw [varIdx_neg]; exact RA1, hw0, hwsign⟩, ?_⟩
      rw [freeSumB_eq, varIdx_neg, freeSum_eq]
      exact hsum _ hcount (by rw [← freeSum_eq]; exact RA2)

/-- the hypotheses of the three theorems hold on the real states of `GS.Props.C14_CpAnalyze` -/
example : cpInv ex1prob ex1 = true ∧ decisionsOk ex1.trail.reverse = true := by decide +kernel
example : cpInv ex2prob ex2 = true ∧ decisionsOk ex2.trail.reverse = true := by decide +kernel
example : cpInv ex3prob ex3 = true ∧ decisionsOk ex3.trail.reverse = true := by decide +kernel
example : assertingOk ex2 = true ∧ progressOk ex2 = true := by decide +kernel

/-- **`decisionsOk` cannot be dropped from `cpAnalyze_fuel`.** Trail `x1@2 x2@2`, both without
    reason (so `x2` is a reason-less literal that is not the first of its level), conflict
    `¬x1 + ¬x2 ≥ 1`: the state meets `cpInv`, two literals of level 2 falsify the resolvent, the
    literal on top has no reason, and every iteration leaves the state unchanged: the mirror runs
    out of fuel, the Go function does not return.
    In the `cpanalyze` op syntax: `cpanalyze 2 | 1 1 -1 1 -2 | 1 2 ; 2 2 | 0 ; 0`. -/
def exLoop : State :=
  ⟨2, 2, ⟨[(1, -1), (1, -2)], 1⟩, [⟨1, 2, none⟩, ⟨2, 2, none⟩]⟩

example : cpInv [pbOf 2 ⟨[(1, -1), (1, -2)], 1⟩] exLoop = true ∧
    decisionsOk exLoop.trail.reverse = false ∧
    (cpAnalyze exLoop).res = .stuck .fuel := by decide +kernel

#print axioms cpAnalyze_fuel
#print axioms cpAnalyze_asserting
#print axioms cpAnalyze_progress

end GS.Cp
