import GS.Check.Brute
import GS.Check.Rup
/-!
# C08 — The certificate checker only accepts consequences; unsat subsets are unsat

The oracles that judge the implementation's answers for this property in the harness are proved
in the imported modules, over *all* inputs: those of `GS.Check.Brute` to be exactly the
specification (`entailsB_iff`, `bruteCnfSat_iff`), the RUP checker of `GS.Check.Rup` to be sound
(`rupValid_sound`, `rupRefutes_sound`).  The theorems about the mirror of package `explain` are in
`GS/Props/C08_Explain.lean` and `GS/Props/C08_Complete.lean`.
-/
namespace GS
end GS
