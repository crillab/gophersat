import GS.Check.Brute
/-!
# C07 — Extracted MUSes are unsatisfiable, minimal sub-multisets of the input

The oracles `bruteCnfSat` and `isMUSB` that judge every answer of the implementation in the harness
are proved to be exactly the specification, over all inputs with literals in `1..n`, in
`GS.Check.Brute` (`bruteCnfSat_iff`, `isMUSB_iff`). The theorems about the mirrors of the MUS strategies are in `C07_Mus` and
`C07_MaxSatFixed`.
-/
