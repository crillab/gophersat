import GS.Model.OpbFull
import GS.Props.C13_Formats
import GS.Props.C02_SimplifyPB
/-!
# C13 — `solver.ParseOPB` end to end: the problem it returns has exactly the models the text denotes

`GS.OpbFull.parseOpbFull` (`GS/Model/OpbFull.lean`) is the token-level front
(`GS.Formats.parseOpbLines`, proved in `C13_Formats`) followed by the mirror of `ParseOPB`'s own
tail (unit loop, `simplifyPB`; `GS.Simplify`, proved in `C01_Simplify` / `C02_SimplifyPB`).

On any text on which the mirror answers, the tail keeps the models of what the front kept
(`parseOpbFull_equiv`, from `front_kept_wok` and `tailOpb_equiv`; no other hypothesis on the text).
On a rendering of a well-formed OPB file the front ends in a state satisfying `FInv`
(`front_render_inv`), under which the tail neither errors nor panics (`tailOpb_ok`), whence
`parseOpbFull_render`.
-/
namespace GS.OpbFull
open GS GS.Constr GS.Formats GS.Simplify

theorem bindUnitsChk_ok (us m : List Int) (h : ∀ u ∈ us, u ≠ 0 ∧ varOf u < m.length) :
    bindUnitsChk us m = .ok (bindUnits us m) := by
  fun_induction bindUnitsChk us m with
  | case1 => rfl
  | case2 u us m hg => exact absurd (h u List.mem_cons_self) (by omega)
  | case3 u us m _ h0 ih =>
    rw [bindUnits, if_pos h0]
    exact ih fun x hx => by simpa using h x (List.mem_cons_of_mem _ hx)
  | case4 u us m _ h0 hc => rw [bindUnits, if_neg h0, if_pos hc]
  | case5 u us m _ h0 hc ih =>
    rw [bindUnits, if_neg h0, if_neg hc]
    exact ih fun x hx => h x (List.mem_cons_of_mem _ hx)

/-- When the checked loop does not panic it has run `bindUnits` on a prefix of the units, all of
    them in range; the prefix is everything unless two units conflict. -/
theorem bindUnitsChk_pre (us m : List Int) (r : List Int × Bool) (h : bindUnitsChk us m = .ok r) :
    ∃ pre suf, us = pre ++ suf ∧ (∀ u ∈ pre, u ≠ 0 ∧ varOf u < m.length) ∧ bindUnits pre m = r ∧
      (r.2 = false → suf = []) := by
  fun_induction bindUnitsChk us m with
  | case1 m => exact ⟨[], [], rfl, fun _ hx => (nomatch hx), Except.ok.inj h, fun _ => rfl⟩
  | case2 => cases h
  | case3 u us m hg h0 ih =>
    obtain ⟨pre, suf, e, hp, hb, hs⟩ := ih h
    refine ⟨u :: pre, suf, by rw [e]; rfl, List.forall_mem_cons.2 ⟨by omega, ?_⟩, ?_, hs⟩
    · simpa using hp
    · rw [bindUnits, if_pos h0]; exact hb
  | case4 u us m hg h0 hc =>
    refine ⟨[u], us, rfl, List.forall_mem_cons.2 ⟨by omega, fun _ hx => (nomatch hx)⟩, ?_, ?_⟩
    · rw [bindUnits, if_neg h0, if_pos hc]; exact Except.ok.inj h
    · rw [← Except.ok.inj h]; exact fun hx => (nomatch hx)
  | case5 u us m hg h0 hc ih =>
    obtain ⟨pre, suf, e, hp, hb, hs⟩ := ih h
    refine ⟨u :: pre, suf, by rw [e]; rfl, List.forall_mem_cons.2 ⟨by omega, hp⟩, ?_, hs⟩
    rw [bindUnits, if_neg h0, if_neg hc]; exact hb

theorem simplifyPBU_status (pb : Pb) (h : pb.status = .unsat) : (simplifyPBU pb).status = .unsat := by
  unfold simplifyPBU
  simp only
  split
  · apply addUnit_unsat; simpa [replicateUnits] using h
  · simpa [replicateUnits] using h

theorem litsInRange_iff (n : Nat) (ls : List Int) :
    litsInRange n ls = true ↔ ∀ l ∈ ls, l ≠ 0 ∧ l.natAbs ≤ n :=
  clauseWf_iff n ls

theorem opbLines_preserve (P : OpbState → Prop) (ls : List Line) (st st' : OpbState)
    (hl : ∀ l ∈ ls, ∀ s s', P s → opbLine s l = .ok s' → P s') (hp : P st)
    (h : opbLines st ls = .ok st') : P st' := by
  fun_induction opbLines st ls with
  | case1 st => cases h; exact hp
  | case2 => cases h
  | case3 st l ls s1 h1 ih =>
    exact ih (fun l' hl' => hl l' (List.mem_cons_of_mem _ hl')) (hl l List.mem_cons_self st s1 hp h1) h

theorem opbTerms_len (len : Nat) (i : Nat) (nb : Int) (toks : List Tok) :
    ∀ (ws ls : List Int) (nb' : Int), opbTerms len i nb toks = .ok (ws, ls, nb') → ws.length = ls.length := by
  fun_induction opbTerms len i nb toks <;> intro ws ls nb' h
  case case1 => cases h; rfl
  case case6 hx ih => cases h; exact congrArg Nat.succ (ih _ _ _ hx)
  case case12 hx ih => cases h; exact congrArg Nat.succ (ih _ _ _ hx)
  -- every other branch is an error
  all_goals cases h

theorem opbConstrLine_wok (st st' : OpbState) (fields : List Tok) (hinv : ∀ k ∈ st.kept, WOk k)
    (h : opbConstrLine st fields = .ok st') : ∀ k ∈ st'.kept, WOk k := by
  revert h
  -- only the last branch but one answers
  fun_cases opbConstrLine st fields <;> intro h <;> cases h
  rename_i rel _ _ _ ws ls nb hterms _ cs hmade _
  have hlen := (opbTerms_len _ _ _ _ _ _ _ hterms).symm
  have hcs : ∀ c ∈ cs, WOk c := by
    cases rel with
    | eq => exact fun c hc => (eq_out ls ws _ cs hlen hmade c hc).1
    | ge =>
      obtain ⟨p, hp, rfl⟩ := Option.map_eq_some_iff.1 hmade
      exact fun q hq => List.mem_singleton.1 hq ▸ (gtEq_out ls ws _ p hlen hp).1
  exact (opbFront_inv (fun _ => True) WOk cs
    { st with nbVars := nb, constrs := st.constrs ++ cs } (fun _ _ => trivial) hinv
    (fun c hc => ⟨fun _ _ => trivial, fun _ => hcs c hc⟩)).2

theorem opbLine_wok (st st' : OpbState) (line : Line) (hinv : ∀ k ∈ st.kept, WOk k)
    (h : opbLine st line = .ok st') : ∀ k ∈ st'.kept, WOk k := by
  revert h
  fun_cases opbLine st line <;> intro h
  case case7 => exact opbConstrLine_wok _ _ _ hinv h
  -- a skipped line and the objective line leave `kept` alone; the other branches are errors
  all_goals cases h
  all_goals exact hinv

/-- **The front, on any text.** Every constraint the case analysis keeps has explicit weights,
    as many as literals, all positive (`GtEq`'s normalisation). -/
theorem front_kept_wok (lines : List Line) (st : OpbState) (h : parseOpbLines lines = .ok st) :
    ∀ k ∈ st.kept, WOk k :=
  opbLines_preserve (fun s => ∀ k ∈ s.kept, WOk k) lines {} st
    (fun l _ s s' hs hl => opbLine_wok s s' l hs hl) (by simp) h

/-- **The tail of `ParseOPB`** (`Model`, the unit loop, `simplifyPB`), from any state `st` of the
    front whose kept constraints have positive weights (`WOk`; always the case: `front_kept_wok`):
    `Unsat` only if what the front kept has no model; otherwise the units and constraints of
    the result have exactly its models. -/
theorem tailOpb_equiv (st : OpbState) (pb : Pb) (hw : ∀ k ∈ st.kept, WOk k)
    (h : tailOpb st = .ok pb) :
    (pb.status = .unsat → ∀ a, st.frontSem a = false) ∧
    (pb.status ≠ .unsat → ∀ a, (st.frontSem a = true ↔ SemL a pb.units pb.clauses)) := by
  revert h
  -- three branches answer: conflicting units, `simplifyPBU`, `simplifyPB`
  fun_cases tailOpb st <;> intro h <;> cases h
  case case3 _ _ _ m hb =>
    obtain ⟨pre, suf, e, hp, hbu, _⟩ := bindUnitsChk_pre _ _ _ hb
    have S := bindUnits_spec pre (List.replicate st.nbVars.toNat 0) [] (MInv.init _) hp
    rw [hbu] at S
    refine ⟨fun _ a => ?_, fun hne => absurd rfl hne⟩
    rw [Bool.eq_false_iff]
    intro hs
    have hall := ((frontSem_true_iff a st).mp hs).2.1
    exact S.2.2 rfl a fun x hx => hall x (by rw [e]; exact List.mem_append_left _ hx)
  case case5 hu =>
    exact ⟨fun _ a => by simp [OpbState.frontSem, hu], fun hne => absurd (simplifyPBU_status _ rfl) hne⟩
  case case6 _ hcard _ m hb hrange hu =>
    obtain ⟨pre, suf, e, hp, hbu, hsuf⟩ := bindUnitsChk_pre _ _ _ hb
    rw [hsuf rfl, List.append_nil] at e
    subst e
    have S := bindUnits_spec st.units (List.replicate st.nbVars.toNat 0) [] (MInv.init _) hp
    rw [hbu] at S
    obtain ⟨hlen, hinv, _⟩ := S
    have hinv := hinv rfl
    simp only [List.nil_append, List.length_replicate] at hinv hlen
    -- the guards of the tail are the hypotheses of `kept_ok`
    have hk : ∀ k ∈ st.kept, PbClOk st.nbVars.toNat (newPBClause k) ∧
        ∀ a, ((newPBClause k).lin.holds a = true ↔ k.sem a = true) := fun k hk => by
      have hr := (litsInRange_iff _ _).mp (List.all_eq_true.mp (by simpa using hrange) k hk)
      refine kept_ok _ k (wok_normal k (hw k hk) fun l hl => (hr l hl).1) ?_ hr
      have : ¬ k.atLeast < 1 := fun hlt => hcard (List.any_eq_true.mpr ⟨k, hk, by simpa using hlt⟩)
      omega
    have hsem : ∀ a, (st.frontSem a = true ↔ SemL a st.units (st.kept.map newPBClause)) := by
      intro a
      rw [frontSem_true_iff]
      unfold SemL
      simp only [Bool.eq_false_iff.mpr hu, true_and, List.mem_map, forall_exists_index, and_imp,
        forall_apply_eq_imp_iff₂]
      exact and_congr_right fun _ => forall₂_congr fun k h => ((hk k h).2 a).symm
    have E := simplifyPB_equiv_partial
      ⟨st.nbVars.toNat, st.kept.map newPBClause, .indet, st.units, m⟩ rfl hinv
      (fun u hu => (hp u hu).1)
      (by
        intro c hc
        obtain ⟨k, h, rfl⟩ := List.mem_map.1 hc
        simp only [hlen]
        exact (hk k h).1)
    refine ⟨fun hst a => ?_, fun hne a => (hsem a).trans (E.2 hne a)⟩
    rw [Bool.eq_false_iff]
    exact fun hs => E.1 hst a ((hsem a).mp hs)

theorem simplifyPBU_nbVars (pb : Pb) : (simplifyPBU pb).nbVars = pb.nbVars := by
  unfold simplifyPBU
  simp only
  split
  · rw [addUnit_nbVars]; rfl
  · rfl

theorem tailOpb_nbVars (st : OpbState) (pb : Pb) (h : tailOpb st = .ok pb) :
    pb.nbVars = st.nbVars.toNat := by
  revert h
  fun_cases tailOpb st <;> intro h <;> cases h
  · rfl
  · exact simplifyPBU_nbVars _
  · exact simplifyPB_nbVars _

/-- **C13, `ParseOPB` on any text that parses.** `st` is the state the scanner loop ends in
    (`parseOpbLines`), whose meaning is `st.frontSem` (no line found unsatisfiable, every unit
    true, every kept constraint true; `C13_Formats.opbFront_spec`: line by line these are the
    models of the `PBConstr`s `GtEq` / `Eq` returned). The cost function is the one the front
    stored; `Unsat` is answered only when there is no model; otherwise the models of the result's
    units and constraints are exactly those models. -/
theorem parseOpbFull_equiv (lines : List Line) (st : OpbState) (r : Pb × Option (List (Int × Int)))
    (hfront : parseOpbLines lines = .ok st) (h : parseOpbFull lines = .ok r) :
    r.2 = st.obj ∧ r.1.nbVars = st.nbVars.toNat ∧
    (r.1.status = .unsat → ∀ a, st.frontSem a = false) ∧
    (r.1.status ≠ .unsat → ∀ a, (st.frontSem a = true ↔ SemL a r.1.units r.1.clauses)) := by
  revert h
  fun_cases parseOpbFull lines <;> intro h <;> cases h
  rename_i st1 h1 pb ht
  cases hfront.symm.trans h1
  exact ⟨rfl, tailOpb_nbVars st pb ht, tailOpb_equiv st pb (front_kept_wok lines st hfront) ht⟩

/-- What the three guards of `tailOpb` ask of the front's state: units non-null and within
    `nbVars`; kept constraints in normal form, of degree ≥ 1, with literals within `nbVars`. -/
def FInv (st : OpbState) : Prop :=
  (∀ u ∈ st.units, u ≠ 0 ∧ (u.natAbs : Int) ≤ st.nbVars) ∧
  (∀ k ∈ st.kept, k.normal = true ∧ 1 ≤ k.atLeast ∧ ∀ l ∈ k.lits, (l.natAbs : Int) ≤ st.nbVars)

theorem FInv.mono {st : OpbState} (h : FInv st) (nb : Int) (hnb : st.nbVars ≤ nb) (cs : List PBC) :
    FInv { st with nbVars := nb, constrs := cs } := by
  refine ⟨fun u hu => ?_, fun k hk => ?_⟩
  · obtain ⟨h1, h2⟩ := h.1 u hu
    exact ⟨h1, by simp only; omega⟩
  · obtain ⟨h1, h2, h3⟩ := h.2 k hk
    exact ⟨h1, h2, fun l hl => by have := h3 l hl; simp only; omega⟩

theorem FInv_constrStep (st : OpbState) (c : OpbConstr) (hwf : c.wf = true) (hinv : FInv st) :
    FInv (constrStep st c) := by
  obtain ⟨hnb1, hnb2⟩ := le_nbAfter c.terms st.nbVars
  obtain ⟨_, hout, hsem⟩ := pbcsOf_spec c
  have hnorm := (hsem (c.wf_iff.1 hwf).1).2
  unfold constrStep
  generalize nbAfter st.nbVars c.terms = nb at hnb1 hnb2 ⊢
  have hbound : ∀ p ∈ pbcsOf c, ∀ l ∈ p.lits, (l.natAbs : Int) ≤ nb := by
    intro p hp l hl
    obtain ⟨l', hl', e⟩ := (hout p hp).2 l hl
    obtain ⟨t, ht, rfl⟩ := List.mem_map.1 hl'
    have := hnb2 t ht
    omega
  have M := hinv.mono nb hnb1 (st.constrs ++ pbcsOf c)
  unfold FInv
  rw [(opbFront_fields _ _).1]
  exact opbFront_inv (fun u => u ≠ 0 ∧ (u.natAbs : Int) ≤ nb)
    (fun k => k.normal = true ∧ 1 ≤ k.atLeast ∧ ∀ l ∈ k.lits, (l.natAbs : Int) ≤ nb)
    (pbcsOf c) { st with nbVars := nb, constrs := st.constrs ++ pbcsOf c } M.1 M.2
    (fun p hp => ⟨fun l hl => ⟨normal_lits_ne p (hnorm p hp) l hl, hbound p hp l hl⟩,
      fun h1 => ⟨hnorm p hp, h1, hbound p hp⟩⟩)

theorem front_render_inv (o : Opb) (lay : OpbLayout) (hwf : o.wf = true) (r : OpbState)
    (h : parseOpbLines (o.renderLines lay) = .ok r) : FInv r := by
  have hwf' : ∀ c ∈ o.constrs, c.wf = true := List.all_eq_true.1 hwf
  rw [parseOpbLines_render o lay fun c hc => (c.wf_iff.1 (hwf' c hc)).2, Except.ok.injEq] at h
  subst h
  have h0 : FInv (objState o.objective) := by
    cases o.objective <;> exact ⟨fun _ h => (nomatch h), fun _ h => (nomatch h)⟩
  exact List.foldlRecOn _ constrStep h0 fun st h c hc => FInv_constrStep st c (hwf' c hc) h

/-- Under `FInv` the tail neither panics nor leaves the modelled domain. -/
theorem tailOpb_ok (st : OpbState) (hinv : FInv st) : ∃ pb, tailOpb st = .ok pb := by
  have hany : st.kept.any (fun k => decide (k.atLeast < 1)) = false := by
    rw [List.any_eq_false]
    intro k hk
    have := (hinv.2 k hk).2.1
    simp only [decide_eq_true_eq]; omega
  have hunits : ∀ u ∈ st.units,
      u ≠ 0 ∧ varOf u < (List.replicate st.nbVars.toNat (0 : Int)).length := by
    intro u hu
    obtain ⟨h1, h2⟩ := hinv.1 u hu
    refine ⟨h1, ?_⟩
    simp only [List.length_replicate]; unfold varOf; omega
  have hrange : st.kept.all (fun k => litsInRange st.nbVars.toNat k.lits) = true := by
    rw [List.all_eq_true]
    intro k hk
    rw [litsInRange_iff]
    intro l hl
    obtain ⟨hn, _, hb⟩ := hinv.2 k hk
    exact ⟨normal_lits_ne k hn l hl, by have := hb l hl; omega⟩
  unfold tailOpb
  simp only [hany, Bool.false_eq_true, if_false, bindUnitsChk_ok _ _ hunits, hrange, Bool.not_true]
  cases bindUnits st.units (List.replicate st.nbVars.toNat 0) with
  | mk m b =>
    cases b
    · simp only; split <;> exact ⟨_, rfl⟩
    · exact ⟨_, rfl⟩

/-- **C13, OPB, end to end.** For every well-formed abstract OPB file `o` and every layout of its
    text, `solver.ParseOPB` succeeds (no error, no panic), stores `o`'s objective (same value
    under every assignment), answers `Unsat` only if `o` has no model, and otherwise returns
    units and PB constraints whose models are exactly the models of `o`. -/
theorem parseOpbFull_render (o : Opb) (lay : OpbLayout) (hwf : o.wf = true) :
    ∃ pb obj, parseOpbFull (o.renderLines lay) = .ok (pb, obj) ∧
      obj = o.objective ∧ (∀ a, cost (obj.getD []) a = o.cost a) ∧
      (pb.status = .unsat → ∀ a, o.sem a = false) ∧
      (pb.status ≠ .unsat → ∀ a, (o.sem a = true ↔ SemL a pb.units pb.clauses)) := by
  obtain ⟨r, hr, hobj, _, _, _, hfs, hcost⟩ := parseOpb_render o lay hwf
  have hinv := front_render_inv o lay hwf r hr
  obtain ⟨pb, ht⟩ := tailOpb_ok r hinv
  have E := tailOpb_equiv r pb (front_kept_wok _ r hr) ht
  refine ⟨pb, r.obj, ?_, hobj, hcost, ?_, ?_⟩
  · unfold parseOpbFull
    rw [hr]
    simp only [ht]
  · intro hs a; rw [← hfs a]; exact E.1 hs a
  · intro hs a; rw [← hfs a]; exact E.2 hs a

/-- The result as the examples below state it: `Status`, `NbVars`, `Units`, `Clauses`, the objective
    (the fields the harness compares, through the driver op `popbfull`). -/
structure Summary where
  status : Status
  nbVars : Nat
  units : List Int
  clauses : List Cl
  obj : Option (List (Int × Int))
deriving DecidableEq, Repr

def summary (r : Except String (Pb × Option (List (Int × Int)))) : Option Summary :=
  match r with
  | .error _ => none
  | .ok (pb, obj) => some ⟨pb.status, pb.nbVars, pb.units, pb.clauses, obj⟩

def failure (r : Except String (Pb × Option (List (Int × Int)))) : Option String :=
  match r with
  | .error e => some e
  | .ok _ => none

/-- `+2 x1 +2 x2 +1 x3 +1 x4 = 1 ;` — `Eq` gives `2 x1 + 2 x2 + x3 + x4 ≥ 1` and
    `2 ~x1 + 2 ~x2 + ~x3 + ~x4 ≥ 5`; `simplifyPB` forces `~x1`, `~x2` from the second one and
    leaves `x4 + x3 ≥ 1` and `~x4 + ~x3 ≥ 1` (`removeLit` moved the last term forward). -/
example :
    summary (parseOpbFull [[.int 2, .word "x1", .int 2, .word "x2", .int 1, .word "x3", .int 1, .word "x4",
        .word "=", .int 1, .word ";"]]) =
      some ⟨.indet, 4, [-1, -2], [⟨[4, 3], some [1, 1], 1⟩, ⟨[-4, -3], some [1, 1], 1⟩], none⟩ := by
  decide +kernel

/-- `* two units` / `1 x1 >= 1 ;` / `1 ~x1 1 x2 >= 2 ;` — refuted by the unit loop (`x1`, `~x1`). -/
example :
    summary (parseOpbFull [[.word "*", .word "two", .word "units"],
        [.int 1, .word "x1", .word ">=", .int 1, .word ";"],
        [.int 1, .word "~x1", .int 1, .word "x2", .word ">=", .int 2, .word ";"]]) =
      some ⟨.unsat, 2, [1, -1, 2], [], none⟩ := by
  decide +kernel

/-- `min: 1 x1 -2 ~x2 x3 ;` / empty line / `3 x1 2 x2 1 x3 >= 4 ;` — the objective is stored as
    written (negative weight, omitted coefficient), `x1` is forced, `x3 + 2 x2 ≥ 1` remains. -/
example :
    summary (parseOpbFull [[.word "min:", .int 1, .word "x1", .int (-2), .word "~x2", .word "x3", .word ";"], [],
        [.int 3, .word "x1", .int 2, .word "x2", .int 1, .word "x3", .word ">=", .int 4, .word ";"]]) =
      some ⟨.indet, 3, [1], [⟨[3, 2], some [1, 2], 1⟩], some [(1, 1), (-2, -2), (1, 3)]⟩ := by
  decide +kernel

/-- `1 x1 >= 2 ;` / `3 x1 1 x2 1 x3 >= 4 ;` — the first line sets `Unsat`, the second is still
    read; `simplifyPB`, entered with `Status == Unsat`, appends the unit `x1` and returns
    (`simplifyPBU`; Go answers the same: `Status = Unsat`, `Units = [x1]`). -/
example :
    (summary (parseOpbFull [[.int 1, .word "x1", .word ">=", .int 2, .word ";"],
        [.int 3, .word "x1", .int 1, .word "x2", .int 1, .word "x3", .word ">=", .int 4, .word ";"]])).map
      (fun r => (r.status, r.nbVars, r.units)) = some (.unsat, 3, [1]) := by
  decide +kernel

/-- `x0 >= 1 ;` — the null literal becomes a unit and `pb.Model[-1]` panics in the unit loop. -/
example : failure (parseOpbFull [[.word "x0", .word ">=", .int 1, .word ";"]]) =
    some "panic: index out of range" := by
  decide +kernel

/-- `1 x1 >= 1 ;` / `1 ~x1 >= 1 ;` / `1 x0 >= 1 ;` — after two conflicting units the loop returns
    before it gets to the null literal. -/
example :
    summary (parseOpbFull [[.int 1, .word "x1", .word ">=", .int 1, .word ";"],
        [.int 1, .word "~x1", .word ">=", .int 1, .word ";"],
        [.int 1, .word "x0", .word ">=", .int 1, .word ";"]]) = some ⟨.unsat, 1, [1, -1, 0], [], none⟩ := by
  decide +kernel

/-- the hypotheses of `parseOpbFull_equiv` / `parseOpbFull_render` on a concrete file: it is
    well-formed, its rendering is the text of the third example (with a comment line), the front
    parses it and keeps a constraint in normal form -/
example :
    let o : Opb := ⟨some [(1, 1), (-2, -2), (1, 3)], [⟨[(3, 1), (2, 2), (1, 3)], .ge, 4⟩]⟩
    let lay : OpbLayout := { objective := { omits := [false, false, true] },
                             constrs := [{ skips := [none, some [.word "c"]] }] }
    o.wf = true ∧
    o.renderLines lay =
      [[.word "min:", .int 1, .word "x1", .int (-2), .word "~x2", .word "x3", .word ";"], [],
       [.word "*", .word "c"],
       [.int 3, .word "x1", .int 2, .word "x2", .int 1, .word "x3", .word ">=", .int 4, .word ";"]] ∧
    (match parseOpbLines (o.renderLines lay) with
     | .ok st => st.kept.all (·.normal) && st.kept == [⟨[1, 2, 3], some [3, 2, 1], 4⟩]
     | .error _ => false) = true := by
  refine ⟨by decide +kernel, by decide +kernel, by decide +kernel⟩

#print axioms front_kept_wok
#print axioms tailOpb_equiv
#print axioms tailOpb_nbVars
#print axioms parseOpbFull_equiv
#print axioms front_render_inv
#print axioms parseOpbFull_render

end GS.OpbFull
