import GS.Props.C20_ChanBase
/-!
# C16 — `explain.(*Problem).UnsatSubset`

The fixed code communicates the solver status through the buffered channel `done`; this file proves,
on the channel semantics of `GS/Model/Chan.lean`, that for every certificate `vals`, every early-stop
point `k` of the checker and every schedule: no panic, FIFO delivery, single close, no deadlock,
termination, and that the caller's read of the status always happens after the goroutine's write
(`status_read_after_write`), the status being the only datum shared between the two.
-/
namespace GS.Chan

inductive GPc | run | sendDone | done
deriving DecidableEq, Repr

inductive MPc | reading (k : Nat) | draining | waiting | returning | finished
deriving DecidableEq, Repr

/-- the caller has completed `status := <-done` -/
def MPc.past : MPc → Bool
  | .returning => true | .finished => true | _ => false

/-- the caller has left the drain loop `for range s.CertChan {}` -/
def MPc.afterDrain : MPc → Bool
  | .waiting => true | .returning => true | .finished => true | _ => false

/-- Abstract state: `todo` = certificate lines not yet sent by the goroutine, `dbuf` = buffer of
    `done`, `got` = everything the caller received (certificate lines, then the status), `msaw` = the
    caller's `sawClose` (no invariant speaks of it; `ustate` needs it to be the state exactly). -/
structure UA where
  todo : List Nat
  gpc : GPc
  dbuf : List Nat
  mpc : MPc
  got : List Nat
  msaw : Bool

def gproc (st : Nat) (a : UA) : Proc :=
  { code := match a.gpc with
            | .run => a.todo.map (Instr.send 0) ++ [.close 0, .send 1 st]
            | .sendDone => [.send 1 st]
            | .done => [] }

def mproc (a : UA) : Proc :=
  { code := match a.mpc with
            | .reading k => [.rangeMax 0 k, .range 0, .recv 1, .retLast]
            | .draining => [.range 0, .recv 1, .retLast]
            | .waiting => [.recv 1, .retLast]
            | .returning => [.retLast]
            | .finished => [],
    got := a.got, sawClose := a.msaw }

def ustate (st : Nat) (a : UA) : State :=
  { procs := [ gproc st a, mproc a ],
    chans := [ ⟨0, [], decide (a.gpc ≠ .run)⟩, ⟨1, a.dbuf, false⟩ ] }

inductive UStep (st : Nat) : UA → List Event → UA → Prop
  | close0 {dbuf mpc got msaw} :
      UStep st ⟨[], .run, dbuf, mpc, got, msaw⟩ [.closed 0] ⟨[], .sendDone, dbuf, mpc, got, msaw⟩
  | sendDone {todo dbuf mpc got msaw} : dbuf.length < 1 →
      UStep st ⟨todo, .sendDone, dbuf, mpc, got, msaw⟩ [.sent 1 st] ⟨todo, .done, dbuf ++ [st], mpc, got, msaw⟩
  | syncRead {v t dbuf k got msaw} :
      UStep st ⟨v :: t, .run, dbuf, .reading (k + 1), got, msaw⟩ [.sent 0 v, .received 0 v]
        ⟨t, .run, dbuf, .reading k, got ++ [v], msaw⟩
  | syncDrain {v t dbuf got msaw} :
      UStep st ⟨v :: t, .run, dbuf, .draining, got, msaw⟩ [.sent 0 v, .received 0 v]
        ⟨t, .run, dbuf, .draining, got ++ [v], msaw⟩
  | stop {todo gpc dbuf got msaw} :
      UStep st ⟨todo, gpc, dbuf, .reading 0, got, msaw⟩ [.stopped 0] ⟨todo, gpc, dbuf, .draining, got, msaw⟩
  | sawClosedRead {todo gpc dbuf k got msaw} : gpc ≠ .run →
      UStep st ⟨todo, gpc, dbuf, .reading (k + 1), got, msaw⟩ [.sawClosed 0] ⟨todo, gpc, dbuf, .draining, got, true⟩
  | sawClosedDrain {todo gpc dbuf got msaw} : gpc ≠ .run →
      UStep st ⟨todo, gpc, dbuf, .draining, got, msaw⟩ [.sawClosed 0] ⟨todo, gpc, dbuf, .waiting, got, true⟩
  | recvDone {todo gpc v b got msaw} :
      UStep st ⟨todo, gpc, v :: b, .waiting, got, msaw⟩ [.received 1 v] ⟨todo, gpc, b, .returning, got ++ [v], msaw⟩
  | ret {todo gpc dbuf got msaw} :
      UStep st ⟨todo, gpc, dbuf, .returning, got, msaw⟩ [.returned got.getLast?]
        ⟨todo, gpc, dbuf, .finished, got, msaw⟩

/-- The four cases of `lstep2`: the goroutine alone, the rendezvous goroutine → caller, the caller
    alone; the caller never sends. -/
theorem ustate_lstep {st : Nat} {a : UA} {l : List Event} {s' : State} :
    LStep (ustate st a) l s' ↔ ∃ a', UStep st a l a' ∧ s' = ustate st a' := by
  have hp : (ustate st a).procs[0]? = some (gproc st a) := rfl
  have hq : (ustate st a).procs[1]? = some (mproc a) := rfl
  have hc0 : (ustate st a).chans[0]? = some ⟨0, [], decide (a.gpc ≠ .run)⟩ := rfl
  have hc1 : (ustate st a).chans[1]? = some ⟨1, a.dbuf, false⟩ := rfl
  rcases a with ⟨todo, gpc, dbuf, mpc, got, msaw⟩
  constructor
  · intro h
    rcases (lstep2 rfl rfl).mp h with h | h | h | h
    · cases gpc
      · cases todo with
        | nil => rw [localStep_close hp rfl hc0 rfl] at h; cases h; exact ⟨_, .close0, rfl⟩
        | cons v t => cases ((localStep_send hp rfl hc0 rfl).mp h).1
      · obtain ⟨hlt, ⟨⟩⟩ := (localStep_send hp rfl hc1 rfl).mp h
        exact ⟨_, .sendDone hlt, rfl⟩
      · rw [localStep_idle hp rfl] at h; cases h
    · obtain ⟨c, v, p', f, qc, ch, -, ha, hb, hch, -, h0, -, rfl, rfl⟩ := syncStep_inv hp hq h
      cases gpc
      · cases todo <;> cases ha
        rcases mpc with (_ | k) | _ | _ | _ | _ <;> cases hb
        · exact ⟨_, .syncRead, rfl⟩
        · exact ⟨_, .syncDrain, rfl⟩
      · -- `done <- st` is never a rendezvous: `done` has capacity 1
        cases ha; cases hch; cases h0
      · cases ha
    · rcases mpc with (_ | k) | _ | _ | _ | _
      · rw [localStep_tau hq rfl] at h; cases h; exact ⟨_, .stop, rfl⟩
      · obtain ⟨hcl, ⟨⟩⟩ := (localStep_recv_nil hq rfl hc0 rfl).mp h
        exact ⟨_, .sawClosedRead (of_decide_eq_true hcl), rfl⟩
      · obtain ⟨hcl, ⟨⟩⟩ := (localStep_recv_nil hq rfl hc0 rfl).mp h
        exact ⟨_, .sawClosedDrain (of_decide_eq_true hcl), rfl⟩
      · cases dbuf with
        | nil => cases ((localStep_recv_nil hq rfl hc1 rfl).mp h).1
        | cons v b => rw [localStep_recv_cons hq rfl hc1 rfl] at h; cases h; exact ⟨_, .recvDone, rfl⟩
      · rw [localStep_tau hq rfl] at h; cases h; exact ⟨_, .ret, rfl⟩
      · rw [localStep_idle hq rfl] at h; cases h
    · obtain ⟨c, v, p', f, qc, ch, -, ha, -⟩ := syncStep_inv hq hp h
      rcases mpc with (_ | k) | _ | _ | _ | _ <;> cases ha
  · rintro ⟨a', h, rfl⟩
    cases h with
    | close0 => exact .close rfl hp rfl hc0 rfl
    | sendDone hlt => exact .sendBuf rfl hp rfl hc1 rfl hlt
    | syncRead => exact .sync rfl (by decide) hp hq rfl rfl hc0 rfl rfl rfl
    | syncDrain => exact .sync rfl (by decide) hp hq rfl rfl hc0 rfl rfl rfl
    | stop => exact .tau rfl hq rfl
    | sawClosedRead hg => exact .recvClosed rfl hq rfl hc0 rfl (decide_eq_true hg)
    | sawClosedDrain hg => exact .recvClosed rfl hq rfl hc0 rfl (decide_eq_true hg)
    | recvDone => exact .recvVal rfl hq rfl hc1 rfl
    | ret => exact .tau rfl hq rfl

def UAbs (st : Nat) : Abs UA := ⟨ustate st, UStep st, ustate_lstep⟩

def uinit (vals : List Nat) (k : Nat) : UA := ⟨vals, .run, [], .reading k, [], false⟩

theorem unsatSubsetSystem_eq (vals : List Nat) (k st : Nat) :
    unsatSubsetSystem vals k st = ustate st (uinit vals k) := by
  simp [unsatSubsetSystem, ustate, uinit, gproc, mproc]

structure UInv (vals : List Nat) (st : Nat) (tr : List Event) (a : UA) : Prop where
  split : a.got ++ a.todo = vals ++ (if a.mpc.past then [st] else [])
  gpcTodo : a.gpc ≠ .run → a.todo = []
  dbufOk : a.dbuf = if a.gpc = .done ∧ a.mpc.past = false then [st] else []
  drainOk : a.mpc.afterDrain = true → a.gpc ≠ .run
  pastOk : a.mpc.past = true → a.gpc = .done
  recv0 : recvOn 0 tr ++ a.todo = vals
  sent0 : sentOn 0 tr = recvOn 0 tr
  sent1 : sentOn 1 tr = if a.gpc = .done then [st] else []
  recv1 : recvOn 1 tr = if a.mpc.past then [st] else []
  closes0 : closeCount 0 tr = if a.gpc = .run then 0 else 1
  closes1 : closeCount 1 tr = 0
  rets : a.mpc = .finished → Event.returned (some st) ∈ tr
  panics : Event.panicked ∉ tr

theorem UInv.past_done {vals : List Nat} {st : Nat} {tr : List Event} {a : UA} (h : UInv vals st tr a)
    (hp : a.mpc.past = true) : a.gpc = .done ∧ a.todo = [] :=
  have hg := h.pastOk hp
  ⟨hg, h.gpcTodo (by rw [hg]; nofun)⟩

/-- What `done` holds is the status, deposited by the goroutine as its last action and not yet read. -/
theorem UInv.dbuf_cons {vals : List Nat} {st : Nat} {tr : List Event} {a : UA} (h : UInv vals st tr a)
    {v : Nat} {b : List Nat} (hd : a.dbuf = v :: b) : v = st ∧ b = [] ∧ a.gpc = .done := by
  rw [h.dbufOk] at hd
  split at hd
  next hc => cases hd; exact ⟨rfl, rfl, hc.1⟩
  next => cases hd

theorem uinv_init (vals : List Nat) (k st : Nat) : UInv vals st [] (uinit vals k) := by
  constructor <;> simp [uinit, MPc.past, MPc.afterDrain]

/-- The fields of `UInv` about projections of the trace (all that mention `tr` but `rets`): `simp` proves
    them for every rule, given for `recvDone` that the value taken from `done` is `st`. -/
structure UTrace (vals : List Nat) (st : Nat) (tr : List Event) (a : UA) : Prop where
  recv0 : recvOn 0 tr ++ a.todo = vals
  sent0 : sentOn 0 tr = recvOn 0 tr
  sent1 : sentOn 1 tr = if a.gpc = .done then [st] else []
  recv1 : recvOn 1 tr = if a.mpc.past then [st] else []
  closes0 : closeCount 0 tr = if a.gpc = .run then 0 else 1
  closes1 : closeCount 1 tr = 0
  panics : Event.panicked ∉ tr

theorem UInv.trace_step {vals : List Nat} {st : Nat} {tr l : List Event} {a a' : UA}
    (h : UInv vals st tr a) (hs : UStep st a l a') : UTrace vals st (tr ++ l) a' := by
  have ⟨r0, s0, s1, r1, c0, c1, pn⟩ : UTrace vals st tr a := { h with }
  cases hs with
  | recvDone =>
    obtain ⟨rfl, -⟩ := h.dbuf_cons rfl
    constructor <;> simp [r0, s0, s1, r1, c0, c1, pn, MPc.past]
  | _ => constructor <;> simp [r0, s0, s1, r1, c0, c1, pn, MPc.past]

attribute [local simp] MPc.past MPc.afterDrain in
theorem uinv_step (vals : List Nat) (st : Nat) (tr : List Event) (a : UA) (l : List Event) (a' : UA)
    (h : UInv vals st tr a) (hs : UStep st a l a') : UInv vals st (tr ++ l) a' := by
  have t := h.trace_step hs
  cases hs with
  | close0 => exact
    { t, h with
      gpcTodo := fun _ => rfl
      drainOk := fun _ => nofun
      pastOk := fun hp => nomatch h.pastOk hp
      rets := fun hf => List.mem_append_left _ (h.rets hf) }
  | @sendDone todo dbuf mpc got msaw hlt => exact
    { t, h with
      gpcTodo := fun _ => h.gpcTodo nofun
      dbufOk := by
        -- `done` was empty, and the caller is not past its read: `pastOk` would put the goroutine at `.done`
        have hd : dbuf = [] := List.length_eq_zero_iff.mp (Nat.lt_one_iff.mp hlt)
        have hp : mpc.past = false := Bool.eq_false_iff.mpr fun hp => nomatch h.pastOk hp
        subst hd
        exact (if_pos ⟨rfl, hp⟩).symm
      drainOk := fun _ => nofun
      pastOk := fun _ => rfl
      rets := fun hf => List.mem_append_left _ (h.rets hf) }
  | syncRead => exact
    { t, h with
      split := by simpa using h.split
      gpcTodo := by simp
      rets := nofun }
  | syncDrain => exact
    { t, h with
      split := by simpa using h.split
      gpcTodo := by simp
      rets := nofun }
  | stop => exact
    { t, h with
      rets := nofun }
  | sawClosedRead hg => exact
    { t, h with
      rets := nofun }
  | sawClosedDrain hg => exact
    { t, h with
      drainOk := fun _ => hg
      rets := nofun }
  | @recvDone todo gpc v b got msaw =>
    obtain ⟨rfl, rfl, rfl⟩ := h.dbuf_cons rfl
    have ht : todo = [] := h.gpcTodo nofun
    subst ht
    exact
    { t, h with
      split := by simpa using h.split
      gpcTodo := by simp
      dbufOk := by simp
      drainOk := by simp
      pastOk := fun _ => rfl
      rets := nofun }
  | @ret todo gpc dbuf got msaw => exact
    { t, h with
      rets := fun _ => by
        have hs := h.split
        rw [(h.past_done rfl).2] at hs
        simp at hs
        simp [hs] }

theorem usub_reach {vals : List Nat} {k st : Nat} {tr : List Event} {s : State}
    (h : LReach (unsatSubsetSystem vals k st) tr s) :
    ∃ a, s = ustate st a ∧ UInv vals st tr a := by
  rw [unsatSubsetSystem_eq] at h
  exact (UAbs st).reach _ (uinv_init vals k st) (uinv_step vals st) h

/-- Final state of the `UnsatSubset` system: goroutine and caller have run to completion,
    `s.CertChan` is closed, `done` is empty (its value was consumed) and was never closed. -/
def ufinal (s : State) : Prop :=
  s.panic = false ∧ (∀ p ∈ s.procs, p.code = []) ∧
  (∃ cert, s.chans[0]? = some cert ∧ cert.closed = true ∧ cert.buf = []) ∧
  (∃ done, s.chans[1]? = some done ∧ done.closed = false ∧ done.buf = [])

theorem usub_no_panic {vals : List Nat} {k st : Nat} {tr : List Event} {s : State}
    (h : LReach (unsatSubsetSystem vals k st) tr s) : s.panic = false ∧ Event.panicked ∉ tr := by
  rcases usub_reach h with ⟨a, rfl, ha⟩
  exact ⟨rfl, ha.panics⟩

/-- The certificate lines received by the caller (checker + drain loop) are a prefix of
    the lines produced by the solver, in order, and all of them once the drain loop has ended. -/
theorem usub_fifo {vals : List Nat} {k st : Nat} {tr : List Event} {s : State}
    (h : LReach (unsatSubsetSystem vals k st) tr s) :
    ∃ m, s.procs[1]? = some m ∧ recvOn 0 tr <+: vals ∧ recvOn 0 tr <+: m.got ∧
      (Instr.range 0 ∉ m.code → (∀ j, Instr.rangeMax 0 j ∉ m.code) → recvOn 0 tr = vals) := by
  rcases usub_reach h with ⟨a, rfl, ha⟩
  refine ⟨mproc a, rfl, ⟨a.todo, ha.recv0⟩, ?_, ?_⟩
  · have h1 := ha.split
    have h2 := ha.recv0
    show recvOn 0 tr <+: a.got
    cases hp : a.mpc.past
    · simp [hp] at h1
      rw [← h2] at h1
      rw [List.append_cancel_right h1]; exact List.prefix_refl _
    · simp [hp, (ha.past_done hp).2] at h1 h2
      rw [h1, h2]; exact ⟨[st], rfl⟩
  · intro hr hm
    have hd : a.mpc.afterDrain = true := by
      rcases a with ⟨todo, gpc, dbuf, mpc, got, msaw⟩
      rcases mpc with j | _ | _ | _ | _ <;> simp_all [mproc, MPc.afterDrain]
    have ht := ha.gpcTodo (ha.drainOk hd)
    have := ha.recv0
    rw [ht] at this; simpa using this

/-- `s.CertChan` was closed once if closed, never otherwise, by the goroutine
    only (the caller has no `close`); `done` is never closed. -/
theorem usub_closed_once {vals : List Nat} {k st : Nat} {tr : List Event} {s : State}
    (h : LReach (unsatSubsetSystem vals k st) tr s) :
    ∃ g m cert done, s.procs = [g, m] ∧ s.chans = [cert, done] ∧
      closeCount 0 tr = (if cert.closed then 1 else 0) ∧ closeCount 1 tr = 0 ∧ done.closed = false ∧
      (cert.closed = true ↔ Instr.close 0 ∉ g.code) ∧
      (cert.closed = true → sentOn 0 tr = vals ∧ ∀ v, Instr.send 0 v ∉ g.code) ∧
      (∀ c, Instr.close c ∉ m.code) ∧ Instr.close 1 ∉ g.code := by
  rcases usub_reach h with ⟨a, rfl, ha⟩
  refine ⟨_, _, _, _, rfl, rfl, ?_, ha.closes1, rfl, ?_, ?_, ?_, ?_⟩
  · rw [ha.closes0]; cases hpc : a.gpc <;> simp
  · cases hpc : a.gpc <;> simp [gproc, hpc]
  · intro hc
    have hpc : a.gpc ≠ .run := by simpa using hc
    have ht := ha.gpcTodo hpc
    have h0 := ha.recv0
    refine ⟨by rw [ha.sent0, ← h0, ht]; simp, ?_⟩
    intro v
    cases hp : a.gpc <;> simp_all [gproc]
  · intro c
    rcases a with ⟨todo, gpc, dbuf, mpc, got, msaw⟩
    rcases mpc with j | _ | _ | _ | _ <;> simp [mproc]
  · cases hpc : a.gpc <;> simp [gproc, hpc]

def ufinalA (a : UA) : Prop := a.gpc = .done ∧ a.mpc = .finished ∧ a.dbuf = []

theorem gproc_code_nil (st : Nat) (a : UA) : (gproc st a).code = [] ↔ a.gpc = .done := by
  cases h : a.gpc <;> simp [gproc, h]

theorem mproc_code_nil (a : UA) : (mproc a).code = [] ↔ a.mpc = .finished := by
  cases h : a.mpc <;> simp [mproc, h]

theorem ufinal_iff {st : Nat} {a : UA} : ufinal (ustate st a) ↔ ufinalA a := by
  simp [ufinal, ufinalA, ustate, gproc_code_nil, mproc_code_nil]
  constructor
  · rintro ⟨⟨hg, hm⟩, -, hb⟩; exact ⟨hg, hm, hb⟩
  · rintro ⟨hg, hm, hb⟩; simp [hg, hm, hb]

theorem ustep_enabled {vals : List Nat} {st : Nat} {tr : List Event} {a : UA}
    (h : UInv vals st tr a) : ufinalA a ∨ ∃ l a', UStep st a l a' := by
  rcases a with ⟨todo, gpc, dbuf, mpc, got, msaw⟩
  rcases mpc with (_ | k) | _ | _ | _ | _
  · exact Or.inr ⟨_, _, .stop⟩
  · refine Or.inr ?_
    cases gpc
    · cases todo with
      | nil => exact ⟨_, _, .close0⟩
      | cons v t => exact ⟨_, _, .syncRead⟩
    all_goals exact ⟨_, _, .sawClosedRead nofun⟩
  · refine Or.inr ?_
    cases gpc
    · cases todo with
      | nil => exact ⟨_, _, .close0⟩
      | cons v t => exact ⟨_, _, .syncDrain⟩
    all_goals exact ⟨_, _, .sawClosedDrain nofun⟩
  · refine Or.inr ?_
    have hd := h.dbufOk
    cases gpc
    · exact absurd rfl (h.drainOk rfl)
    all_goals simp [MPc.past] at hd; subst hd
    · exact ⟨_, _, .sendDone Nat.one_pos⟩
    · exact ⟨_, _, .recvDone⟩
  · exact Or.inr ⟨_, _, .ret⟩
  · exact Or.inl ⟨h.pastOk rfl, rfl, h.dbufOk.trans (if_neg fun hc => nomatch hc.2)⟩

/-- No deadlock: the solver goroutine is never left blocked on `s.CertChan` (wherever the
    checker stops), the caller is never left blocked on `done`. -/
theorem usub_no_deadlock {vals : List Nat} {k st : Nat} {s : State}
    (h : Reachable (unsatSubsetSystem vals k st) s) : ufinal s ∨ ∃ s', Step s s' := by
  rcases h with ⟨tr, h⟩
  rcases usub_reach h with ⟨a, rfl, ha⟩
  rcases ustep_enabled ha with hf | ⟨l, a', hs⟩
  · exact Or.inl (ufinal_iff.mpr hf)
  · exact Or.inr ((UAbs st).exists_step hs)

theorem usub_final_stuck {vals : List Nat} {k st : Nat} {s s' : State}
    (h : Reachable (unsatSubsetSystem vals k st) s) (hf : ufinal s) : ¬ Step s s' :=
  have _ := h  -- not needed: no state whose processes have all finished has a step
  not_step_of_code_nil hf.2.1

/-- Termination measure; the weight 2 pays for the status that `done <- st` adds to the buffer. -/
def umeasure (s : State) : Nat :=
  match s.procs, s.chans with
  | [g, m], [_, d] => 2 * g.code.length + m.code.length + d.buf.length
  | _, _ => 0

theorem umeasure_dec {st : Nat} {a a' : UA} {l : List Event}
    (hs : UStep st a l a') : umeasure (ustate st a') < umeasure (ustate st a) := by
  cases hs <;> simp [umeasure, ustate, gproc, mproc] <;> omega

theorem usub_measure_dec {vals : List Nat} {k st : Nat} {s s' : State}
    (h : Reachable (unsatSubsetSystem vals k st) s) (hs : Step s s') : umeasure s' < umeasure s := by
  rcases h with ⟨tr, h⟩
  rcases usub_reach h with ⟨a, rfl, _⟩
  exact (UAbs st).measure_dec umeasure_dec hs

/-- Every execution has at most `2·|vals| + 8` steps. -/
theorem usub_terminates {vals : List Nat} {k st : Nat} {n : Nat} {s : State}
    (h : Steps n (unsatSubsetSystem vals k st) s) : n + umeasure s ≤ 2 * vals.length + 8 := by
  have := steps_bounded umeasure
    (fun s s' hr hs => usub_measure_dec (vals := vals) (k := k) (st := st) hr hs) h
  -- only the measure of the initial state is to be computed; unfolding the one of `s` is slow
  generalize umeasure s = m at this ⊢
  simpa [umeasure, unsatSubsetSystem, Nat.mul_add] using this

/-- C16, for the fixed `UnsatSubset`: a step that performs the caller's read of
    the status (a receive on `done`, channel 1) reads the `st` written by the goroutine, and the
    write `done <- st` is an event of the *strict past* `tr` of that step: the status is never read
    concurrently with, or before, its write. -/
theorem status_read_after_write {vals : List Nat} {k st : Nat} {tr l : List Event} {s s' : State} {v : Nat}
    (h : LReach (unsatSubsetSystem vals k st) tr s) (hs : LStep s l s')
    (hr : Event.received 1 v ∈ l) : v = st ∧ Event.sent 1 st ∈ tr := by
  rcases usub_reach h with ⟨a, rfl, ha⟩
  rcases (UAbs st).ok.mp hs with ⟨a', hm, _⟩
  cases hm with
  | @recvDone todo gpc w b got msaw =>
    -- the only rule that receives on `done`
    obtain ⟨rfl, -, rfl⟩ := ha.dbuf_cons rfl
    simp at hr
    refine ⟨hr, ?_⟩
    rw [← mem_sentOn, ha.sent1]; simp
  | _ => simp at hr

/-- State form: once the caller is past `status := <-done` the goroutine has finished, and the value
    the caller received last, and returns, is `st`. -/
theorem status_is_written_value {vals : List Nat} {k st : Nat} {tr : List Event} {s : State}
    (h : LReach (unsatSubsetSystem vals k st) tr s) :
    ∃ g m, s.procs = [g, m] ∧
      (Instr.recv 1 ∉ m.code → g.code = [] ∧ m.got.getLast? = some st ∧ Event.sent 1 st ∈ tr) ∧
      (ufinal s → Event.returned (some st) ∈ tr) := by
  rcases usub_reach h with ⟨a, rfl, ha⟩
  refine ⟨_, _, rfl, ?_, ?_⟩
  · intro hn
    have hp : a.mpc.past = true := by
      rcases a with ⟨todo, gpc, dbuf, mpc, got, msaw⟩
      rcases mpc with j | _ | _ | _ | _ <;> simp_all [mproc, MPc.past]
    obtain ⟨hg, ht⟩ := ha.past_done hp
    have h1 := ha.split
    simp [hp, ht] at h1
    refine ⟨by simp [gproc, hg], by simp [mproc, h1], ?_⟩
    rw [← mem_sentOn, ha.sent1]; simp [hg]
  · intro hf
    exact ha.rets (ufinal_iff.mp hf).2.1

/-! Small instances explored by evaluation, as in `C20_Chan.lean`: the checker stops at once (`k = 0`),
early (`k = 1`) or reads everything (`k = 5`); `layer 9 = []` is checked for `k = 0` only. -/

instance (s : State) : Decidable (ufinal s) :=
  decidable_of_iff (s.panic = false ∧ (∀ p ∈ s.procs, p.code = []) ∧
      (s.chans[0]?.map (fun c => (c.closed, c.buf)) = some (true, [])) ∧
      (s.chans[1]?.map (fun c => (c.closed, c.buf)) = some (false, [])))
    (by unfold ufinal; simp [Option.map_eq_some_iff, Prod.ext_iff])

example : layer 9 [unsatSubsetSystem [1, 2] 0 7] = [] := by decide +kernel
example : ∀ s ∈ reachN 9 [unsatSubsetSystem [1, 2] 0 7],
    s.panic = false ∧ (ufinal s ∨ successors s ≠ []) := by decide +kernel
example : ∀ s ∈ reachN 9 [unsatSubsetSystem [1, 2] 1 7],
    s.panic = false ∧ (ufinal s ∨ successors s ≠ []) := by decide +kernel
example : ∀ s ∈ reachN 9 [unsatSubsetSystem [1, 2] 5 7],
    s.panic = false ∧ (ufinal s ∨ successors s ≠ []) := by decide +kernel
example : ∃ tr s, LReach (unsatSubsetSystem [1, 2] 1 7) tr s ∧ ufinal s :=
  exists_lreach_of_layer (n := 8) (by decide +kernel)

/-- the hypotheses of `status_read_after_write` are satisfiable: some execution does perform the read -/
example : ∃ tr s l s', LReach (unsatSubsetSystem [1, 2] 1 7) tr s ∧ LStep s l s' ∧
    Event.received 1 7 ∈ l := by
  have h : ∃ s ∈ layer 6 [unsatSubsetSystem [1, 2] 1 7],
      ∃ x ∈ lsuccessors s, Event.received 1 7 ∈ x.1 := by decide +kernel
  rcases exists_lreach_of_layer h with ⟨tr, s, htr, x, hx, hr⟩
  exact ⟨tr, s, x.1, x.2, htr, lstep_iff_mem.mpr hx, hr⟩

end GS.Chan
