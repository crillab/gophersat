import GS.Props.C01_WatchPropagate
import GS.Model.Trail
/-!
# C01 (support) — the literals pushed by the concrete propagation pass the guard of the abstract trail machine

`GS.Trail.propagateOp s l c` (GS/Model/Trail.lean) accepts `propagate l c` when `l ≠ 0`, no entry of
`s` is over the variable of `l`, and `isUnit s.es l c`: `l ∈ c` and every other literal of `c` is the
negation of an entry.  `GS.Watch.Forced` (proved of every literal pushed by `GS.Watch.propagate`,
see `propagate_spec`) gives exactly this for the abstract state whose entries are the trail prefix
before the literal, with the antecedent recorded in `reasons`.
-/
namespace GS.Watch

theorem forced_propagate_guard {st : State} {ptr n0 p : Nat} {l : Int} (h : WatchInv st ptr)
    (hF : Forced st.clauses st.reasons st.trail n0) (hp : n0 ≤ p) (hl : st.trail[p]? = some l)
    (s : GS.Trail.State) (hes : s.es.map (·.lit) = st.trail.take p) :
    ∃ cid c, st.reasons[l.natAbs - 1]? = some (some cid) ∧ st.clauses[cid]? = some c ∧
      (GS.Trail.propagateOp s l c).isSome = true := by
  obtain ⟨cid, c, hr, hc, hlc, hall⟩ := hF p l hp hl
  refine ⟨cid, c, hr, hc, ?_⟩
  have hl0 : l ≠ 0 := (h.trail_idx hl).1
  have hunb : GS.Trail.unbound s.es l = true := by
    unfold GS.Trail.unbound
    rw [List.all_eq_true]
    intro e he
    have hne := natAbs_ne_of_mem_take h.trail_nodup hl e.lit
      (by rw [← hes]; exact List.mem_map.mpr ⟨e, he, rfl⟩)
    simpa [GS.Analyze.Entry.var] using hne
  have hunit : GS.Trail.isUnit s.es l c = true := by
    unfold GS.Trail.isUnit
    rw [Bool.and_eq_true, List.contains_iff_mem, List.all_eq_true]
    refine ⟨hlc, ?_⟩
    intro f hf
    by_cases hfl : f = l
    · simp [hfl]
    · have hmem := hall f hf hfl
      rw [← hes] at hmem
      obtain ⟨e, he, hel⟩ := List.mem_map.mp hmem
      rw [Bool.or_eq_true]
      right
      unfold GS.Analyze.isFalse
      rw [List.any_eq_true]
      exact ⟨e, he, by simp [hel]⟩
  unfold GS.Trail.propagateOp
  simp [hl0, hunb, hunit]

end GS.Watch

#print axioms GS.Watch.forced_propagate_guard
