import GS.Props.C01_WatchLoop
/-!
# C01 (support) — `propagate` / `unifyLiteral` preserve `watchInv`, never panic, and the fuel of the
mirror's outer loop suffices

`Grows`: what `propagate` does to trail and bindings whatever the state (`propagate_grows`, along the case
analysis of each function).  `Out`: how `propBin`, `propLit` and `loop` end under the invariant
(`propBin_spec`, `propLit_spec`, `loop_spec`; the loop of `simplifyPropClauses` in between is `simpLoop_spec`
of `C01_WatchLoop`, with `Post`), assembled in `propagate_spec`.  At the end the mirror is run on three
concrete states: a propagation, a conflict, and level 0, where the fuel runs out.
-/
namespace GS.Watch

/-- How a loop of `propagate` ends under the invariant: it does not fail; every literal pushed since
    position `n0` is `Forced`; without conflict `A` holds of the state, and a conflict clause has all
    its literals false in a state that satisfies the invariant at some position. -/
def Out (n0 : Nat) (A : State → Prop) (res : Except Err (Option Nat × State)) : Prop :=
  ∃ confl st', res = .ok (confl, st') ∧
    Forced st'.clauses st'.reasons st'.trail n0 ∧
    (confl = none → A st') ∧
    (∀ cid, confl = some cid → (∃ p, WatchInv st' p) ∧ ∃ c, st'.clauses[cid]? = some c ∧
      ∀ l ∈ c, litFalseB st'.model l = true)

theorem Out.done {n0 : Nat} {A : State → Prop} {st : State}
    (hF : Forced st.clauses st.reasons st.trail n0) (hA : A st) : Out n0 A (.ok (none, st)) :=
  ⟨none, st, rfl, hF, fun _ => hA, nofun⟩

/-- The binary loop of `propagate` reads the binding of `w.other` itself; said through `litStatus`. -/
theorem propBin_cons (lvl : Int) (w : Watcher) (ws : List Watcher) (st : State) :
    propBin lvl (w :: ws) st =
      match litStatus st.model w.other with
      | none => .error .panic
      | some .indet =>
        (match bind st w.other lvl w.cid with
         | none => .error .panic
         | some st' => propBin lvl ws st')
      | some .unsat => .ok (some w.cid, st)
      | some .sat => propBin lvl ws st := by
  rw [propBin]
  unfold litStatus
  cases modelAt st.model w.other with
  | none => rfl
  | some a =>
    by_cases ha : a = 0
    · simp only [ha, if_true]
      rfl
    · by_cases hs : decide (a > 0) = decide (w.other > 0)
      · simp [ha, hs]
      · simp [ha, hs]

/-- From `m` to `m'` a binding is unchanged, or goes from unbound to `±lvl`. -/
def ModelExt (lvl : Int) (m m' : List Int) : Prop :=
  ∀ v : Nat, m'[v]? = m[v]? ∨ (m[v]? = some 0 ∧ (m'[v]? = some lvl ∨ m'[v]? = some (-lvl)))

theorem ModelExt.trans {lvl : Int} {m m' m'' : List Int} (h1 : ModelExt lvl m m')
    (h2 : ModelExt lvl m' m'') : ModelExt lvl m m'' := by
  intro v
  rcases h1 v with a | ⟨a0, a⟩ <;> rcases h2 v with b | ⟨b0, b⟩
  · left; rw [b, a]
  · right; rw [a] at b0; exact ⟨b0, b⟩
  · right; rw [← b] at a; exact ⟨a0, a⟩
  · right; exact ⟨a0, b⟩

/-- The last part is what bounds the iterations of `propagate`: at a level `≠ 0` every literal pushed
    binds an unbound variable. -/
def Grows (lvl : Int) (st st' : State) : Prop :=
  (∃ t, st'.trail = st.trail ++ t) ∧ ModelExt lvl st.model st'.model ∧
    st'.model.length = st.model.length ∧
    (lvl ≠ 0 → st'.trail.length + zeros st'.model = st.trail.length + zeros st.model)

theorem Grows.of_eq {lvl : Int} {st st' : State} (ht : st'.trail = st.trail) (hm : st'.model = st.model) :
    Grows lvl st st' :=
  ⟨⟨[], by rw [ht, List.append_nil]⟩, fun _ => Or.inl (by rw [hm]), by rw [hm], fun _ => by rw [ht, hm]⟩

theorem Grows.trans {lvl : Int} {st st' st'' : State} (h1 : Grows lvl st st')
    (h2 : Grows lvl st' st'') : Grows lvl st st'' := by
  obtain ⟨⟨t1, ht1⟩, e1, l1, m1⟩ := h1
  obtain ⟨⟨t2, ht2⟩, e2, l2, m2⟩ := h2
  exact ⟨⟨t1 ++ t2, by rw [ht2, ht1, List.append_assoc]⟩, e1.trans e2, by rw [l2, l1],
    fun h => (m2 h).trans (m1 h)⟩

theorem bind_eq_some {st st' : State} {l lvl : Int} {cid : Nat} :
    bind st l lvl cid = some st' → st' = bindSt st l lvl cid := by
  fun_cases bind st l lvl cid <;> intro h
  any_goals cases h
  rfl

theorem bind_grows {st st' : State} {l lvl : Int} {cid : Nat} (h : bind st l lvl cid = some st')
    (hs : litStatus st.model l = some .indet) : Grows lvl st st' := by
  have hu := (litUnboundB_iff.mp (litUnboundB_of_indet hs)).2
  rw [bind_eq_some h]
  refine ⟨⟨[l], rfl⟩, fun v => ?_, List.length_set ..,
    fun h0 => bindSt_meas (litUnboundB_of_indet hs) h0 cid⟩
  by_cases hv : l.natAbs - 1 = v
  · right
    subst hv
    refine ⟨hu, ?_⟩
    show (st.model.set _ _)[_]? = _ ∨ (st.model.set _ _)[_]? = _
    rw [List.getElem?_set_self (List.getElem?_eq_some_iff.mp hu).1]
    unfold signedLvl
    split
    · exact Or.inl rfl
    · exact Or.inr rfl
  · left
    exact List.getElem?_set_ne hv

/-! The loops of `propagate` only `bind` unbound literals and otherwise write clauses and watch lists:
    one case per branch of each function, the panics being no `.ok`. -/

theorem propBin_grows {lvl : Int} (ws : List Watcher) (st : State) (r : Option Nat × State) :
    propBin lvl ws st = .ok r → Grows lvl st r.2 := by
  induction ws generalizing st with
  | nil => intro h; cases h; exact .of_eq rfl rfl
  | cons w ws ih =>
    rw [propBin_cons]
    split
    · intro h; cases h
    · rename_i hso
      split
      · intro h; cases h
      · rename_i hb
        exact fun h => (bind_grows hb hso).trans (ih _ h)
    · intro h; cases h; exact .of_eq rfl rfl
    · exact ih _

theorem simpLoop_grows {lit lvl : Int} (rest kept : List Watcher) (st : State)
    (r : Option Nat × List Watcher × State) :
    simpLoop lit lvl rest kept st = .ok r → Grows lvl st r.2.2 := by
  fun_induction simpLoop lit lvl rest kept st <;> intro h
  any_goals cases h
  -- what is left, in the order of the definition: `[]`; blocking literal `Sat`; `first` `Sat`; watcher
  -- moved; conflict; unit
  · exact .of_eq rfl rfl
  · rename_i ih; exact ih h
  · rename_i ih; exact (Grows.of_eq rfl rfl).trans (ih h)
  · rename_i ih; exact (Grows.of_eq rfl rfl).trans (ih h)
  · exact Grows.of_eq rfl rfl
  · rename_i fs hns hfs _ _ hnu _ hb ih
    -- the status of `first` is neither `Sat` nor `Unsat`: the variable is unbound
    have hind : fs = .indet := by
      cases fs
      · rfl
      · exact absurd rfl hns
      · exact absurd rfl hnu
    subst hind
    exact ((Grows.of_eq rfl rfl).trans (bind_grows hb hfs)).trans (ih h)

theorem simplify_grows {lit lvl : Int} {st : State} {r : Option Nat × State} :
    simplify lit lvl st = .ok r → Grows lvl st r.2 := by
  fun_cases simplify lit lvl st <;> intro h
  any_goals cases h
  rename_i hs
  exact (simpLoop_grows _ _ _ _ hs).trans (.of_eq rfl rfl)

theorem propLit_grows {lit lvl : Int} {st : State} {r : Option Nat × State} :
    propLit lit lvl st = .ok r → Grows lvl st r.2 := by
  fun_cases propLit lit lvl st <;> intro h
  any_goals cases h
  · rename_i hb; exact propBin_grows _ _ _ hb
  · rename_i hb; exact (propBin_grows _ _ _ hb).trans (simplify_grows h)

theorem loop_grows {lvl : Int} (fuel ptr : Nat) (st : State) (r : Option Nat × State) :
    loop lvl fuel ptr st = .ok r → Grows lvl st r.2 := by
  fun_induction loop lvl fuel ptr st <;> intro h
  any_goals cases h
  · exact .of_eq rfl rfl
  · exact .of_eq rfl rfl
  · rename_i hp; exact propLit_grows hp
  · rename_i hp ih; exact (propLit_grows hp).trans (ih h)

/-- `propagate` (conflict or not, whatever the state) only appends to the trail and only binds
    unbound variables, at `±lvl`. -/
theorem propagate_grows {ptr : Nat} {lvl : Int} {st st' : State} {c : Option Nat}
    (h : propagate ptr lvl st = .ok (c, st')) : Grows lvl st st' :=
  loop_grows _ _ _ _ h

theorem propBin_spec {n0 ptr : Nat} {lit lvl : Int} (hlvl : 0 < lvl) :
    ∀ (ws done : List Watcher) (st : State), WatchInv st ptr → st.trail[ptr]? = some lit →
      st.wbin[litIdx lit]? = some (done ++ ws) →
      (∀ w ∈ done, litTrueB st.model w.other = true) →
      Forced st.clauses st.reasons st.trail n0 →
      Out n0 (fun st' => WatchInv st' ptr ∧ st'.trail[ptr]? = some lit ∧
          ∀ ws', st'.wbin[litIdx lit]? = some ws' → ∀ w ∈ ws', litTrueB st'.model w.other = true)
        (propBin lvl ws st) := by
  intro ws
  induction ws with
  | nil =>
    intro done st h hat hbin hdone hF
    refine .done hF ⟨h, hat, ?_⟩
    intro ws' hws'
    rw [List.append_nil] at hbin
    rw [hbin] at hws'
    cases hws'
    exact hdone
  | cons w ws ih =>
    intro done st h hat hbin hdone hF
    have hlt : litTrueB st.model lit = true := h.trail_true lit (List.mem_of_getElem? hat)
    -- the clause of `w` is `¬lit ∨ w.other`, and `¬lit` is false
    obtain ⟨c, hc, hshape⟩ := h.wbin _ _ hbin w (by simp)
    rw [idxLit_litIdx (litTrueB_iff.mp hlt).1] at hshape
    have hmem : ∀ x ∈ c, x = -lit ∨ x = w.other := by
      intro x hx
      rcases hshape with hs | hs <;> rw [hs] at hx <;> simp only [List.mem_cons, List.not_mem_nil,
        or_false] at hx
      · exact hx
      · exact hx.symm
    have hoc : w.other ∈ c := by rcases hshape with hs | hs <;> rw [hs] <;> simp
    have hfalse : ∀ x ∈ c, x ≠ w.other → litFalseB st.model x = true := fun x hx hxo =>
      (hmem x hx).elim (fun e => e ▸ litFalseB_neg hlt) (fun e => absurd e hxo)
    obtain ⟨ho0, hon⟩ := (h.clauses c (List.mem_of_getElem? hc)).2.1 _ hoc
    obtain ⟨so, hso⟩ := litStatus_some ho0 hon
    have hnext : ∀ st' : State, (∀ x, litTrueB st.model x = true → litTrueB st'.model x = true) →
        litTrueB st'.model w.other = true → ∀ w' ∈ done ++ [w], litTrueB st'.model w'.other = true := by
      intro st' hmono hot w' hw'
      rcases List.mem_append.mp hw' with hw' | hw'
      · exact hmono _ (hdone w' hw')
      · rw [List.mem_singleton.mp hw']; exact hot
    have happ : done ++ [w] ++ ws = done ++ w :: ws := by simp
    rw [propBin_cons, hso]
    cases so with
    | indet =>
      have hu : litUnboundB st.model w.other = true := litUnboundB_of_indet hso
      simp only [bind_unbound h.shape.1 hu lvl w.cid]
      exact ih (done ++ [w]) (bindSt st w.other lvl w.cid) (bindSt_inv w.cid h hu hlvl)
        (bindSt_trail_get hat) (happ ▸ hbin)
        (hnext _ (fun _ hx => litTrueB_set_mono hu hx) (litTrueB_set_self hu hlvl))
        (Forced_bind h hu hc hoc hfalse hF)
    | sat =>
      exact ih (done ++ [w]) st h hat (happ ▸ hbin) (hnext st (fun _ hx => hx) (litTrueB_of_sat hso)) hF
    | unsat =>
      refine ⟨some w.cid, st, rfl, hF, nofun, ?_⟩
      rintro _ ⟨⟩
      refine ⟨⟨ptr, h⟩, c, hc, fun l hl => ?_⟩
      rcases hmem l hl with e | e <;> rw [e]
      · exact litFalseB_neg hlt
      · exact litFalseB_of_unsat hso

theorem virt_same {st : State} {lit : Int} {L : List Watcher} (h : st.wlong[litIdx lit]? = some L) :
    virt st lit L = st := by
  unfold virt
  rw [set_eq_self h]

theorem propLit_spec {n0 ptr : Nat} {lit lvl : Int} (hlvl : 0 < lvl) (st : State)
    (h : WatchInv st ptr) (hat : st.trail[ptr]? = some lit)
    (hF : Forced st.clauses st.reasons st.trail n0) :
    Out n0 (fun st' => WatchInv st' (ptr + 1)) (propLit lit lvl st) := by
  obtain ⟨hlit0, hidx⟩ := h.trail_idx hat
  obtain ⟨wb, hwb⟩ : ∃ wb, st.wbin[litIdx lit]? = some wb :=
    ⟨_, List.getElem?_eq_getElem (by rw [h.shape.2.1]; exact hidx)⟩
  have hwg : wget st.wbin lit = some wb := by unfold wget; simp [hlit0, hwb]
  obtain ⟨confl, st', hres, hF', hnone, hconfl⟩ :=
    propBin_spec hlvl wb [] st h hat (by simpa using hwb) (by simp) hF
  unfold propLit
  simp only [hwg, hres]
  cases confl with
  | some c => exact ⟨some c, st', rfl, hF', nofun, hconfl⟩
  | none =>
    obtain ⟨h', hat', hsemB⟩ := hnone rfl
    dsimp only
    obtain ⟨wl, hwl⟩ : ∃ wl, st'.wlong[litIdx lit]? = some wl :=
      ⟨_, List.getElem?_eq_getElem (by rw [h'.shape.2.2]; exact (h'.trail_idx hat').2)⟩
    have hwg' : wget st'.wlong lit = some wl := by unfold wget; simp [hlit0, hwl]
    have hmid : Mid (st'.trail.length + zeros st'.model) st'.model.length n0 st' ptr lit [] wl := by
      refine ⟨?_, hat', (List.getElem?_eq_some_iff.mp hwl).1, by simp, hsemB, rfl, rfl, hF'⟩
      rw [List.nil_append, virt_same hwl]; exact h'
    obtain ⟨confl2, kept, st'', hres2, hF2, hnone2, hconfl2⟩ := simpLoop_spec hlvl wl [] st' hmid
    unfold simplify
    simp only [hwg', hres2]
    refine ⟨confl2, virt st'' lit kept, rfl, hF2, fun hc => (hnone2 hc).done, ?_⟩
    intro cid hcid
    obtain ⟨hw, hrest⟩ := hconfl2 cid hcid
    exact ⟨⟨ptr, hw⟩, hrest⟩

/-- `fuel` bounds the iterations left: the trail never holds more literals than it has now plus the
    number of unbound variables. -/
theorem loop_spec {n0 : Nat} {lvl : Int} (hlvl : 0 < lvl) :
    ∀ (fuel ptr : Nat) (st : State), WatchInv st ptr →
      st.trail.length + zeros st.model ≤ fuel + ptr →
      Forced st.clauses st.reasons st.trail n0 →
      Out n0 (fun st' => WatchInv st' st'.trail.length) (loop lvl fuel ptr st) := by
  intro fuel
  induction fuel with
  | zero =>
    intro ptr st h hf hF
    have heq : ptr = st.trail.length := by have := h.ptr_le; omega
    rw [loop, if_neg (by omega)]
    exact .done hF (heq ▸ h)
  | succ fuel ih =>
    intro ptr st h hf hF
    rw [loop]
    cases hat : st.trail[ptr]? with
    | none =>
      have heq : ptr = st.trail.length := Nat.le_antisymm h.ptr_le (List.getElem?_eq_none_iff.mp hat)
      exact .done hF (heq ▸ h)
    | some lit =>
      obtain ⟨confl, st', hres, hF', hnone, hconfl⟩ := propLit_spec hlvl st h hat hF
      have hm : st'.trail.length + zeros st'.model = _ := (propLit_grows hres).2.2.2 (Int.ne_of_gt hlvl)
      simp only [hres]
      cases confl with
      | some c => exact ⟨some c, st', rfl, hF', nofun, hconfl⟩
      | none => exact ih (ptr + 1) st' (hnone rfl) (by omega) hF'

theorem Forced_init (cl : List (List Int)) (rs : List (Option Nat)) (tr : List Int) :
    Forced cl rs tr tr.length := by
  intro p l hp hl
  rw [List.getElem?_eq_none hp] at hl
  cases hl

/-- **Dynamic theorem.**  From a state satisfying `watchInv` with the trail literals from `ptr` on
    still to be processed, the mirror of `propagate(ptr, lvl)` (`lvl ≥ 1`) never panics, does not run
    out of fuel, and returns either no conflict and `watchInv` with every trail literal processed, or
    a conflict clause all of whose literals are false, in a state that still satisfies `watchInv` at
    some position `p` (which one is not said); in both cases every literal pushed is `Forced`. -/
theorem propagate_spec {st : State} {ptr : Nat} {lvl : Int} (h : watchInv st ptr = true)
    (hlvl : 0 < lvl) :
    ∃ confl st', propagate ptr lvl st = .ok (confl, st') ∧
      (∃ t, st'.trail = st.trail ++ t) ∧
      Forced st'.clauses st'.reasons st'.trail st.trail.length ∧
      (confl = none → watchInv st' st'.trail.length = true) ∧
      (∀ cid, confl = some cid → (∃ p, watchInv st' p = true) ∧
        ∃ c, st'.clauses[cid]? = some c ∧ ∀ l ∈ c, litFalseB st'.model l = true) := by
  rw [watchInv_iff] at h
  have hle := h.ptr_le
  obtain ⟨confl, st', hres, hF, hnone, hconfl⟩ :=
    loop_spec (n0 := st.trail.length) hlvl
      (st.trail.length - ptr + zeros st.model) ptr st h (by omega) (Forced_init _ _ _)
  refine ⟨confl, st', hres, (propagate_grows hres).1, hF, ?_, ?_⟩
  · intro hc
    exact (watchInv_iff _ _).mpr (hnone hc)
  · intro cid hcid
    obtain ⟨⟨p, hp⟩, hrest⟩ := hconfl cid hcid
    exact ⟨⟨p, (watchInv_iff _ _).mpr hp⟩, hrest⟩

/-- `propagate` returning no conflict leaves nothing to propagate and no falsified clause. -/
theorem propagate_complete {st st' : State} {ptr : Nat} {lvl : Int} (h : watchInv st ptr = true)
    (hlvl : 0 < lvl) (hres : propagate ptr lvl st = .ok (none, st')) :
    ∀ c ∈ st'.clauses,
      (¬ ∀ l ∈ c, litFalseB st'.model l = true) ∧
      (∀ (i : Nat) (x : Int), c[i]? = some x → litUnboundB st'.model x = true →
        ¬ ∀ (j : Nat) (y : Int), j ≠ i → c[j]? = some y → litFalseB st'.model y = true) := by
  obtain ⟨confl, st2, hres2, _, _, hnone, _⟩ := propagate_spec h hlvl
  rw [hres] at hres2
  cases hres2
  exact watch_complete (hnone rfl)

/-- `unifyLiteral(lit, lvl)` from a fully processed state, for an unbound literal: as
    `propagate_spec`; the literals after the decision `lit` (position `trail.length`) are forced. -/
theorem unifyLiteral_spec {st : State} {lit lvl : Int} (h : watchInv st st.trail.length = true)
    (hu : litUnboundB st.model lit = true) (hlvl : 0 < lvl) :
    ∃ confl st', unifyLiteral lit lvl st = .ok (confl, st') ∧
      st'.trail[st.trail.length]? = some lit ∧
      Forced st'.clauses st'.reasons st'.trail (st.trail.length + 1) ∧
      (confl = none → watchInv st' st'.trail.length = true) ∧
      (∀ cid, confl = some cid → (∃ p, watchInv st' p = true) ∧
        ∃ c, st'.clauses[cid]? = some c ∧ ∀ l ∈ c, litFalseB st'.model l = true) := by
  have hW := (watchInv_iff _ _).mp h
  obtain ⟨hl0, hm0⟩ := litUnboundB_iff.mp hu
  have hlt : lit.natAbs - 1 < st.model.length := (List.getElem?_eq_some_iff.mp hm0).1
  unfold unifyLiteral
  have hcond : ¬ (lit = 0 ∨ ¬ lit.natAbs - 1 < st.model.length) := by
    intro hh; rcases hh with hh | hh
    · exact hl0 hh
    · exact hh hlt
  simp only [hcond, if_false]
  have hlen : (st.trail ++ [lit]).length - 1 = st.trail.length := by simp
  simp only [hlen]
  obtain ⟨confl, st', hres, ⟨t, ht⟩, hF, hnone, hconfl⟩ :=
    propagate_spec ((watchInv_iff _ _).mpr (bind_inv rfl hW hu hlvl)) hlvl
  refine ⟨confl, st', hres, ?_, ?_, hnone, hconfl⟩
  · rw [ht]
    show (st.trail ++ [lit] ++ t)[st.trail.length]? = some lit
    rw [List.append_assoc, List.getElem?_append_right (Nat.le_refl _)]
    simp
  · simpa using hF

/-- `(1 ∨ 2 ∨ 3) ∧ (¬1 ∨ 2) ∧ (¬2 ∨ ¬3 ∨ 1)` as watched by `initWatcherList`, nothing bound. -/
def exState : State :=
  { clauses := [[1, 2, 3], [-1, 2], [-2, -3, 1]],
    wbin := [[⟨1, 2⟩], [], [], [⟨1, -1⟩], [], []],
    wlong := [[], [⟨0, 2⟩], [⟨2, -3⟩], [⟨0, 1⟩], [⟨2, -2⟩], []],
    model := [0, 0, 0], trail := [], reasons := [none, none, none] }

example : initState 3 [[1, 2, 3], [-1, 2], [-2, -3, 1]] = some exState := by decide +kernel
example : watchInv exState exState.trail.length = true := by decide +kernel
example : litUnboundB exState.model (-2) = true := by decide +kernel

/-- deciding `¬2` at level 2 propagates `¬1` (binary clause 1) then `3` (clause 0, after its watch
    moved from `2` to `3` and its literals were reordered to `3 1 2`); no conflict -/
example : (unifyLiteral (-2) 2 exState).toOption = some (none,
    { clauses := [[3, 1, 2], [-1, 2], [-2, -3, 1]],
      wbin := [[⟨1, 2⟩], [], [], [⟨1, -1⟩], [], []],
      wlong := [[], [⟨0, 3⟩], [⟨2, -3⟩], [], [⟨2, -2⟩], [⟨0, 1⟩]],
      model := [-2, -2, 2], trail := [-2, -1, 3], reasons := [some 1, none, some 0] }) := by decide +kernel

/-- a conflict: with `1` true and `2` false the binary clause `¬1 ∨ 2` is returned, all false -/
def exConflict : State :=
  { clauses := [[1, 2, 3], [-1, 2], [-2, -3, 1]],
    wbin := [[⟨1, 2⟩], [], [], [⟨1, -1⟩], [], []],
    wlong := [[], [⟨0, 2⟩], [⟨2, -3⟩], [⟨0, 1⟩], [⟨2, -2⟩], []],
    model := [2, -2, 0], trail := [1, -2], reasons := [none, none, none] }

example : watchInv exConflict 0 = true := by decide +kernel
example : (match propagate 0 2 exConflict with
    | .ok (some 1, _) => true | _ => false) = true := by decide +kernel

/-- hypothesis `0 < lvl`: at level 0 the bindings stay 0 and the Go loop does not terminate
    (here: the fuel runs out) -/
def exLoop : State :=
  { clauses := [[-1, 2], [-2, 1]],
    wbin := [[⟨0, 2⟩], [⟨1, -2⟩], [⟨1, 1⟩], [⟨0, -1⟩]], wlong := [[], [], [], []],
    model := [0, 0], trail := [1], reasons := [none, none] }

example : (match propagate 0 0 exLoop with
    | .error .fuel => true | _ => false) = true := by decide +kernel

end GS.Watch

#print axioms GS.Watch.watchInv_iff
#print axioms GS.Watch.watch_complete
#print axioms GS.Watch.watch_total_model
#print axioms GS.Watch.simpLoop_spec
#print axioms GS.Watch.propagate_spec
#print axioms GS.Watch.propagate_complete
#print axioms GS.Watch.unifyLiteral_spec
