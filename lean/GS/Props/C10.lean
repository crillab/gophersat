import GS.Check.Brute
/-!
# C10 — Solving under assumptions decides formula AND current assumptions

The oracle that judges the implementation's answers for this property in the harness
(`bruteSat` of `GS.Check.Brute`, on formula ∧ assumptions) is proved in the imported module to be
exactly the specification over *all* inputs (`bruteSat_iff`).  The theorems about the abstract
machine (`cdcl_unsat_sound`, `cdcl_sat_sound`) are in `GS/Props/C01_Cdcl.lean`, those about the
prologue of `Assume` in `GS/Props/C10_Assume.lean`.
-/
namespace GS
end GS
