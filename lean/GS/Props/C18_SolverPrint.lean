import GS.Model.SolverPrint
import GS.Props.C13_Formats
import GS.Props.C01_Simplify
/-!
# C18 — what `Solver.PBString()` prints reads back as the constraints the solver holds

Stated on lines of fields (`printSolver`, `GS/Model/SolverPrint.lean`), read by the mirror of
`solver.ParseOPB` (`GS.Formats.parseOpbLines`); the text itself (`printSolverText`) is what the
harness compares byte for byte with the Go method (`solverPrintMirror`, `harness/c18.go`); that
its fields (`lexText`) are `printSolver` is checked on the examples at the end.

`solver_print_parse`: read back without error, models = top-level bindings ∧ original ∧ learned,
same cost; `solver_print_models`: same models as the problem; `solver_print_eq_problem_print`: a
fresh solver against `Problem.PBString()`; that its bindings are the problem's units is read off
`GS.Simplify.MInv` (`mem_topLits_of_MInv`). Findings at the end: status `Unsat` not printed;
variables above the last one written are lost. Literals given to `Assume` sit at level 1 and are
printed as facts, so that the hypothesis `hbind` of `solver_print_models` does not hold for them.
-/
namespace GS.SolverPrint
open GS GS.Constr GS.Formats

theorem mem_bindingsFrom : ∀ (model : List Int) (i : Nat) (b : Nat × Int),
    b ∈ bindingsFrom i model ↔
      ∃ j, (model[j]? = some 1 ∧ b = (i + j + 1, 1)) ∨ (model[j]? = some (-1) ∧ b = (i + j + 1, 0)) := by
  intro model
  induction model with
  | nil => intro i b; simp [bindingsFrom]
  | cons m ms ih =>
    intro i b
    -- index 0 is the head of the model, index `j + 1` is index `j` of the tail
    rw [bindingsFrom, List.mem_append, ← Nat.or_exists_add_one, ih]
    simp only [List.getElem?_cons_zero, List.getElem?_cons_succ, Nat.add_zero, Option.some.injEq]
    refine or_congr ?_ (exists_congr fun j => by rw [show i + 1 + j = i + (j + 1) by omega])
    by_cases h1 : m = 1
    · simp [h1]
    · by_cases h2 : m = -1
      · simp [h2]
      · simp [h1, h2]

/-- **Which bindings are printed.** Exactly the variables whose entry in `s.model` is `1` or
    `-1` — the top level; an entry `±lvl` with `lvl ≥ 2` (a decision or a propagation of the
    search) is never printed. -/
theorem mem_topLits (model : List Int) (l : Int) :
    l ∈ topLits model ↔
      ∃ j, (model[j]? = some 1 ∧ l = ((j + 1 : Nat) : Int)) ∨ (model[j]? = some (-1) ∧ l = -((j + 1 : Nat) : Int)) := by
  simp only [topLits, bindings, List.mem_map, mem_bindingsFrom]
  constructor
  · rintro ⟨b, ⟨j, h⟩, rfl⟩
    refine ⟨j, ?_⟩
    rcases h with ⟨h, rfl⟩ | ⟨h, rfl⟩
    · exact Or.inl ⟨h, by simp [bindLit]⟩
    · exact Or.inr ⟨h, by simp [bindLit]⟩
  · rintro ⟨j, h⟩
    rcases h with ⟨h, rfl⟩ | ⟨h, rfl⟩
    · exact ⟨(j + 1, 1), ⟨j, Or.inl ⟨h, by simp⟩⟩, by simp [bindLit]⟩
    · exact ⟨(j + 1, 0), ⟨j, Or.inr ⟨h, by simp⟩⟩, by simp [bindLit]⟩

/-- The bindings of the top level hold under `a`. -/
def bindingsHold (a : Asg) (model : List Int) : Prop :=
  ∀ j, (model[j]? = some 1 → a (j + 1) = true) ∧ (model[j]? = some (-1) → a (j + 1) = false)

theorem topLits_all_iff (a : Asg) (model : List Int) :
    (topLits model).all (litTrue a) = true ↔ bindingsHold a model := by
  rw [List.all_eq_true]
  constructor
  · intro h j
    constructor
    · intro hj
      have := h _ ((mem_topLits model _).2 ⟨j, Or.inl ⟨hj, rfl⟩⟩)
      rwa [litTrue_natCast a _ (Nat.succ_pos j)] at this
    · intro hj
      have := h _ ((mem_topLits model _).2 ⟨j, Or.inr ⟨hj, rfl⟩⟩)
      rw [litTrue_neg_natCast a _ (Nat.succ_pos j)] at this
      simpa using this
  · intro h l hl
    obtain ⟨j, hj⟩ := (mem_topLits model l).1 hl
    rcases hj with ⟨hj, rfl⟩ | ⟨hj, rfl⟩
    · rw [litTrue_natCast a _ (Nat.succ_pos j)]; exact (h j).1 hj
    · rw [litTrue_neg_natCast a _ (Nat.succ_pos j)]; simp [(h j).2 hj]

/-- A printed binding `1 x<v> = <val> ;`, as an OPB constraint. -/
def bindC (b : Nat × Int) : OpbConstr := ⟨[(1, (b.1 : Int))], .eq, b.2⟩

/-- The OPB file `Solver.PBString()` writes. -/
def solverOpb (st : State) : Opb :=
  ⟨st.obj, st.orig.map clauseC ++ (st.learned.map clauseC ++ (bindings st.model).map bindC)⟩

/-- Its layout: one comment line first, nothing else. -/
def solverLayout (st : State) : OpbLayout :=
  { objective := { skips := [some [.word "#variable=", .int st.nbVars, .word "#constraint=",
      .int st.orig.length, .word "#learned=", .int st.learned.length]] } }

/-- What the printer needs of a constraint to write a line `ParseOPB` reads:
    at least one term, no literal 0, no negative weight after the first term (`+-2` is not an
    integer field). Go guarantees more: `NewPBClause` / `NewCardClause` / `NewLearnedClause` are
    called with at least two literals, all weights are `≥ 1`. -/
def clauseOk (c : PBC) : Prop :=
  c.terms ≠ [] ∧ (∀ t ∈ c.terms, t.2 ≠ 0) ∧ (∀ t ∈ c.terms.tail, 0 ≤ t.1)

instance (c : PBC) : Decidable (clauseOk c) := by unfold clauseOk; infer_instance

theorem bindLine_eq (b : Nat × Int) : bindLine b = (bindC b).renderLine [] := by
  simp [bindLine, bindC, OpbConstr.renderLine, relTok, renderTerms, renderTerm]

theorem printSolver_eq_render (st : State)
    (hc : ∀ c ∈ st.orig ++ st.learned, ∀ t ∈ c.terms.tail, 0 ≤ t.1) :
    printSolver st = (solverOpb st).renderLines (solverLayout st) := by
  have h1 : st.orig.map pbClauseLine = st.orig.map (fun c => (clauseC c).renderLine []) :=
    List.map_congr_left (fun c hm => pbClauseLine_eq c (hc c (by simp [hm])))
  have h2 : st.learned.map pbClauseLine = st.learned.map (fun c => (clauseC c).renderLine []) :=
    List.map_congr_left (fun c hm => pbClauseLine_eq c (hc c (by simp [hm])))
  have h3 : (bindings st.model).map bindLine = (bindings st.model).map (fun b => (bindC b).renderLine []) :=
    List.map_congr_left (fun b _ => bindLine_eq b)
  simp only [printSolver, solverOpb, solverLayout, Opb.renderLines, renderObjectiveLines,
    renderConstrs_default, List.map_nil, List.append_nil, List.map_append, List.map_map, h1, h2, h3,
    List.map_cons, List.cons_append, List.nil_append, headerLine, Function.comp_def]
  cases st.obj with
  | none => rfl
  | some ts => simp [minLines, costLine, renderObjective, renderTerms_default]

theorem clauseC_sem (a : Asg) (c : PBC) : (clauseC c).sem a = c.sem a := rfl

theorem bindingsFrom_shape (model : List Int) (i : Nat) (b : Nat × Int) (h : b ∈ bindingsFrom i model) :
    1 ≤ b.1 ∧ (b.2 = 1 ∨ b.2 = 0) := by
  obtain ⟨j, hj⟩ := (mem_bindingsFrom model i b).1 h
  rcases hj with ⟨_, rfl⟩ | ⟨_, rfl⟩ <;> simp

theorem bindC_sem (a : Asg) (b : Nat × Int) (h1 : 1 ≤ b.1) (h2 : b.2 = 1 ∨ b.2 = 0) :
    (bindC b).sem a = litTrue a (bindLit b) := by
  obtain ⟨v, val⟩ := b
  have hneg : litTrue a (-(v : Int)) = !litTrue a v := litTrue_neg a v (by simp at h1; omega)
  simp only [bindC, OpbConstr.sem, lhs, termVal, bindLit]
  rcases h2 with rfl | rfl <;> cases h : litTrue a (v : Int) <;> simp [hneg, h]

theorem solverOpb_sem (a : Asg) (st : State) :
    (solverOpb st).sem a =
      ((topLits st.model).all (litTrue a) && st.orig.all (·.sem a) && st.learned.all (·.sem a)) := by
  have hb : ((bindings st.model).map bindC).all (·.sem a) = (topLits st.model).all (litTrue a) := by
    rw [Bool.eq_iff_iff]
    simp only [topLits, List.all_map, List.all_eq_true, Function.comp_def]
    exact forall₂_congr fun b hb => by
      have := bindingsFrom_shape st.model 0 b hb
      rw [bindC_sem a b this.1 this.2]
  simp only [Opb.sem, solverOpb, List.all_append, hb]
  simp only [List.all_map, Function.comp_def, clauseC_sem]
  ac_rfl

theorem solverOpb_wf (st : State) (hc : ∀ c ∈ st.orig ++ st.learned, clauseOk c) : (solverOpb st).wf = true := by
  simp only [Opb.wf, solverOpb, List.all_append, List.all_map, Bool.and_eq_true, List.all_eq_true]
  have hcl : ∀ c, clauseOk c → (clauseC c).wf = true :=
    fun c ⟨h1, h2, _⟩ => (clauseC c).wf_iff.2 ⟨h2, h1⟩
  refine ⟨fun c h => hcl c (hc c (by simp [h])), fun c h => hcl c (hc c (by simp [h])), fun b hb => ?_⟩
  have := (bindingsFrom_shape st.model 0 b hb).1
  simp [OpbConstr.wf, bindC]
  omega

/-- **C18, solver.** Whenever every constraint the solver holds is `clauseOk`, `solver.ParseOPB`
    reads what `Solver.PBString()` prints without error or panic, and what it builds has

    * the solver's cost function, term for term (any sign of the weights);
    * for models exactly the assignments under which every top-level binding, every original
      constraint and every learned constraint hold — for the `PBConstr`s returned by `GtEq` /
      `Eq` (all in normal form) as well as for what the per-constraint case analysis of the
      parser keeps (`Units`, `Clauses`, `Status`). -/
theorem solver_print_parse (st : State) (hc : ∀ c ∈ st.orig ++ st.learned, clauseOk c) :
    ∃ r, parseOpbLines (printSolver st) = .ok r ∧ r.obj = st.obj ∧
      (∀ p ∈ r.constrs, p.normal = true) ∧
      (∀ a, r.constrs.all (·.sem a) =
        ((topLits st.model).all (litTrue a) && st.orig.all (·.sem a) && st.learned.all (·.sem a))) ∧
      (∀ a, r.frontSem a =
        ((topLits st.model).all (litTrue a) && st.orig.all (·.sem a) && st.learned.all (·.sem a))) ∧
      (∀ a, cost (r.obj.getD []) a = cost (st.obj.getD []) a) := by
  rw [printSolver_eq_render st (fun c h => (hc c h).2.2)]
  obtain ⟨r, h1, h2, _, h4, h5, h6, _⟩ := parseOpb_render (solverOpb st) (solverLayout st) (solverOpb_wf st hc)
  exact ⟨r, h1, h2, h4, fun a => by rw [h5, solverOpb_sem], fun a => by rw [h6, solverOpb_sem],
    fun a => by rw [h2]; rfl⟩

theorem solver_print_parse_iff (st : State) (hc : ∀ c ∈ st.orig ++ st.learned, clauseOk c) :
    ∃ r, parseOpbLines (printSolver st) = .ok r ∧
      ∀ a, r.frontSem a = true ↔
        (bindingsHold a st.model ∧ (∀ c ∈ st.orig, c.sem a = true) ∧ (∀ c ∈ st.learned, c.sem a = true)) := by
  obtain ⟨r, h1, _, _, _, h5, _⟩ := solver_print_parse st hc
  refine ⟨r, h1, fun a => ?_⟩
  rw [h5, Bool.and_eq_true, Bool.and_eq_true, topLits_all_iff, List.all_eq_true, List.all_eq_true, and_assoc]

/-- A constraint of the solver as a linear constraint of the specification. -/
def linOf (c : PBC) : Lin := ⟨c.terms, c.atLeast⟩

theorem linOf_holds (a : Asg) (c : PBC) : (linOf c).holds a = c.sem a := rfl

theorem holds_map_linOf (a : Asg) (cs : List PBC) : Problem.holds a (cs.map linOf) = cs.all (·.sem a) := by
  simp only [Problem.holds, List.all_map, Function.comp_def, linOf_holds]

/-- **C18, solver, against any reference problem `Q`.** `hback` asks the original constraints
    together with the top-level bindings to entail `Q`: this is how `New` receives a problem (the
    units of the problem have been removed from its clauses and sit in `s.model` at level 1). -/
theorem solver_print_models_of (st : State) (Q : Problem)
    (hc : ∀ c ∈ st.orig ++ st.learned, clauseOk c)
    (horig : ∀ c ∈ st.orig, Entails Q (linOf c))
    (hlearned : ∀ c ∈ st.learned, Entails Q (linOf c))
    (hbind : ∀ l ∈ topLits st.model, Entails Q (Lin.ofClause [l]))
    (hback : ∀ a, Problem.holds a (st.orig.map linOf) = true → (topLits st.model).all (litTrue a) = true →
      Problem.holds a Q = true) :
    ∃ r, parseOpbLines (printSolver st) = .ok r ∧ r.obj = st.obj ∧
      (∀ a, r.frontSem a = Problem.holds a Q) ∧
      (∀ a, cost (r.obj.getD []) a = cost (st.obj.getD []) a) := by
  obtain ⟨r, h1, h2, _, _, h5, h6⟩ := solver_print_parse st hc
  refine ⟨r, h1, h2, fun a => ?_, h6⟩
  rw [h5, Bool.eq_iff_iff]
  constructor
  · intro h
    simp only [Bool.and_eq_true] at h
    exact hback a (by rw [holds_map_linOf]; exact h.1.2) h.1.1
  · intro hq
    simp only [Bool.and_eq_true, List.all_eq_true]
    refine ⟨⟨fun l hl => ?_, fun c hcm => ?_⟩, fun c hcm => ?_⟩
    · rw [← ofClause_singleton_holds]; exact hbind l hl a hq
    · rw [← linOf_holds]; exact horig c hcm a hq
    · rw [← linOf_holds]; exact hlearned c hcm a hq

/-- **C18, solver, same models.** If the learned constraints and the top-level bindings are
    entailed by the original constraints (soundness of the analysis and of top-level
    propagation: C01 / C06 / C14), the text read back has exactly the models of the original
    constraints. -/
theorem solver_print_models (st : State)
    (hc : ∀ c ∈ st.orig ++ st.learned, clauseOk c)
    (hlearned : ∀ c ∈ st.learned, Entails (st.orig.map linOf) (linOf c))
    (hbind : ∀ l ∈ topLits st.model, Entails (st.orig.map linOf) (Lin.ofClause [l])) :
    ∃ r, parseOpbLines (printSolver st) = .ok r ∧ r.obj = st.obj ∧
      (∀ a, r.frontSem a = Problem.holds a (st.orig.map linOf)) ∧
      (∀ a, cost (r.obj.getD []) a = cost (st.obj.getD []) a) := by
  refine solver_print_models_of st (st.orig.map linOf) hc (fun c hcm a ha => ?_) hlearned hbind
    (fun a ha _ => ha)
  rw [holds_map_linOf, List.all_eq_true] at ha
  rw [linOf_holds]; exact ha c hcm

theorem foldl_setUnit_length : ∀ (us : List Int) (m : List Int), (us.foldl setUnit m).length = m.length :=
  fun us m => List.foldlRecOn (motive := (·.length = m.length)) us setUnit rfl fun b hb u _ => by
    rw [setUnit, List.length_set, hb]

section
open GS.Simplify

/-- **The bindings printed are the units**, whenever `s.model` and the units say the same
    (`GS.Simplify.MInv`, the invariant the parsers establish and `simplify` keeps). -/
theorem mem_topLits_of_MInv {m us : List Int} (h : MInv m us) (hz : ∀ u ∈ us, u ≠ 0) (l : Int) :
    l ∈ topLits m ↔ l ∈ us := by
  rw [mem_topLits]
  constructor
  · rintro ⟨j, ⟨hj, rfl⟩ | ⟨hj, rfl⟩⟩
    · rw [Int.natCast_succ]; exact (h.pos j).1 (by rw [mget, hj]; rfl)
    · rw [Int.natCast_succ]; exact (h.neg j).1 (by rw [mget, hj]; rfl)
  · intro hl
    have h0 := hz l hl
    have hm := (h.mem_iff h0).1 hl
    refine ⟨varOf l, ?_⟩
    by_cases hp : l > 0
    · rw [if_pos hp] at hm
      exact Or.inl ⟨getElem?_of_mget hm (by decide), by unfold varOf; omega⟩
    · rw [if_neg hp] at hm
      exact Or.inr ⟨getElem?_of_mget hm (by decide), by unfold varOf; omega⟩

theorem MInv_foldl_setUnit : ∀ (us m done : List Int), MInv m done →
    (∀ u ∈ us, u ≠ 0 ∧ varOf u < m.length) → (∀ u ∈ us, -u ∉ done ++ us) →
    MInv (us.foldl setUnit m) (done ++ us)
  | [], m, done, h, _, _ => by rwa [List.append_nil]
  | u :: us, m, done, h, hu, hc => by
    rw [show done ++ u :: us = (done ++ [u]) ++ us by simp]
    obtain ⟨hu0, hlen⟩ := hu u List.mem_cons_self
    refine MInv_foldl_setUnit us _ _ (h.bind hu0 hlen ?_) (fun x hx => ?_) (fun x hx => ?_)
    · rw [Ne, ← h.neg_mem_iff hu0]
      exact fun hm => hc u List.mem_cons_self (List.mem_append_left _ hm)
    · rw [setUnit, List.length_set]; exact hu x (List.mem_cons_of_mem _ hx)
    · simpa using hc x (List.mem_cons_of_mem _ hx)

/-- **The bindings a fresh solver prints are the units of its problem** (as a set), when the
    units are non-zero, within the variables and consistent — which is what the parsers guarantee
    of a problem whose status is not `Unsat`. -/
theorem mem_topLits_fresh (n : Nat) (us : List Int) (hu : ∀ u ∈ us, u ≠ 0 ∧ u.natAbs ≤ n)
    (hcons : ∀ u ∈ us, -u ∉ us) (l : Int) : l ∈ topLits (modelOfUnits n us) ↔ l ∈ us := by
  have h := MInv_foldl_setUnit us _ [] (MInv.init n)
    (fun u h => ⟨(hu u h).1, by rw [List.length_replicate]; exact varOf_lt (hu u h).1 (hu u h).2⟩) hcons
  exact mem_topLits_of_MInv h (fun u h => (hu u h).1) l

end

/-- **C18, fresh solver.** For a solver just made from a problem (no learned constraint, the
    model array holding the problem's units), `Solver.PBString()` and `Problem.PBString()` print
    the same cost line and the same clause lines; they differ by the comment line (solver
    only), by the place of the units (solver: after the clauses, by increasing variable, each
    once, a false variable as `1 x<v> = 0 ;`; problem: before the clauses, in the order of
    `pb.Units`, a false variable as `1 ~x<v> = 1 ;`) — and the bound literals are the same set.
    Both texts are read back without error, with the same cost function and the same models. -/
theorem solver_print_eq_problem_print (n : Nat) (obj : Option (List (Int × Int))) (units : List Int)
    (clauses : List PBC) (hu : ∀ u ∈ units, u ≠ 0 ∧ u.natAbs ≤ n) (hcons : ∀ u ∈ units, -u ∉ units)
    (hc : ∀ c ∈ clauses, clauseOk c) :
    printSolver (freshState n obj units clauses) =
      headerLine n clauses.length 0 ::
        (minLines obj ++ (clauses.map pbClauseLine ++ (bindings (modelOfUnits n units)).map bindLine)) ∧
    printPB obj units clauses = minLines obj ++ (units.map pbUnitLine ++ clauses.map pbClauseLine) ∧
    (∀ l, l ∈ topLits (modelOfUnits n units) ↔ l ∈ units) ∧
    ∃ r1 r2, parseOpbLines (printSolver (freshState n obj units clauses)) = .ok r1 ∧
      parseOpbLines (printPB obj units clauses) = .ok r2 ∧ r1.obj = obj ∧ r2.obj = obj ∧
      (∀ a, r1.frontSem a = r2.frontSem a) ∧
      (∀ a, r1.frontSem a = (units.all (litTrue a) && clauses.all (·.sem a))) := by
  have hmem := mem_topLits_fresh n units hu hcons
  refine ⟨by simp [printSolver, freshState], by cases obj <;> rfl, hmem, ?_⟩
  obtain ⟨r1, p1, p2, _, _, p5, _⟩ := solver_print_parse (freshState n obj units clauses)
    (by intro c h; simp [freshState] at h; exact hc c h)
  obtain ⟨r2, q1, q2, _, _, q5, _⟩ := pb_print_parse obj units clauses (fun u h => (hu u h).1) hc
  have hall : ∀ a, (topLits (modelOfUnits n units)).all (litTrue a) = units.all (litTrue a) := by
    intro a
    rw [Bool.eq_iff_iff, List.all_eq_true, List.all_eq_true]
    exact ⟨fun h l hl => h l ((hmem l).2 hl), fun h l hl => h l ((hmem l).1 hl)⟩
  have key : ∀ a, r1.frontSem a = (units.all (litTrue a) && clauses.all (·.sem a)) := by
    intro a
    rw [p5]
    simp [freshState, hall]
  exact ⟨r1, r2, p1, q1, p2, q2, fun a => by rw [key, q5], key⟩

/-- A cost function with a negative and a null coefficient, a PB constraint and a clause. -/
def exCost : State :=
  State.ofGo 3 (some [1, -2, 3]) (some [3, -2, 0])
    [{ lits := [3, 2, 1], weights := some [4, 3, 2], low := 4 }, { lits := [1, -2] }] [] [0, 0, 0]

/-- A cardinality constraint, a learned clause whose LBD is 3 (printed with degree 1), `x2`
    false and `x4` true at the top level, `x1` false at level 2 and `x3` true at level 3. -/
def exLearned : State :=
  State.ofGo 4 none none [{ lits := [1, 2, 3], low := 1 }] [learnedCl [-1, 4] 3] [-2, -1, 3, 1]

/-- What `New` returns for a problem refuted by its parser: `&Solver{status: Unsat}`. -/
def exRefuted : State := State.ofGo 0 none none [] [] []

/-- Two variables, the cost function `min: 1 ~x1`, `x1` true at the top level, no constraint
    left, `x2` free. -/
def exFewerVars : State := State.ofGo 2 (some [-1]) none [] [] [1, 0]

/-- How the two examples below are evaluated. The text is computed once and compared with the
    literal, which the kernel reads as `String.ofList` of its characters; the lexer then runs on
    these characters, not on the computed text, whose UTF-8 bytes it would have to decode. -/
theorem text_lex {st : State} {l : List Char} (h : printSolverText st = String.ofList l)
    (hl : (scanLines l).map lexLine = printSolver st) :
    printSolverText st = String.ofList l ∧ lexText (printSolverText st) = printSolver st :=
  ⟨h, by rw [h, lexText, String.toList_ofList, hl]⟩

set_option maxRecDepth 4096 in
example : printSolverText exCost =
    "* #variable= 3 #constraint= 2 #learned= 0\nmin: 3 x1 -2 ~x2 +0 x3 ;\n4 x3 +3 x2 +2 x1 >= 5 ;\n1 x1 +1 ~x2 >= 1 ;" ∧
    lexText (printSolverText exCost) = printSolver exCost ∧
    (∀ c ∈ exCost.orig ++ exCost.learned, clauseOk c) ∧
    (parseOpbLines (printSolver exCost)).toOption =
      some { nbVars := 3, obj := some [(3, 1), (-2, -2), (0, 3)],
             constrs := [⟨[3, 2, 1], some [4, 3, 2], 5⟩, ⟨[1, -2], some [1, 1], 1⟩], units := [],
             kept := [⟨[3, 2, 1], some [4, 3, 2], 5⟩, ⟨[1, -2], some [1, 1], 1⟩], unsat := false } :=
  and_assoc.1 ⟨text_lex (by decide +kernel) (by decide +kernel), by decide +kernel⟩

set_option maxRecDepth 4096 in
example : printSolverText exLearned =
    "* #variable= 4 #constraint= 1 #learned= 1\n1 x1 +1 x2 +1 x3 >= 2 ;\n1 ~x1 +1 x4 >= 1 ;\n1 x2 = 0 ;\n1 x4 = 1 ;" ∧
    lexText (printSolverText exLearned) = printSolver exLearned ∧
    (∀ c ∈ exLearned.orig ++ exLearned.learned, clauseOk c) ∧
    topLits exLearned.model = [-2, 4] ∧
    (parseOpbLines (printSolver exLearned)).toOption =
      some { nbVars := 4, obj := none,
             constrs := [⟨[1, 2, 3], some [1, 1, 1], 2⟩, ⟨[-1, 4], some [1, 1], 1⟩, ⟨[-2], some [1], 1⟩, ⟨[4], some [1], 1⟩],
             units := [-2, 4], kept := [⟨[1, 2, 3], some [1, 1, 1], 2⟩, ⟨[-1, 4], some [1, 1], 1⟩],
             unsat := false } :=
  and_assoc.1 ⟨text_lex (by decide +kernel) (by decide +kernel), by decide +kernel⟩

/-- The hypotheses of `solver_print_models` on a concrete state: `x1 + x2 ≥ 2` entails both
    bindings `x1`, `x2`, and the learned clause `x1 ∨ ¬x3`. -/
example :
    let st : State := State.ofGo 3 none none [{ lits := [1, 2], low := 1 }, { lits := [-1, 2, 3] }]
      [learnedCl [1, -3] 2] [1, 1, 0]
    (∀ c ∈ st.orig ++ st.learned, clauseOk c) ∧ topLits st.model = [1, 2] ∧
    (∀ c ∈ st.learned, Entails (st.orig.map linOf) (linOf c)) ∧
    (∀ l ∈ topLits st.model, Entails (st.orig.map linOf) (Lin.ofClause [l])) := by
  intro st
  -- the cardinality constraint alone forces both variables
  have key : ∀ a, Problem.holds a (st.orig.map linOf) = true → a 1 = true ∧ a 2 = true := by
    intro a ha
    simp [st, State.ofGo, Cl.pbc, Cl.cardinality, Problem.holds, linOf, Lin.holds, PBC.terms, lhs, termVal,
      litTrue] at ha
    cases h1 : a 1 <;> cases h2 : a 2 <;> simp [h1, h2] at ha ⊢
  have htop : topLits st.model = [1, 2] := by decide
  refine ⟨by decide, htop, fun c hc a ha => ?_, fun l hl a ha => ?_⟩
  · simp [st, State.ofGo, learnedCl, Cl.pbc, Cl.cardinality] at hc
    subst hc
    simp [linOf, Lin.holds, PBC.terms, lhs, termVal, litTrue, (key a ha).1]
    split <;> omega
  · rw [htop] at hl
    rw [ofClause_singleton_holds]
    have := key a ha
    simp only [List.mem_cons, List.not_mem_nil, or_false] at hl
    rcases hl with rfl | rfl <;> simp [litTrue, this]

/-- The hypotheses of `solver_print_eq_problem_print`: units `x3`, `¬x1` over 3 variables. -/
example :
    (∀ u ∈ [(3 : Int), -1], u ≠ 0 ∧ u.natAbs ≤ 3) ∧ (∀ u ∈ [(3 : Int), -1], -u ∉ [(3 : Int), -1]) ∧
    modelOfUnits 3 [3, -1] = [-1, 0, 1] ∧ topLits (modelOfUnits 3 [3, -1]) = [-1, 3] ∧
    printSolver (freshState 3 none [3, -1] [⟨[2, -3], none, 1⟩]) =
      [[.word "*", .word "#variable=", .int 3, .word "#constraint=", .int 1, .word "#learned=", .int 0],
       [.int 1, .word "x2", .int 1, .word "~x3", .word ">=", .int 1, .word ";"],
       [.int 1, .word "x1", .word "=", .int 0, .word ";"], [.int 1, .word "x3", .word "=", .int 1, .word ";"]] ∧
    printPB none [3, -1] [⟨[2, -3], none, 1⟩] =
      [[.int 1, .word "x3", .word "=", .int 1, .word ";"], [.int 1, .word "~x1", .word "=", .int 1, .word ";"],
       [.int 1, .word "x2", .int 1, .word "~x3", .word ">=", .int 1, .word ";"]] := by
  decide +kernel

/-- **The status is not printed.** A problem refuted while it is parsed gives `New` nothing to
    keep: the solver prints a text without any constraint, of which every assignment is a model,
    whereas the problem has none. (Same thing when `AppendClause` / `propagateUnits` set
    `s.status = Unsat` without storing the refuted constraint.) -/
example : printSolverText exRefuted = "* #variable= 0 #constraint= 0 #learned= 0\n" ∧
    (parseOpbLines (printSolver exRefuted)).toOption = some {} ∧
    ∀ a, (({} : OpbState).frontSem a) = true := by
  refine ⟨by decide +kernel, by decide +kernel, fun a => rfl⟩

/-- **Fewer variables.** `ParseOPB` skips the comment line: the number of variables it finds is
    the largest variable written in the cost line, a constraint or a binding. A free variable
    above all of these (here `x2`) is lost: the solver has 2 variables, the text read back 1. -/
example : printSolverText exFewerVars = "* #variable= 2 #constraint= 0 #learned= 0\nmin: 1 ~x1 ;\n1 x1 = 1 ;" ∧
    exFewerVars.nbVars = 2 ∧
    (parseOpbLines (printSolver exFewerVars)).toOption =
      some { nbVars := 1, obj := some [(1, -1)], constrs := [⟨[1], some [1], 1⟩], units := [1],
             kept := [], unsat := false } := by
  decide +kernel

/-! ### Why `clauseOk`: the two failures shown after `pb_print_parse` (`C13_Formats`: the empty
clause, a negative weight after the first term), here through `State.ofGo`; a literal 0 is printed
as `x0`, which `ParseOPB` reads as a variable without complaint. None of these is made by the Go code
(`NewPBClause` is given weights `≥ 1` by `GtEq`, `simplifyPB` and `AppendClause` remove a constraint
left without terms), unless a caller builds a `PBConstr` by hand. -/

example : (parseOpbLines (printSolver (State.ofGo 1 none none [{ lits := [] }] [] [0]))) = .error "invalid syntax" := by
  rfl
example : (parseOpbLines (printSolver (State.ofGo 2 none none
    [{ lits := [1, 2], weights := some [1, -2] }] [] [0, 0]))) = .error "panic: index out of range" := by rfl

end GS.SolverPrint

#print axioms GS.SolverPrint.mem_topLits
#print axioms GS.SolverPrint.topLits_all_iff
#print axioms GS.SolverPrint.printSolver_eq_render
#print axioms GS.SolverPrint.solver_print_parse
#print axioms GS.SolverPrint.solver_print_parse_iff
#print axioms GS.SolverPrint.solver_print_models_of
#print axioms GS.SolverPrint.solver_print_models
#print axioms GS.SolverPrint.mem_topLits_fresh
#print axioms GS.SolverPrint.solver_print_eq_problem_print

