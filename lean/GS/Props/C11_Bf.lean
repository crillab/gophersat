import GS.Model.Bf
import GS.Props.C11_Unique
import GS.Spec.ListLemmas
/-!
# C11 (formula side): `nnf` and the truth table; `nnf` lands in the grammar `cnfRec` accepts

`Unique(names...)` is the node `F.unique`. `nnf` replaces it by `uniqueRec(u...).nnf()` where it
must hold and by `u.negation().nnf()` where it must not (`GS/Model/Bf.lean`); only the first, above
4 names, introduces dummy variables. Hence three statements: `nnf_eval` (same truth value under every
assignment) on the formulas whose groups in positive position have at most 4 names (`smallPos`);
`nnf_sound` for every formula; `nnf_eval_coh` and `nnf_models` for every formula built through the
API (`userOnly`), with the assignments whose line / column dummies are the disjunctions of their
members (`Coherent`).

The mirror normalises in one pass with the polarity as a parameter; that Go's double normalisation
computes the same is `nnf_idem` below.
-/
namespace GS.Bf
open GS.BfUnique (uniqueRec natDims natName uniqueRec_eq)

theorem nnfPsX_eq_map (X : Bool → List Key → F) (b : Bool) : ∀ fs : List F, nnfPsX X b fs = fs.map (nnfPX X b)
  | [] => rfl
  | f :: fs => congrArg (nnfPX X b f :: ·) (nnfPsX_eq_map X b fs)

/-! `nnfPX` by cases on the node alone (the definition also splits on the polarity). -/

section
variable (X : Bool → List Key → F) (b : Bool)

theorem nnfPX_var (n : Nat) (d : Bool) : nnfPX X b (.var n d) = .lit n d b := by cases b <;> rfl

theorem nnfPX_lit (n : Nat) (d s : Bool) : nnfPX X b (.lit n d s) = .lit n d (s != b) := by cases b <;> rfl

theorem nnfPX_not (f : F) : nnfPX X b (.not f) = nnfPX X (!b) f := by cases b <;> rfl

theorem nnfPX_unique (ks : List Key) : nnfPX X b (.unique ks) = X b ks := by cases b <;> rfl

theorem nnfPX_tt : nnfPX X b .tt = if b then .ff else .tt := by cases b <;> rfl

theorem nnfPX_ff : nnfPX X b .ff = if b then .tt else .ff := by cases b <;> rfl

theorem nnfPX_and (fs : List F) :
    nnfPX X b (.and fs) = if b then orFold (fs.map (nnfPX X b)) [] else andFold (fs.map (nnfPX X b)) [] := by
  rw [← nnfPsX_eq_map]; cases b <;> rfl

theorem nnfPX_or (fs : List F) :
    nnfPX X b (.or fs) = if b then andFold (fs.map (nnfPX X b)) [] else orFold (fs.map (nnfPX X b)) [] := by
  rw [← nnfPsX_eq_map]; cases b <;> rfl
end

theorem andFold_eval (m) (xs acc : List F) : eval m (andFold xs acc) = (evalAll m acc && evalAll m xs) := by
  fun_induction andFold xs acc <;> simp_all [eval, evalAll, evalAll_append, Bool.and_assoc]

theorem orFold_eval (m) (xs acc : List F) : eval m (orFold xs acc) = (evalAny m acc || evalAny m xs) := by
  fun_induction orFold xs acc <;> simp_all [eval, evalAny, evalAny_append, Bool.or_assoc]

theorem eval_nnfPX_and (m) (X : Bool → List Key → F) (b : Bool) (fs : List F) :
    eval m (nnfPX X b (.and fs)) =
      if b then fs.any (fun f => eval m (nnfPX X b f)) else fs.all (fun f => eval m (nnfPX X b f)) := by
  rw [nnfPX_and]
  cases b <;> simp [andFold_eval, orFold_eval, evalAll_eq, evalAny_eq, evalAll, evalAny, Function.comp_def]

theorem eval_nnfPX_or (m) (X : Bool → List Key → F) (b : Bool) (fs : List F) :
    eval m (nnfPX X b (.or fs)) =
      if b then fs.all (fun f => eval m (nnfPX X b f)) else fs.any (fun f => eval m (nnfPX X b f)) := by
  rw [nnfPX_or]
  cases b <;> simp [andFold_eval, orFold_eval, evalAll_eq, evalAny_eq, evalAll, evalAny, Function.comp_def]

section evalX
variable (m : Key → Bool) (X : Bool → List Key → F) (q : Bool → List Key → Bool)
  (hX : ∀ b ks, q b ks = true → eval m (X b ks) = (eval m (.unique ks) != b))
include hX

theorem nnfPX_eval (b : Bool) (f : F) : allU q b f = true → eval m (nnfPX X b f) = (eval m f != b) := by
  induction f using F.ind generalizing b with
  | var n d => intro _; cases b <;> rfl
  | lit n d s => intro _; simp only [nnfPX_lit, eval, Bool.bne_assoc]
  | not f ih => intro h; rw [nnfPX_not, ih _ h]; simp only [eval, Bool.bne_not, Bool.not_bne]
  | and fs ih =>
    intro h
    have e := fun f hf => ih f hf b (allUs_mem h hf)
    rw [eval_nnfPX_and, eval, evalAll_eq, all_bne, all_congr_mem e, any_congr_mem e]
  | or fs ih =>
    intro h
    have e := fun f hf => ih f hf b (allUs_mem h hf)
    rw [eval_nnfPX_or, eval, evalAny_eq, any_bne, all_congr_mem e, any_congr_mem e]
  | tt => intro _; cases b <;> rfl
  | ff => intro _; cases b <;> rfl
  | unique ks => intro h; rw [nnfPX_unique]; exact hX b ks h

theorem nnfPsX_all : ∀ fs : List F, allUs q false fs = true → evalAll m (nnfPsX X false fs) = evalAll m fs :=
  fun fs h => by
    rw [nnfPsX_eq_map, evalAll_eq, List.all_map]
    exact (eval_nnfPX_and m X false fs).symm.trans ((nnfPX_eval m X q hX false (.and fs) h).trans (Bool.bne_false _))
theorem nnfPsX_any : ∀ fs : List F, allUs q false fs = true → evalAny m (nnfPsX X false fs) = evalAny m fs :=
  fun fs h => by
    rw [nnfPsX_eq_map, evalAny_eq, List.any_map]
    exact (eval_nnfPX_or m X false fs).symm.trans ((nnfPX_eval m X q hX false (.or fs) h).trans (Bool.bne_false _))
theorem nnfPsX_any_neg : ∀ fs : List F, allUs q true fs = true → evalAny m (nnfPsX X true fs) = !evalAll m fs :=
  fun fs h => by
    rw [nnfPsX_eq_map, evalAny_eq, List.any_map]
    exact (eval_nnfPX_and m X true fs).symm.trans ((nnfPX_eval m X q hX true (.and fs) h).trans (Bool.bne_true _))
theorem nnfPsX_all_neg : ∀ fs : List F, allUs q true fs = true → evalAll m (nnfPsX X true fs) = !evalAny m fs :=
  fun fs h => by
    rw [nnfPsX_eq_map, evalAll_eq, List.all_map]
    exact (eval_nnfPX_or m X true fs).symm.trans ((nnfPX_eval m X q hX true (.or fs) h).trans (Bool.bne_true _))
end evalX

section soundX
variable (m : Key → Bool) (X : Bool → List Key → F)
  (hX : ∀ b ks, eval m (X b ks) = true → (eval m (.unique ks) != b) = true)
include hX

theorem nnfPX_sound (b : Bool) (f : F) : eval m (nnfPX X b f) = true → (eval m f != b) = true := by
  induction f using F.ind generalizing b with
  | var n d => cases b <;> exact id
  | lit n d s => simp only [nnfPX_lit, eval, Bool.bne_assoc, imp_self]
  | not f ih => intro h; rw [nnfPX_not] at h; simpa only [eval, Bool.bne_not, Bool.not_bne] using ih _ h
  | and fs ih =>
    rw [eval_nnfPX_and, eval, evalAll_eq, all_bne]
    cases b
    · exact all_imp_mem fun f hf => ih f hf false
    · exact any_imp_mem fun f hf => ih f hf true
  | or fs ih =>
    rw [eval_nnfPX_or, eval, evalAny_eq, any_bne]
    cases b
    · exact any_imp_mem fun f hf => ih f hf false
    · exact all_imp_mem fun f hf => ih f hf true
  | tt => rw [nnfPX_tt]; cases b <;> simp [eval]
  | ff => rw [nnfPX_ff]; cases b <;> simp [eval]
  | unique ks => rw [nnfPX_unique]; exact hX b ks

theorem nnfPsX_all_s : ∀ fs : List F, evalAll m (nnfPsX X false fs) = true → evalAll m fs = true :=
  fun fs h => by
    rw [nnfPsX_eq_map, evalAll_eq, List.all_map] at h
    simpa only [eval, Bool.bne_false] using nnfPX_sound m X hX false (.and fs) ((eval_nnfPX_and m X false fs).trans h)
theorem nnfPsX_any_s : ∀ fs : List F, evalAny m (nnfPsX X false fs) = true → evalAny m fs = true :=
  fun fs h => by
    rw [nnfPsX_eq_map, evalAny_eq, List.any_map] at h
    simpa only [eval, Bool.bne_false] using nnfPX_sound m X hX false (.or fs) ((eval_nnfPX_or m X false fs).trans h)
theorem nnfPsX_any_neg_s : ∀ fs : List F, evalAny m (nnfPsX X true fs) = true → evalAll m fs = false :=
  fun fs h => by
    rw [nnfPsX_eq_map, evalAny_eq, List.any_map] at h
    simpa only [eval, Bool.bne_true, Bool.not_eq_true'] using
      nnfPX_sound m X hX true (.and fs) ((eval_nnfPX_and m X true fs).trans h)
theorem nnfPsX_all_neg_s : ∀ fs : List F, evalAll m (nnfPsX X true fs) = true → evalAny m fs = false :=
  fun fs h => by
    rw [nnfPsX_eq_map, evalAll_eq, List.all_map] at h
    simpa only [eval, Bool.bne_true, Bool.not_eq_true'] using
      nnfPX_sound m X hX true (.or fs) ((eval_nnfPX_or m X true fs).trans h)
end soundX

theorem uniqueX_true (ks : List Key) : uniqueX true ks = nnf0P false (negation ks) := rfl

theorem uniqueX_false (ks : List Key) : uniqueX false ks = nnf0P false (uniqueRec natDims ks) := rfl

theorem nnf0P_eval (m : Key → Bool) (b : Bool) (f : F) (h : noU f = true) :
    eval m (nnf0P b f) = (eval m f != b) :=
  nnfPX_eval m _ (fun _ _ => false) (by intro b ks hq; simp at hq) b f (allU_of_noU _ b f h)

theorem uniqueX_true_eval (m : Key → Bool) (ks : List Key) :
    eval m (uniqueX true ks) = !eval m (.unique ks) := by
  rw [uniqueX_true, nnf0P_eval m false _ (negation_noU ks), Bool.bne_false, negation_eval_unique]

theorem uniqueX_false_eval (m : Key → Bool) (ks : List Key) :
    eval m (uniqueX false ks) = eval m (uniqueRec natDims ks) := by
  rw [uniqueX_false, uniqueRec_eq, nnf0P_eval m false _ (GS.BfUnique.uniqueRecF_noU _ _ _ _), Bool.bne_false]

theorem uniqueX_false_small (m : Key → Bool) (ks : List Key) (h : ks.length ≤ 4) :
    eval m (uniqueX false ks) = eval m (.unique ks) := by
  rw [uniqueX_false_eval, uniqueRec_eq]
  exact GS.BfUnique.uniqueRecF_small natDims natName m _ ks h

theorem uniqueX_false_sound (m : Key → Bool) (ks : List Key) (h : eval m (uniqueX false ks) = true) :
    eval m (.unique ks) = true := by
  rw [uniqueX_false_eval] at h
  have := GS.BfUnique.uniqueRecN_sound natDims natName GS.BfUnique.natDims_ok m ks h
  simp [eval, this]

theorem uniqueX_sound (m : Key → Bool) (b : Bool) (ks : List Key) (h : eval m (uniqueX b ks) = true) :
    (eval m (.unique ks) != b) = true := by
  cases b
  · simpa using uniqueX_false_sound m ks h
  · rw [uniqueX_true_eval] at h; simpa using h

/-- **C11, formula side.** `f.nnf()` has the truth table of `f` for every tree whose exactly-one
    groups *in positive position* have at most 4 names (groups in negative position: any size).
    With a larger group in positive position `f.nnf()` mentions dummy variables: see `nnf_sound`,
    `nnf_eval_coh`, `nnf_models`. -/
theorem nnf_eval (m : Key → Bool) (f : F) (h : smallPos f = true) : eval m (nnf f) = eval m f := by
  simpa [nnf, nnfP] using nnfPX_eval m uniqueX _ (fun b ks hq => by
    cases b
    · simpa using uniqueX_false_small m ks (by simpa using hq)
    · simp [uniqueX_true_eval]) false f h

theorem smallPos_of_noU (f : F) (h : noU f = true) : smallPos f = true := allU_of_noU _ _ f h

/-- Every model of `f.nnf()` — whatever it gives to the dummy variables — is a model of `f`:
    every tree, groups of every size at every polarity. -/
theorem nnf_sound (m : Key → Bool) (f : F) (h : eval m (nnf f) = true) : eval m f = true := by
  simpa using nnfPX_sound m uniqueX (uniqueX_sound m) false f h

example : nnf (.and [.or [], .not (.not (.var 0 false)), .and []]) = .ff := rfl
example : nnf (.not (.and [.var 0 false, .or [.tt, .var 1 false], .not (.or [])])) = .lit 0 false true := rfl
example : smallPos (.not (uniqueOf [0, 1, 2, 3, 4, 5])) = true := by decide
example : smallPos (implies (uniqueOf [0, 1, 2, 3, 4]) (uniqueOf [5, 6, 7])) = true := by decide
example : smallPos (eq (.var 9 false) (uniqueOf [0, 1, 2, 3, 4])) = false := by decide

/-- the keys `uniqueRec` can generate from the problem variables -/
def Gen (k : Key) : Prop := ∃ d, GS.BfUnique.D.name natName d = k

/-- `m` gives every line / column dummy (at every level) the disjunction of its members -/
def Coherent (m : Key → Bool) : Prop := GS.BfUnique.Coh natDims natName Gen m

theorem uniqueX_false_coh (m : Key → Bool) (hc : Coherent m) (ks : List Key)
    (hk : ks.all (fun k => !k.2) = true) : eval m (uniqueX false ks) = eval m (.unique ks) := by
  rw [Bool.eq_iff_iff]
  refine ⟨uniqueX_false_sound m ks, fun h => ?_⟩
  rw [uniqueX_false_eval, uniqueRec_eq]
  refine GS.BfUnique.uniqueRecF_coherent natDims natName GS.BfUnique.natDims_ok Gen m hc _ ks (Nat.le_refl _) ?_ ?_
  · rintro ⟨n, d⟩ hkm
    have := List.all_eq_true.1 hk _ hkm
    simp only [Bool.not_eq_true'] at this
    subst this
    exact ⟨.base n, rfl⟩
  · simpa [eval] using h

theorem allU_of_allK (p : Key → Bool) (b : Bool) (f : F) : allK p f = true → allU (fun _ ks => ks.all p) b f = true :=
  allU_of_leafwise (allK_leafwise p) _ (fun _ _ h => h) b f

theorem allUs_of_allKs (p : Key → Bool) : ∀ (b : Bool) (fs : List F), allKs p fs = true → allUs (fun _ ks => ks.all p) b fs = true :=
  fun b fs => allU_of_allK p b (.and fs)

/-- Under an assignment whose dummies are coherent, `f.nnf()` has the truth value of `f`: every
    formula built through the API, groups of every size at every polarity. -/
theorem nnf_eval_coh (m : Key → Bool) (hc : Coherent m) (f : F) (hu : userOnly f = true) :
    eval m (nnf f) = eval m f := by
  simpa [nnf, nnfP] using nnfPX_eval m uniqueX (fun _ ks => ks.all (fun k => !k.2)) (fun b ks hq => by
    cases b
    · simpa using uniqueX_false_coh m hc ks hq
    · simp [uniqueX_true_eval]) false f (allU_of_allK _ false f hu)

theorem eval_congr (p : Key → Bool) (m m' : Key → Bool) (hm : ∀ k, p k = true → m' k = m k) (f : F) :
    allK p f = true → eval m' f = eval m f := by
  induction f using F.ind with
  | var n d => exact hm _
  | lit n d s => intro h; rw [eval, eval, hm _ h]
  | not f ih => intro h; rw [eval, eval, ih h]
  | and fs ih => intro h; rw [eval, eval, evalAll_eq, evalAll_eq, all_congr_mem fun f hf => ih f hf (allKs_mem h hf)]
  | or fs ih => intro h; rw [eval, eval, evalAny_eq, evalAny_eq, any_congr_mem fun f hf => ih f hf (allKs_mem h hf)]
  | tt => intro _; rfl
  | ff => intro _; rfl
  | unique ks => intro h; rw [eval, eval, List.map_congr_left fun k hk => hm k (List.all_eq_true.1 h k hk)]

theorem evalAll_congr (p : Key → Bool) (m m' : Key → Bool) (hm : ∀ k, p k = true → m' k = m k) :
    ∀ fs : List F, allKs p fs = true → evalAll m' fs = evalAll m fs :=
  fun fs => eval_congr p m m' hm (.and fs)

theorem evalAny_congr (p : Key → Bool) (m m' : Key → Bool) (hm : ∀ k, p k = true → m' k = m k) :
    ∀ fs : List F, allKs p fs = true → evalAny m' fs = evalAny m fs :=
  fun fs => eval_congr p m m' hm (.or fs)

theorem eval_congr_user (m m' : Key → Bool) (hm : ∀ n, m' (n, false) = m (n, false)) (f : F)
    (hu : userOnly f = true) : eval m' f = eval m f := by
  refine eval_congr (fun k => !k.2) m m' ?_ f hu
  rintro ⟨n, d⟩ hd
  simp only [Bool.not_eq_true'] at hd
  subst hd
  exact hm n

/-- Every model of `f` extends to a model of `f.nnf()`: same values on the problem variables,
    every line / column dummy the disjunction of its members. -/
theorem nnf_complete (m : Key → Bool) (f : F) (hu : userOnly f = true) (h : eval m f = true) :
    ∃ m' : Key → Bool, (∀ n, m' (n, false) = m (n, false)) ∧ Coherent m' ∧ eval m' (nnf f) = true := by
  have hu' := GS.BfUnique.ext_user natDims natName GS.BfUnique.natName_inj m
  have hc : Coherent (GS.BfUnique.ext natDims natName m) := GS.BfUnique.ext_coh natDims natName GS.BfUnique.natName_inj m
  refine ⟨_, hu', hc, ?_⟩
  rw [nnf_eval_coh _ hc f hu, eval_congr_user m _ hu' f hu, h]

/-- For every formula built through the API — exactly-one groups of every size at every
    polarity — the models of `f` are exactly the restrictions to the problem variables of the
    models of `f.nnf()`: the dummy variables are existentially quantified, and they only occur
    where that is right (`unique.nnf()` expands a group where it must hold, `negation()`,
    without dummies, where it must not). -/
theorem nnf_models (m : Key → Bool) (f : F) (hu : userOnly f = true) :
    eval m f = true ↔ ∃ m' : Key → Bool, (∀ n, m' (n, false) = m (n, false)) ∧ eval m' (nnf f) = true := by
  constructor
  · intro h
    obtain ⟨m', h1, _, h3⟩ := nnf_complete m f hu h
    exact ⟨m', h1, h3⟩
  · rintro ⟨m', h1, h2⟩
    rw [← eval_congr_user m m' h1 f hu]
    exact nnf_sound m' f h2

mutual
/-- `nnfOk noAnd noOr f`: `f` is a proper NNF node — `lit` leaves only, every `and` / `or` has at
    least two children, no `and` directly inside an `and`, no `or` directly inside an `or`, no
    constant; `noAnd` / `noOr` forbid an `and` / `or` at the root of `f` (because the parent is one). -/
def nnfOk : Bool → Bool → F → Bool
  | _, _, .lit _ _ _ => true
  | noAnd, _, .and fs => !noAnd && decide (2 ≤ fs.length) && nnfOkAll true false fs
  | _, noOr, .or fs => !noOr && decide (2 ≤ fs.length) && nnfOkAll false true fs
  | _, _, .var _ _ => false
  | _, _, .not _ => false
  | _, _, .tt => false
  | _, _, .ff => false
  | _, _, .unique _ => false
def nnfOkAll : Bool → Bool → List F → Bool
  | _, _, [] => true
  | a, o, f :: fs => nnfOk a o f && nnfOkAll a o fs
end

/-- the grammar of NNF formulas: a constant alone, or a proper NNF node -/
def IsNNF (f : F) : Prop := f = .tt ∨ f = .ff ∨ nnfOk false false f = true

theorem IsNNF.tt : IsNNF .tt := .inl rfl

theorem IsNNF.ff : IsNNF .ff := .inr (.inl rfl)

theorem IsNNF.ok {f : F} (h : nnfOk false false f = true) : IsNNF f := .inr (.inr h)

theorem nnfOkAll_eq (a o : Bool) : ∀ fs : List F, nnfOkAll a o fs = fs.all (nnfOk a o)
  | [] => rfl
  | f :: fs => by rw [nnfOkAll, List.all_cons, nnfOkAll_eq a o fs]

theorem nnfOkAll_mem {a o : Bool} {fs : List F} (h : nnfOkAll a o fs = true) {f : F} (hf : f ∈ fs) : nnfOk a o f = true :=
  List.all_eq_true.1 (nnfOkAll_eq a o fs ▸ h) f hf

theorem nnfOkAll_append (a o : Bool) (xs ys : List F) :
    nnfOkAll a o (xs ++ ys) = (nnfOkAll a o xs && nnfOkAll a o ys) := by
  simp only [nnfOkAll_eq, List.all_append]

theorem nnfOk_weaken (a o : Bool) (f : F) (h : nnfOk a o f = true) : nnfOk false false f = true := by
  cases f <;> simp_all [nnfOk]

theorem andFold_isNNF (xs acc : List F) (hx : ∀ x ∈ xs, IsNNF x) (h : nnfOkAll true false acc = true) :
    IsNNF (andFold xs acc) := by
  -- the cases are the equations of `andFold` in order: at the end of `xs`, `acc` empty, one formula, two or
  -- more; then a child `.and gs`, `.tt`, `.ff`, any other
  fun_induction andFold xs acc with
  | case1 => exact .tt
  | case2 x => exact .ok (nnfOk_weaken _ _ _ (by simpa [nnfOkAll] using h))
  | case3 acc h0 h1 =>
    rcases acc with _ | ⟨x, _ | ⟨y, r⟩⟩
    · exact (h0 rfl).elim
    · exact (h1 x rfl).elim
    · exact .ok (by simp [nnfOk, h])
  | case4 gs rest acc ih =>
    have hg : IsNNF (.and gs) := hx _ List.mem_cons_self
    simp only [IsNNF, nnfOk, reduceCtorEq, false_or] at hg
    exact ih (fun x hm => hx x (List.mem_cons_of_mem _ hm)) (by simp_all [nnfOkAll_append])
  | case5 rest acc ih => exact ih (fun x hm => hx x (List.mem_cons_of_mem _ hm)) h
  | case6 => exact .ff
  | case7 g rest acc ha h1 h2 ih =>
    -- a proper node that is no conjunction may stand inside one
    have hg : nnfOk true false g = true := by
      have := ((hx g List.mem_cons_self).resolve_left h1).resolve_left h2
      cases g with
      | and gs => exact absurd rfl (ha gs)
      | _ => exact this
    exact ih (fun x hm => hx x (List.mem_cons_of_mem _ hm)) (by simp [nnfOkAll_append, nnfOkAll, h, hg])

theorem orFold_isNNF (xs acc : List F) (hx : ∀ x ∈ xs, IsNNF x) (h : nnfOkAll false true acc = true) :
    IsNNF (orFold xs acc) := by
  fun_induction orFold xs acc with
  | case1 => exact .ff
  | case2 x => exact .ok (nnfOk_weaken _ _ _ (by simpa [nnfOkAll] using h))
  | case3 acc h0 h1 =>
    rcases acc with _ | ⟨x, _ | ⟨y, r⟩⟩
    · exact (h0 rfl).elim
    · exact (h1 x rfl).elim
    · exact .ok (by simp [nnfOk, h])
  | case4 gs rest acc ih =>
    have hg : IsNNF (.or gs) := hx _ List.mem_cons_self
    simp only [IsNNF, nnfOk, reduceCtorEq, false_or] at hg
    exact ih (fun x hm => hx x (List.mem_cons_of_mem _ hm)) (by simp_all [nnfOkAll_append])
  | case5 rest acc ih => exact ih (fun x hm => hx x (List.mem_cons_of_mem _ hm)) h
  | case6 => exact .tt
  | case7 g rest acc ha h1 h2 ih =>
    -- a proper node that is no disjunction may stand inside one
    have hg : nnfOk false true g = true := by
      have := ((hx g List.mem_cons_self).resolve_left h2).resolve_left h1
      cases g with
      | or gs => exact absurd rfl (ha gs)
      | _ => exact this
    exact ih (fun x hm => hx x (List.mem_cons_of_mem _ hm)) (by simp [nnfOkAll_append, nnfOkAll, h, hg])

section nnfX
variable (X : Bool → List Key → F) (hX : ∀ b ks, IsNNF (X b ks))
include hX

theorem nnfPX_isNNF (b : Bool) (f : F) : IsNNF (nnfPX X b f) := by
  induction f using F.ind generalizing b with
  | var n d => rw [nnfPX_var]; exact .ok rfl
  | lit n d s => rw [nnfPX_lit]; exact .ok rfl
  | not f ih => rw [nnfPX_not]; exact ih _
  | and fs ih =>
    have h : ∀ x ∈ fs.map (nnfPX X b), IsNNF x := List.forall_mem_map.2 fun f hf => ih f hf b
    rw [nnfPX_and]
    split
    · exact orFold_isNNF _ _ h rfl
    · exact andFold_isNNF _ _ h rfl
  | or fs ih =>
    have h : ∀ x ∈ fs.map (nnfPX X b), IsNNF x := List.forall_mem_map.2 fun f hf => ih f hf b
    rw [nnfPX_or]
    split
    · exact andFold_isNNF _ _ h rfl
    · exact orFold_isNNF _ _ h rfl
  | tt => rw [nnfPX_tt]; split; exact .ff; exact .tt
  | ff => rw [nnfPX_ff]; split; exact .tt; exact .ff
  | unique ks => rw [nnfPX_unique]; exact hX b ks

theorem nnfPsX_isNNF (b : Bool) (fs : List F) : ∀ x ∈ nnfPsX X b fs, IsNNF x := by
  rw [nnfPsX_eq_map]; exact List.forall_mem_map.2 fun f _ => nnfPX_isNNF X hX b f
end nnfX

theorem nnf0P_isNNF (b : Bool) (f : F) : IsNNF (nnf0P b f) :=
  nnfPX_isNNF _ (fun _ _ => .ff) b f

theorem uniqueX_isNNF (b : Bool) (ks : List Key) : IsNNF (uniqueX b ks) := nnf0P_isNNF false _

theorem nnfP_isNNF (b : Bool) (f : F) : IsNNF (nnfP b f) := nnfPX_isNNF uniqueX uniqueX_isNNF b f

theorem nnfPs_isNNF (b : Bool) (fs : List F) : ∀ x ∈ nnfPs b fs, IsNNF x := nnfPsX_isNNF uniqueX uniqueX_isNNF b fs

theorem nnf_isNNF (f : F) : IsNNF (nnf f) := nnfP_isNNF false f

example : IsNNF (nnf (.not (.and [.var 0 false, .or [.var 1 false, .not (.var 2 false)]]))) := nnf_isNNF _
example : ¬ IsNNF (.or [.lit 0 false false, .or [.lit 1 false false, .lit 2 false false]]) := by
  simp [IsNNF, nnfOk, nnfOkAll]
example : ¬ IsNNF (.and [.lit 0 false false, .tt]) := by simp [IsNNF, nnfOk, nnfOkAll]
example : ¬ IsNNF (.and [.lit 0 false false]) := by simp [IsNNF, nnfOk, nnfOkAll]
example : ¬ IsNNF (.unique [(0, false)]) := by simp [IsNNF, nnfOk]

theorem cnfAnd_some (fs : List F) (h : ∀ f ∈ fs, ∀ t, ∃ r, cnfRec f t = some r) : ∀ t, ∃ r, cnfAnd fs t = some r := by
  induction fs with
  | nil => exact fun t => ⟨_, rfl⟩
  | cons f fs ih =>
    intro t
    obtain ⟨r1, h1⟩ := h f List.mem_cons_self t
    obtain ⟨r2, h2⟩ := ih (fun g hg => h g (List.mem_cons_of_mem _ hg)) r1.2
    exact ⟨_, by simp only [cnfAnd, h1, h2]; rfl⟩

theorem cnfOr_some (fs : List F) (h : ∀ f ∈ fs, ∀ t, ∃ r, cnfOrChild f t = some r) : ∀ t, ∃ r, cnfOr fs t = some r := by
  induction fs with
  | nil => exact fun t => ⟨_, rfl⟩
  | cons f fs ih =>
    intro t
    obtain ⟨r1, h1⟩ := h f List.mem_cons_self t
    obtain ⟨r2, h2⟩ := ih (fun g hg => h g (List.mem_cons_of_mem _ hg)) r1.2.2
    exact ⟨_, by simp only [cnfOr, h1, h2]; rfl⟩

/-- a child of `or` is a literal or a conjunction, and the run on the conjunction behind its dummy is a run of `cnfRec` -/
theorem cnfOrChild_some (f : F) (hf : ∀ t, ∃ r, cnfRec f t = some r) (h : nnfOk false true f = true) :
    ∀ t, ∃ r, cnfOrChild f t = some r := by
  intro t
  cases f with
  | lit n d s => exact ⟨_, rfl⟩
  | and gs =>
    obtain ⟨r, hr⟩ := hf (dummy t).2
    rw [cnfRec] at hr
    exact ⟨_, by simp only [cnfOrChild, hr]; rfl⟩
  | _ => nomatch h

theorem cnfRec_some_of_ok (f : F) : ∀ a o : Bool, nnfOk a o f = true → ∀ t, ∃ r, cnfRec f t = some r := by
  induction f using F.ind with
  | lit n d s => exact fun _ _ _ t => ⟨_, rfl⟩
  | and fs ih =>
    intro a o h t
    simp only [nnfOk, Bool.and_eq_true] at h
    rw [cnfRec]
    exact cnfAnd_some fs (fun f hf => ih f hf _ _ (nnfOkAll_mem h.2 hf)) t
  | or fs ih =>
    intro a o h t
    simp only [nnfOk, Bool.and_eq_true] at h
    obtain ⟨r, hr⟩ := cnfOr_some fs
      (fun f hf => cnfOrChild_some f (ih f hf _ _ (nnfOkAll_mem h.2 hf)) (nnfOkAll_mem h.2 hf)) t
    exact ⟨_, by simp only [cnfRec, hr]; rfl⟩
  | _ => exact fun _ _ h => nomatch h

theorem cnfAnd_some_of_ok : ∀ (a o : Bool) (fs : List F), nnfOkAll a o fs = true → ∀ t, ∃ r, cnfAnd fs t = some r :=
  fun a o fs h => cnfAnd_some fs fun f hf => cnfRec_some_of_ok f a o (nnfOkAll_mem h hf)

theorem cnfOrChild_some_of_ok : ∀ (f : F), nnfOk false true f = true → ∀ t, ∃ r, cnfOrChild f t = some r :=
  fun f h => cnfOrChild_some f (cnfRec_some_of_ok f _ _ h) h

theorem cnfOr_some_of_ok : ∀ (fs : List F), nnfOkAll false true fs = true → ∀ t, ∃ r, cnfOr fs t = some r :=
  fun fs h => cnfOr_some fs fun f hf => cnfOrChild_some_of_ok f (nnfOkAll_mem h hf)

theorem cnfRec_some_of_isNNF (g : F) (h : IsNNF g) (t : Tbl) : ∃ r, cnfRec g t = some r := by
  rcases h with rfl | rfl | h
  · simp [cnfRec]
  · simp [cnfRec]
  · exact cnfRec_some_of_ok g _ _ h t

/-- `cnfRec(f.nnf(), vars)` never reaches one of its `panic`s: `asCnf` (hence `Dimacs` and
    `Solve`'s conversion) is total — for every tree, `unique` nodes included. -/
theorem nnf_grammar (f : F) : IsNNF (nnf f) ∧ ∃ r, asCnf f = some r :=
  ⟨nnf_isNNF f, cnfRec_some_of_isNNF _ (nnf_isNNF f) []⟩

/-- the panic is real on trees outside the grammar (they are never produced by `nnf`) -/
example : cnfRec (.or [.lit 0 false false, .or [.lit 1 false false, .lit 2 false false]]) [] = none := by
  simp [cnfRec, cnfOr, cnfOrChild, litValue]
example : cnfRec (.unique [(0, false)]) [] = none := by simp [cnfRec]

/-! ## `nnf_idem`: the polarity recursion agrees with Go's double normalisation

Go's `not{and(fs)}.nnf()` computes `or(subs).nnf()` with `subs[i] = not{fs[i]}.nnf()`, so every
child is normalised a second time by `or.nnf`. `nnfP` normalises once (likewise `unique.nnf()` normalises
`uniqueRec(u...)` and the whole is normalised again by the parent); both agree because `nnf`
is the identity on NNF trees. -/

theorem andFold_cons_ok (x : F) (xs acc : List F) (h : nnfOk true false x = true) :
    andFold (x :: xs) acc = andFold xs (acc ++ [x]) := by
  cases x with
  | lit n d s => simp only [andFold]
  | or gs => simp only [andFold]
  | _ => simp [nnfOk] at h

theorem orFold_cons_ok (x : F) (xs acc : List F) (h : nnfOk false true x = true) :
    orFold (x :: xs) acc = orFold xs (acc ++ [x]) := by
  cases x with
  | lit n d s => simp only [orFold]
  | and gs => simp only [orFold]
  | _ => simp [nnfOk] at h

theorem andFold_of_ok : ∀ (xs acc : List F), nnfOkAll true false xs = true →
    andFold xs acc = andFold [] (acc ++ xs)
  | [], acc, _ => by rw [List.append_nil]
  | x :: xs, acc, h => by
      simp only [nnfOkAll, Bool.and_eq_true] at h
      rw [andFold_cons_ok x xs acc h.1, andFold_of_ok xs _ h.2, List.append_assoc]; rfl

theorem orFold_of_ok : ∀ (xs acc : List F), nnfOkAll false true xs = true →
    orFold xs acc = orFold [] (acc ++ xs)
  | [], acc, _ => by rw [List.append_nil]
  | x :: xs, acc, h => by
      simp only [nnfOkAll, Bool.and_eq_true] at h
      rw [orFold_cons_ok x xs acc h.1, orFold_of_ok xs _ h.2, List.append_assoc]; rfl

theorem andFold_fix (xs : List F) (h : nnfOkAll true false xs = true) (h2 : 2 ≤ xs.length) : andFold xs [] = .and xs := by
  rw [andFold_of_ok xs [] h]
  rcases xs with _ | ⟨x, _ | ⟨y, r⟩⟩
  · exact absurd h2 (by decide)
  · exact absurd h2 (Nat.not_succ_le_self 1)
  · rfl

theorem orFold_fix (xs : List F) (h : nnfOkAll false true xs = true) (h2 : 2 ≤ xs.length) : orFold xs [] = .or xs := by
  rw [orFold_of_ok xs [] h]
  rcases xs with _ | ⟨x, _ | ⟨y, r⟩⟩
  · exact absurd h2 (by decide)
  · exact absurd h2 (Nat.not_succ_le_self 1)
  · rfl

theorem nnfPX_fix (X : Bool → List Key → F) (f : F) : ∀ a o : Bool, nnfOk a o f = true → nnfPX X false f = f := by
  induction f using F.ind with
  | lit n d s => intro _ _ _; rw [nnfPX_lit, Bool.bne_false]
  | and fs ih =>
    intro a o h
    simp only [nnfOk, Bool.and_eq_true, decide_eq_true_eq] at h
    rw [nnfPX_and, List.map_congr_left (g := id) fun f hf => ih f hf _ _ (nnfOkAll_mem h.2 hf), List.map_id]
    exact andFold_fix fs h.2 h.1.2
  | or fs ih =>
    intro a o h
    simp only [nnfOk, Bool.and_eq_true, decide_eq_true_eq] at h
    rw [nnfPX_or, List.map_congr_left (g := id) fun f hf => ih f hf _ _ (nnfOkAll_mem h.2 hf), List.map_id]
    exact orFold_fix fs h.2 h.1.2
  | _ => exact fun _ _ h => nomatch h

theorem nnfPsX_fix (X : Bool → List Key → F) : ∀ (a o : Bool) (fs : List F), nnfOkAll a o fs = true → nnfPsX X false fs = fs :=
  fun a o fs h =>
    (nnfPsX_eq_map X false fs).trans
      ((List.map_congr_left (g := id) fun f hf => nnfPX_fix X f a o (nnfOkAll_mem h hf)).trans (List.map_id fs))

theorem nnf_fix (g : F) (h : IsNNF g) : nnf g = g := by
  rcases h with rfl | rfl | h
  · rfl
  · rfl
  · exact nnfPX_fix uniqueX g _ _ h

theorem nnf_idem (f : F) : nnf (nnf f) = nnf f := nnf_fix _ (nnf_isNNF f)

theorem map_nnf_nnfP (b : Bool) (fs : List F) :
    (fs.map (nnfPX uniqueX b)).map (nnfPX uniqueX false) = fs.map (nnfPX uniqueX b) := by
  rw [List.map_map]
  exact List.map_congr_left fun f _ => nnf_fix _ (nnfP_isNNF b f)

/-- the Go text of `not.nnf`, case `and`: `subs[i] = not{sub}.nnf(); return or(subs).nnf()` -/
theorem nnf_not_and (fs : List F) :
    nnf (.not (.and fs)) = nnf (.or (fs.map (fun s => nnf (.not s)))) := by
  show nnfPX uniqueX true (.and fs) = nnfPX uniqueX false (.or (fs.map (nnfPX uniqueX true)))
  rw [nnfPX_and, nnfPX_or, map_nnf_nnfP]
  rfl

/-- the Go text of `not.nnf`, case `or`: `subs[i] = not{sub}.nnf(); return and(subs).nnf()` -/
theorem nnf_not_or (fs : List F) :
    nnf (.not (.or fs)) = nnf (.and (fs.map (fun s => nnf (.not s)))) := by
  show nnfPX uniqueX true (.or fs) = nnfPX uniqueX false (.and (fs.map (nnfPX uniqueX true)))
  rw [nnfPX_or, nnfPX_and, map_nnf_nnfP]
  rfl

/-- the Go text of `and.nnf` / `or.nnf`: normalise every child, then run the loop -/
theorem nnf_and (fs : List F) : nnf (.and fs) = andFold (fs.map nnf) [] := nnfPX_and uniqueX false fs
theorem nnf_or (fs : List F) : nnf (.or fs) = orFold (fs.map nnf) [] := nnfPX_or uniqueX false fs
theorem nnf_not_not (f : F) : nnf (.not (.not f)) = nnf f := rfl

theorem nnfPX_indep (X X' : Bool → List Key → F) (b : Bool) (f : F) : noU f = true → nnfPX X b f = nnfPX X' b f := by
  induction f using F.ind generalizing b with
  | var _ _ => intro _; rw [nnfPX_var, nnfPX_var]
  | lit _ _ _ => intro _; rw [nnfPX_lit, nnfPX_lit]
  | not f ih => rw [nnfPX_not, nnfPX_not]; exact ih _
  | and fs ih => intro h; rw [nnfPX_and, nnfPX_and, List.map_congr_left fun f hf => ih f hf b (noUs_mem h hf)]
  | or fs ih => intro h; rw [nnfPX_or, nnfPX_or, List.map_congr_left fun f hf => ih f hf b (noUs_mem h hf)]
  | tt => intro _; rw [nnfPX_tt, nnfPX_tt]
  | ff => intro _; rw [nnfPX_ff, nnfPX_ff]
  | unique _ => exact fun h => nomatch h

theorem nnfPsX_indep (X X' : Bool → List Key → F) : ∀ (b : Bool) (fs : List F), noUs fs = true → nnfPsX X b fs = nnfPsX X' b fs :=
  fun b fs h => by
    rw [nnfPsX_eq_map, nnfPsX_eq_map]
    exact List.map_congr_left fun f hf => nnfPX_indep X X' b f (noUs_mem h hf)

/-- the Go text of `unique.nnf`: `uniqueRec(u...).nnf()` -/
theorem nnf_unique (ks : List Key) : nnf (.unique ks) = nnf (uniqueRec natDims ks) := by
  rw [uniqueRec_eq]
  exact nnfPX_indep (fun _ _ => .ff) uniqueX false _ (GS.BfUnique.uniqueRecF_noU _ _ _ _)

/-- the Go text of `not.nnf`, case `unique`: `f.negation().nnf()` -/
theorem nnf_not_unique (ks : List Key) : nnf (.not (.unique ks)) = nnf (negation ks) := by
  exact nnfPX_indep (fun _ _ => .ff) uniqueX false _ (negation_noU ks)

theorem andFold_allK (p : Key → Bool) (xs acc : List F) (hx : allKs p xs = true) (ha : allKs p acc = true) :
    allK p (andFold xs acc) = true := by
  fun_induction andFold xs acc <;> simp_all [allK, allKs, allKs_append]

theorem orFold_allK (p : Key → Bool) (xs acc : List F) (hx : allKs p xs = true) (ha : allKs p acc = true) :
    allK p (orFold xs acc) = true := by
  fun_induction orFold xs acc <;> simp_all [allK, allKs, allKs_append]

section keysX
variable (p : Key → Bool) (X : Bool → List Key → F) (q : Bool → List Key → Bool)
  (hX : ∀ b ks, q b ks = true → ks.all p = true → allK p (X b ks) = true)
include hX
theorem nnfPX_allK_of (b : Bool) (f : F) : allU q b f = true → allK p f = true → allK p (nnfPX X b f) = true := by
  induction f using F.ind generalizing b with
  | var n d => rw [nnfPX_var]; exact fun _ h => h
  | lit n d s => rw [nnfPX_lit]; exact fun _ h => h
  | not f ih => rw [nnfPX_not]; exact ih _
  | and fs ih =>
    intro hq h
    have hs : allKs p (fs.map (nnfPX X b)) = true := by
      rw [allKs_eq, List.all_map]; exact List.all_eq_true.2 fun f hf => ih f hf b (allUs_mem hq hf) (allKs_mem h hf)
    rw [nnfPX_and]
    split
    · exact orFold_allK p _ _ hs rfl
    · exact andFold_allK p _ _ hs rfl
  | or fs ih =>
    intro hq h
    have hs : allKs p (fs.map (nnfPX X b)) = true := by
      rw [allKs_eq, List.all_map]; exact List.all_eq_true.2 fun f hf => ih f hf b (allUs_mem hq hf) (allKs_mem h hf)
    rw [nnfPX_or]
    split
    · exact andFold_allK p _ _ hs rfl
    · exact orFold_allK p _ _ hs rfl
  | tt => rw [nnfPX_tt]; intros; split <;> rfl
  | ff => rw [nnfPX_ff]; intros; split <;> rfl
  | unique ks => rw [nnfPX_unique]; exact hX b ks

theorem nnfPsX_allK_of (b : Bool) (fs : List F) (hq : allUs q b fs = true) (h : allKs p fs = true) :
    allKs p (nnfPsX X b fs) = true := by
  rw [nnfPsX_eq_map, allKs_eq, List.all_map]
  exact List.all_eq_true.2 fun f hf => nnfPX_allK_of p X q hX b f (allUs_mem hq hf) (allKs_mem h hf)
end keysX

section keysAll
variable (p : Key → Bool) (X : Bool → List Key → F)
  (hX : ∀ b ks, ks.all p = true → allK p (X b ks) = true)
include hX
theorem nnfPX_allK (b : Bool) (f : F) (h : allK p f = true) : allK p (nnfPX X b f) = true :=
  nnfPX_allK_of p X (fun _ ks => ks.all p) (fun b ks _ hk => hX b ks hk) b f (allU_of_allK p b f h) h
theorem nnfPsX_allK : ∀ (b : Bool) (fs : List F), allKs p fs = true → allKs p (nnfPsX X b fs) = true :=
  fun b fs h =>
    nnfPsX_allK_of p X (fun _ ks => ks.all p) (fun b ks _ hk => hX b ks hk) b fs (allUs_of_allKs p b fs h) h
end keysAll

theorem nnf0P_allK (p : Key → Bool) (b : Bool) (f : F) (h : allK p f = true) : allK p (nnf0P b f) = true :=
  nnfPX_allK p _ (fun _ _ _ => rfl) b f h

theorem uniqueX_isFK (b : Bool) (ks : List Key) (h : ks.all isFK = true) : allK isFK (uniqueX b ks) = true := by
  cases b
  · rw [uniqueX_false, uniqueRec_eq]
    exact nnf0P_allK _ _ _ (GS.BfUnique.uniqueRecF_allK natDims natName _ ks h)
  · rw [uniqueX_true]
    exact nnf0P_allK _ _ _ (negation_allK isFK ks h)

theorem uniqueX_user (b : Bool) (ks : List Key) (hb : (b || decide (ks.length ≤ 4)) = true)
    (h : ks.all (fun k => !k.2) = true) : allK (fun k => !k.2) (uniqueX b ks) = true := by
  cases b
  · simp only [Bool.false_or, decide_eq_true_eq] at hb
    rw [uniqueX_false, uniqueRec_eq, GS.BfUnique.uniqueRecF_small_eq _ _ _ ks hb]
    exact nnf0P_allK _ _ _ (uniqueSmallV_leafwise (allK_leafwise _) _ (by rw [List.all_map]; exact h))
  · rw [uniqueX_true]
    exact nnf0P_allK _ _ _ (negation_allK _ ks h)

theorem nnf_isFK (f : F) (h : allK isFK f = true) : allK isFK (nnf f) = true :=
  nnfPX_allK isFK uniqueX uniqueX_isFK false f h

theorem nnf_isFK_of_user (f : F) (h : userOnly f = true) : allK isFK (nnf f) = true :=
  nnf_isFK f (allK_mono _ _ isFK_of_user f h)

theorem nnfPs_user : ∀ (b : Bool) (fs : List F), userOnlyAll fs = true →
    allUs (fun b ks => b || decide (ks.length ≤ 4)) b fs = true → allKs (fun k => !k.2) (nnfPsX uniqueX b fs) = true :=
  fun b fs h hs => nnfPsX_allK_of _ uniqueX _ uniqueX_user b fs hs h

theorem nnf_user (f : F) (h : userOnly f = true) (hs : smallPos f = true) : userOnly (nnf f) = true :=
  nnfPX_allK_of _ uniqueX _ uniqueX_user false f hs h

/-- a spec assignment of names as an assignment of Go variables (dummies take the value of
    their number; no formula in the image of `ofSF` mentions one) -/
def lift (m : Nat → Bool) : Key → Bool := fun k => m k.1

mutual
theorem ofSF_eval (m : Nat → Bool) : ∀ g : SF, eval (lift m) (ofSF g) = SF.eval m g
  | .var _ => rfl
  | .tt => rfl
  | .ff => rfl
  | .not f => congrArg (!·) (ofSF_eval m f)
  | .and fs => ofSFs_all m fs
  | .or fs => ofSFs_any m fs
  | .imp a b => (implies_eval _ _ _).trans (congrArg₂ (!· || ·) (ofSF_eval m a) (ofSF_eval m b))
  | .iff a b => (eq_eval _ _ _).trans (congrArg₂ (· == ·) (ofSF_eval m a) (ofSF_eval m b))
  | .xor a b => (xor_eval _ _ _).trans (congrArg₂ (· != ·) (ofSF_eval m a) (ofSF_eval m b))
  | .unique ns => uniqueOf_eval (lift m) ns
theorem ofSFs_all (m : Nat → Bool) : ∀ fs : List SF, evalAll (lift m) (ofSFs fs) = SF.evalAll m fs
  | [] => rfl
  | f :: fs => congrArg₂ (· && ·) (ofSF_eval m f) (ofSFs_all m fs)
theorem ofSFs_any (m : Nat → Bool) : ∀ fs : List SF, evalAny (lift m) (ofSFs fs) = SF.evalAny m fs
  | [] => rfl
  | f :: fs => congrArg₂ (· || ·) (ofSF_eval m f) (ofSFs_any m fs)
end

/-- the value of `allUs` / `allKs` on a list of two -/
theorem and_pair {a a' b b' : Bool} (ha : a = a') (hb : b = b') : (a && b) = (a' && (b' && true)) :=
  ha ▸ hb ▸ (congrArg (a && ·) (Bool.and_true b)).symm

theorem and_pair_true {a b : Bool} (ha : a = true) (hb : b = true) : (a && (b && true)) = true := by
  subst ha hb; rfl

mutual
theorem ofSF_user : ∀ g : SF, userOnly (ofSF g) = true
  | .var _ => rfl
  | .tt => rfl
  | .ff => rfl
  | .not f => ofSF_user f
  | .and fs => ofSFs_user fs
  | .or fs => ofSFs_user fs
  | .imp a b => and_pair_true (ofSF_user a) (ofSF_user b)
  | .iff a b | .xor a b =>
      and_pair_true (and_pair_true (ofSF_user a) (ofSF_user b)) (and_pair_true (ofSF_user a) (ofSF_user b))
  | .unique _ => List.all_eq_true.2 fun _ hk => (List.mem_map.1 hk).elim fun _ h => h.2 ▸ rfl
theorem ofSFs_user : ∀ fs : List SF, userOnlyAll (ofSFs fs) = true
  | [] => rfl
  | f :: fs => congrArg₂ (· && ·) (ofSF_user f) (ofSFs_user fs)
end

/-- the polarity-aware size condition on spec formulas: every exactly-one group in positive
    position has at most `k` names (`Implies` negates its left side; both sides of `Eq` / `Xor`
    occur at both polarities) -/
def posGroupsLe (k : Nat) (g : SF) : Bool := allU (fun b ks => b || decide (ks.length ≤ k)) false (ofSF g)

/-- **C11, formula side, equality form.** The NNF that `Solve` / `Dimacs` hand to `cnfRec` has
    the truth table of the formula the user wrote, for every spec formula whose exactly-one groups
    in positive position have at most 4 names (any size in negative position). -/
theorem nnf_ofSF_eval (m : Nat → Bool) (g : SF) (h : posGroupsLe 4 g = true) :
    eval (lift m) (nnf (ofSF g)) = SF.eval m g := by
  rw [nnf_eval _ _ (show smallPos (ofSF g) = true from h), ofSF_eval]

/-- **C11, formula side, every formula.** For every spec formula — exactly-one groups of every
    size at every polarity — an assignment `m` of the names satisfies `g` iff it extends (on the
    dummy variables) to a model of the NNF handed to `cnfRec`. -/
theorem nnf_ofSF_models (m : Nat → Bool) (g : SF) :
    SF.eval m g = true ↔
      ∃ m' : Key → Bool, (∀ n, m' (n, false) = m n) ∧ eval m' (nnf (ofSF g)) = true := by
  rw [← ofSF_eval, nnf_models (lift m) (ofSF g) (ofSF_user g)]
  rfl

mutual
theorem supportedP_eq : ∀ (b : Bool) (g : SF),
    supportedP b g = allU (fun b ks => b || decide (ks.length ≤ maxPosGroup)) b (ofSF g)
  | _, .var _ => rfl
  | _, .tt => rfl
  | _, .ff => rfl
  | b, .not f => supportedP_eq (!b) f
  | b, .and fs => supportedAllP_eq b fs
  | b, .or fs => supportedAllP_eq b fs
  | b, .imp x y => and_pair (supportedP_eq (!b) x) (supportedP_eq b y)
  | b, .iff x y =>
      and_pair (and_pair (supportedP_eq (!b) x) (supportedP_eq b y)) (and_pair (supportedP_eq b x) (supportedP_eq (!b) y))
  | b, .xor x y =>
      and_pair (and_pair (supportedP_eq (!b) x) (supportedP_eq (!b) y)) (and_pair (supportedP_eq b x) (supportedP_eq b y))
  | b, .unique _ => congrArg (fun n => b || decide (n ≤ maxPosGroup)) (List.length_map _).symm
theorem supportedAllP_eq : ∀ (b : Bool) (fs : List SF),
    supportedAllP b fs = allUs (fun b ks => b || decide (ks.length ≤ maxPosGroup)) b (ofSFs fs)
  | _, [] => rfl
  | b, f :: fs => congrArg₂ (· && ·) (supportedP_eq b f) (supportedAllP_eq b fs)
end

/-- **what `supported` means**: every exactly-one group *in positive position* of the Go formula
    has at most `maxPosGroup = 16` names. Up to 16 names the grid is at most `4 × 4`, so `uniqueRec`
    does not nest and no `natName` number is computed from other `natName` numbers (which is what
    makes the mirror slow on longer groups, `GS/Model/Bf.lean`). No condition on the groups in
    negative position. -/
theorem supported_eq (g : SF) : supported g = posGroupsLe maxPosGroup g := supportedP_eq false g

example : posGroupsLe 4 (.and [.unique [0, 1, 2, 3], .iff (.var 0) (.xor (.var 1) (.not (.var 2)))]) = true := by
  decide
example : posGroupsLe 4 (.imp (.unique [0, 1, 2, 3, 4, 5]) (.not (.unique [0, 1, 2, 3, 4]))) = true := by decide
example : supported (.and [.unique [0, 1, 2, 3, 4, 5, 6], .not (.unique (List.range 30))]) = true := by decide

end GS.Bf
