import GS.Props.C04_MaxSat
/-!
# C04 — the encoding with arbitrary fresh blocking variables (the numbering of `maxsat.New`)

`maxsat.New` numbers a blocking variable `len(varInts)` at the moment its soft constraint is
visited, so blocking variables are interleaved with the user's variables. Completeness and
transfer are stated here for `encodeWith bs hard soft`, where `bs` is *any* list of blocking
variables that are `≥ 1`, pairwise distinct, and occur in no hard or soft constraint (`Fresh`);
soundness and the pointwise form of completeness are in `GS.Props.C04_MaxSat`. `Solve`'s
projection on the variables whose name is not `""` is "forget the variables in `bs`":
`optimum_transfer_with` holds for every assignment that agrees with the optimiser's model
outside `bs`.

`encodeWith` relaxes with the coefficient `AtLeast`, as `New` did before the fix 2c3f689, hence
`softNonneg`. The pieces `New` builds since then (`MaxSatSigned.signed`) are proved exact for the
numbering `n+1+i` only (`C04_MaxSatSigned`); the two generalisations are not combined. No theorem
speaks of the loops `newGo` / `MaxSatSigned.newGoS` themselves: that `newGoS` numbers and builds as
`New` does is tied by the harness (`encoding-mirror`); the last example below shows `newGo` on one
input.
-/
namespace GS.MaxSatEnc
open GS

def linAvoids (b : Nat) (c : Lin) : Bool := c.terms.all (fun t => t.2.natAbs != b)
def problemAvoids (b : Nat) (p : Problem) : Bool := p.all (linAvoids b)
def softAvoids (b : Nat) (ss : List Soft) : Bool := ss.all (fun s => linAvoids b s.c)

structure Fresh (bs : List Nat) (hard : Problem) (soft : List Soft) : Prop where
  len : bs.length = soft.length
  nodup : bs.Nodup
  pos : ∀ b ∈ bs, 1 ≤ b
  hard : ∀ b ∈ bs, problemAvoids b hard = true
  soft : ∀ b ∈ bs, softAvoids b soft = true

theorem linAvoids_iff (b : Nat) (c : Lin) : linAvoids b c = true ↔ ∀ t ∈ c.terms, t.2.natAbs ≠ b := by
  simp only [linAvoids, List.all_eq_true, bne_iff_ne]

theorem holds_outside (bs : List Nat) (u a : Asg) (hu : ∀ v, v ∉ bs → u v = a v) (c : Lin)
    (hc : ∀ b ∈ bs, linAvoids b c = true) : c.holds u = c.holds a :=
  Lin.holds_agree u a c fun t ht => hu _ fun hm => (linAvoids_iff _ c).1 (hc _ hm) t ht rfl

theorem agree_outside (bs : List Nat) (hard : Problem) (soft : List Soft) (a u : Asg)
    (hf : Fresh bs hard soft) (hu : ∀ v, v ∉ bs → u v = a v) :
    Problem.holds u hard = Problem.holds a hard ∧ violated u soft = violated a soft := by
  have key := holds_outside bs u a hu
  exact ⟨all_congr_mem fun c hc => key c fun b hb => List.all_eq_true.1 (hf.hard b hb) c hc,
    violated_agree u a soft fun s hs => key s.c fun b hb => List.all_eq_true.1 (hf.soft b hb) s hs⟩

def upd (e : Asg) (b : Nat) (x : Bool) : Asg := fun v => if v = b then x else e v

theorem holds_upd (e : Asg) (b : Nat) (x : Bool) (c : Lin) (h : linAvoids b c = true) :
    c.holds (upd e b x) = c.holds e :=
  holds_outside [b] _ e (fun _ hv => if_neg fun e => hv (List.mem_singleton.2 e)) c
    (fun _ hb => List.mem_singleton.1 hb ▸ h)

theorem violated_upd (e : Asg) (b : Nat) (x : Bool) : ∀ (ss : List Soft), softAvoids b ss = true →
    violated (upd e b x) ss = violated e ss := fun ss h =>
  violated_agree _ e ss fun s hs => holds_upd e b x s.c (List.all_eq_true.1 h s hs)

/-- `u` with the blocking variable of each soft constraint set to "violated by `u`". -/
def extendWith (u : Asg) : List Nat → List Soft → Asg
  | b :: bs, s :: ss => upd (extendWith u bs ss) b (!s.c.holds u)
  | _, _ => u

theorem extendWith_outside (u : Asg) : ∀ (bs : List Nat) (ss : List Soft) (v : Nat), v ∉ bs →
    extendWith u bs ss v = u v := by
  intro bs
  induction bs with
  | nil => intro ss v _; cases ss <;> rfl
  | cons b bs ih =>
    intro ss v hv
    cases ss with
    | nil => rfl
    | cons s ss =>
      simp only [List.mem_cons, not_or] at hv
      simp only [extendWith, upd, hv.1, if_false]
      exact ih ss v hv.2

theorem extendWith_blocking (u : Asg) (s : Soft) (b : Nat) : ∀ (bs : List Nat) (ss : List Soft),
    bs.Nodup → (s, b) ∈ ss.zip bs → extendWith u bs ss b = !s.c.holds u := by
  intro bs
  induction bs with
  | nil => intro ss _ h; rw [List.zip_nil_right] at h; nomatch h
  | cons b' bs ih =>
    intro ss hnd h
    cases ss with
    | nil => nomatch h
    | cons s' ss =>
      rw [List.nodup_cons] at hnd
      rcases List.mem_cons.1 h with he | ht
      · cases he; simp [extendWith, upd]
      · have hne : b ≠ b' := fun e => hnd.1 (e ▸ (List.of_mem_zip ht).2)
        simp only [extendWith, upd, hne, if_false]
        exact ih ss hnd.2 ht

theorem encoding_complete_with (bs : List Nat) (hard : Problem) (soft : List Soft) (u : Asg)
    (hf : Fresh bs hard soft) (hnn : softNonneg soft = true) (hu : Problem.holds u hard = true) :
    Problem.holds (extendWith u bs soft) (encodeWith bs hard soft).1 = true ∧
    cost (encodeWith bs hard soft).2 (extendWith u bs soft) = violated u soft ∧
    (∀ v, v ∉ bs → extendWith u bs soft v = u v) := by
  rw [encodeWith_eq]
  refine and_assoc.1 ⟨encodeBy_complete u _ hard
    ((agree_outside bs hard soft u _ hf (extendWith_outside u bs soft)).1.trans hu) soft bs
    hf.len fun s b h => ?_, extendWith_outside u bs soft⟩
  have ⟨hs, hb⟩ := List.of_mem_zip h
  exact blocked_complete u _ s.c s.weight s.c.degree b
    (by have := lhs_nonneg_of_termsNonneg (extendWith u bs soft) s.c.terms (List.all_eq_true.1 hnn s hs); omega)
    (holds_outside bs _ u (extendWith_outside u bs soft) s.c fun b' hb' =>
      List.all_eq_true.1 (hf.soft b' hb') s hs)
    (by rw [litTrue_natCast _ b (hf.pos b hb), extendWith_blocking u s b bs soft hf.nodup h])

/-- C04 for the numbering of `maxsat.New`: `u` is any assignment that agrees with the encoded optimum
    `a` outside the blocking variables, as does the projection on the names `≠ ""` that `Solve`
    computes. -/
theorem optimum_transfer_with (bs : List Nat) (hard : Problem) (soft : List Soft) (a u : Asg)
    (hf : Fresh bs hard soft) (hnn : softNonneg soft = true) (hwt : weightsNonneg soft = true)
    (hopt : IsOptimum (encodeWith bs hard soft).1 (encodeWith bs hard soft).2 a)
    (hu : ∀ v, v ∉ bs → u v = a v) :
    IsMaxSatOpt hard soft u ∧ cost (encodeWith bs hard soft).2 a = violated u soft ∧
    (∀ b, Problem.holds b hard = true → cost (encodeWith bs hard soft).2 a ≤ violated b soft) :=
  have ⟨e1, e2⟩ := agree_outside bs hard soft a u hf hu
  transfer_of (fun b hb => have h := encoding_complete_with bs hard soft b hf hnn hb; ⟨h.1, h.2.1⟩)
    (fun b => encoding_sound_with bs hard soft b hf.len hwt) a u hopt e1 e2

theorem encoded_with_unsat_iff (bs : List Nat) (hard : Problem) (soft : List Soft)
    (hf : Fresh bs hard soft) (hnn : softNonneg soft = true) :
    ¬ Satisfiable (encodeWith bs hard soft).1 ↔ ¬ Satisfiable hard :=
  not_congr (sat_append_iff fun u hu => (encoding_complete_with bs hard soft u hf hnn hu).1)

/-- What `New(x∨y hard, ¬x soft w=3, x+y+z ≥ 2 soft w=2)` builds: `x=1, y=2`, blocking `3`,
    `z=4`, blocking `5`. The blocking variables `[3, 5]` are fresh for the renamed instance. -/
example :
    let hard : Problem := [Lin.ofClause [1, 2]]
    let soft : List Soft := [⟨3, Lin.ofClause [-1]⟩, ⟨2, Lin.ofCard [1, 2, 4] 2⟩]
    ([3, 5] : List Nat).Nodup ∧ (∀ b ∈ ([3, 5] : List Nat), 1 ≤ b ∧ problemAvoids b hard = true ∧ softAvoids b soft = true) ∧
    encodeWith [3, 5] hard soft =
      ([⟨[(1, 1), (1, 2)], 1⟩, ⟨[(1, -1), (1, 3)], 1⟩, ⟨[(1, 1), (1, 2), (1, 4), (2, 5)], 2⟩], [(3, 3), (2, 5)]) := by
  decide +kernel

/-- The loop mirror `newGo` on `New(x1∨x2, ¬x1 (w 3), x1+x2+x3 ≥ 2 (w 2), 2·x1+3·¬x3 ≥ 3 (w 1), x4)`:
    same numbering and constraints as `pb.Output()` prints on the Go side
    (`varInts = 1 2 "" 3 "" "" 4`), and the result is `encodeWith [3, 5, 6]` of the renamed
    instance with hard and soft constraints interleaved. -/
example :
    let st := newGo [⟨[1, 2], [], 1, 0⟩, ⟨[-1], [], 1, 3⟩, ⟨[1, 2, 3], [], 2, 2⟩, ⟨[1, -3], [2, 3], 3, 1⟩, ⟨[4], [1], 1, 0⟩]
    st.varInts = [1, 2, 0, 3, 0, 0, 4] ∧ st.costFn = [(3, 3), (2, 5), (1, 6)] ∧
    st.constrs.mapM GoConstr.toLin = some
      [⟨[(1, 1), (1, 2)], 1⟩, ⟨[(1, -1), (1, 3)], 1⟩, ⟨[(1, 1), (1, 2), (1, 4), (2, 5)], 2⟩,
       ⟨[(2, 1), (3, -4), (3, 6)], 3⟩, ⟨[(1, 7)], 1⟩] ∧
    st.costFn = (encodeWith [3, 5, 6] [] [⟨3, Lin.ofClause [-1]⟩, ⟨2, Lin.ofCard [1, 2, 4] 2⟩, ⟨1, ⟨[(2, 1), (3, -4)], 3⟩⟩]).2 := by
  decide +kernel

end GS.MaxSatEnc
