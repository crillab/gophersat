import GS.Spec.Basic
import GS.Model.Assume
import GS.Model.Trail
import GS.Props.C01_Trail
/-!
# C10 — the prologue of `(*Solver).Assume`, concrete layer

`GS.Model.Assume.assumePrologue` mirrors `Assume` line by line up to its final `s.propagate(0, 1)`.
Here it is characterised on every state that is `WF`, for facts and assumed literals that are
`InRange`.  `WF s m` is the solver invariant the prologue relies on (`s.model = m` has `nbVars`
cells; every bound variable is on the trail — `cleanupBindings` only unbinds trail variables).
`InRange n xs` says the literals are non-zero over variables `≤ n`: at one that is not, Go panics
with an index error (outcome `panic`) unless a loop has returned `Unsat` before reaching it; only
`assumePrologue_fresh` / `_no_leak` cover such literals.  The literals of the old trail `s.trail`
are taken to be in range: `WF` does not ask it, and where Go's `cleanupBindings` would panic on
one, the mirror reads 0 (`mget`) and writes nowhere.

`assumePrologue_spec` is the characterisation: the outcome is `refuted` (with `status = Unsat`, and
a state that is again `WF`) iff `Clash (facts ++ lits)`, else `installed (installedState s lits)`,
whose trail is `dedup (facts ++ lits)`, whose model array is `modelOf` of it and whose flags are
`flagsOf` of what the second loop appended (`newAssumed`).  The second loop is followed on
`modelOf n tr`, where `litStatus l` is membership of `l` / `-l` in `tr` (`assumeLoop_spec`); the
first is the second with the flag writes forgotten (`factsLoop_eq`).

Remarks on the Go code: an assumed literal equal to a fact is **not** flagged
(its binding is the fact's, which is right: conflicts depending on it do not depend on an
assumption); `Assume` never changes `s.facts`; but the theorems are relative to `s.facts`, to which
`AppendClause` called between two rounds can add units derived under the assumptions (DESIGN §9).
-/

namespace GS.Assume
open GS
open GS.Trail (entry1 run_assumes assumptions_entry1)

/-- Every literal passes the index test `inRange n` of the mirror (`inRange_iff`). -/
def InRange (n : Nat) (xs : List Int) : Prop := ∀ l ∈ xs, l ≠ 0 ∧ l.natAbs ≤ n

def Clash (xs : List Int) : Prop := ∃ l, l ∈ xs ∧ -l ∈ xs

/-- The Go model array in which exactly the literals of `tr` are bound, true, at level 1.
    (`GS.EnumRound.modelOf` is the array of a trail of entries, with their levels; nothing here
    relates the two.) -/
def modelOf (n : Nat) (tr : List Int) : List Int :=
  (List.range n).map (fun (v : Nat) =>
    if ((v : Int) + 1) ∈ tr then 1 else if (-((v : Int) + 1)) ∈ tr then -1 else 0)

def flagsOf (n : Nat) (new : List Int) : List Bool :=
  (List.range n).map (fun (v : Nat) => decide (((v : Int) + 1) ∈ new ∨ (-((v : Int) + 1)) ∈ new))

def addNew (tr : List Int) (l : Int) : List Int := if l ∈ tr then tr else tr ++ [l]

/-- `tr` followed by the literals of `xs` that are not on it yet, first occurrences, in order: what
    a loop makes of the trail when it meets no clash. -/
def dedupFrom (tr : List Int) (xs : List Int) : List Int := xs.foldl addNew tr

def dedup (xs : List Int) : List Int := dedupFrom [] xs

/-- The assumed literals that get bound (and flagged): what the second loop appends. -/
def newAssumed (facts lits : List Int) : List Int :=
  (dedup (facts ++ lits)).drop (dedup facts).length

/-- The state `s.propagate(0, 1)` starts from. -/
def installedState (s : State) (lits : List Int) : State :=
  { s with status := .indet,
           model := some (modelOf s.nbVars (dedup (s.facts ++ lits))),
           trail := dedup (s.facts ++ lits),
           flags := flagsOf s.nbVars (newAssumed s.facts lits) }

/-- Solver invariants the prologue relies on: the arrays have `nbVars` cells and every bound
    variable is on the trail (so that `cleanupBindings(0)` unbinds everything). -/
structure WF (s : State) (m : List Int) : Prop where
  model : s.model = some m
  len : m.length = s.nbVars
  onTrail : ∀ v, v < m.length → mget m v ≠ 0 → ∃ l ∈ s.trail, varOf l = v

/-- What the two loops keep true of the trail they build. -/
structure Good (n : Nat) (tr : List Int) : Prop where
  noClash : ¬ Clash tr
  range : InRange n tr

theorem good_nil (n : Nat) : Good n [] :=
  ⟨fun ⟨_, hx, _⟩ => (nomatch hx), fun _ hx => nomatch hx⟩

theorem not_clash_snoc {tr : List Int} {l : Int} (h : ¬ Clash tr) (h0 : l ≠ 0)
    (h2 : -l ∉ tr) : ¬ Clash (tr ++ [l]) := by
  rintro ⟨x, hx, hnx⟩
  simp only [List.mem_append, List.mem_singleton] at hx hnx
  rcases hx with hx | rfl
  · rcases hnx with hnx | hnx
    · exact h ⟨x, hx, hnx⟩
    · have : x = -l := by omega
      subst this; exact h2 hx
  · rcases hnx with hnx | hnx
    · exact h2 hnx
    · omega

theorem inRange_append {n : Nat} {xs ys : List Int} (h1 : InRange n xs) (h2 : InRange n ys) :
    InRange n (xs ++ ys) := by
  intro l hl
  rcases List.mem_append.1 hl with h | h
  · exact h1 l h
  · exact h2 l h

theorem good_snoc {n : Nat} {tr : List Int} {l : Int} (h : Good n tr) (h0 : l ≠ 0)
    (hn : l.natAbs ≤ n) (h2 : -l ∉ tr) : Good n (tr ++ [l]) :=
  ⟨not_clash_snoc h.noClash h0 h2,
    inRange_append h.range (fun x hx => by rw [List.mem_singleton.1 hx]; exact ⟨h0, hn⟩)⟩

theorem modelOf_length (n : Nat) (tr : List Int) : (modelOf n tr).length = n := by
  simp [modelOf]

theorem modelOf_get (n : Nat) (tr : List Int) (v : Nat) (hv : v < n) :
    (modelOf n tr)[v]? = some (if ((v : Int) + 1) ∈ tr then 1 else if (-((v : Int) + 1)) ∈ tr then -1 else 0) := by
  simp [modelOf, List.getElem?_map, List.getElem?_range hv]

theorem flagsOf_length (n : Nat) (new : List Int) : (flagsOf n new).length = n := by
  simp [flagsOf]

theorem flagsOf_get (n : Nat) (new : List Int) (v : Nat) (hv : v < n) :
    (flagsOf n new)[v]? = some (decide (((v : Int) + 1) ∈ new ∨ (-((v : Int) + 1)) ∈ new)) := by
  simp [flagsOf, List.getElem?_map, List.getElem?_range hv]

theorem modelOf_nil (n : Nat) : modelOf n [] = List.replicate n 0 := by
  simp [modelOf, List.map_const']

theorem flagsOf_nil (n : Nat) : flagsOf n [] = List.replicate n false := by
  simp [flagsOf, List.map_const']

theorem set_map_range {α : Type} (n : Nat) (f g : Nat → α) (i : Nat) (x : α)
    (hi : g i = x) (h : ∀ j < n, j ≠ i → g j = f j) :
    ((List.range n).map f).set i x = (List.range n).map g := by
  refine List.ext_getElem (by rw [List.length_set, List.length_map, List.length_map]) fun j _ h2 => ?_
  have hj : j < n := by rwa [List.length_map, List.length_range] at h2
  rw [List.getElem_set, List.getElem_map, List.getElem_map, List.getElem_range]
  split
  · next hij => rw [← hij, hi]
  · next hij => exact (h j hj (Ne.symm hij)).symm

theorem inRange_iff (n : Nat) (l : Int) : inRange n l = true ↔ l ≠ 0 ∧ l.natAbs ≤ n :=
  litOk_iff n l

theorem varOf_pos (v : Nat) : varOf ((v : Int) + 1) = v := by
  unfold varOf; omega

theorem varOf_neg (v : Nat) : varOf (-((v : Int) + 1)) = v := by
  unfold varOf; omega

theorem varOf_lt {n : Nat} {l : Int} (h0 : l ≠ 0) (hn : l.natAbs ≤ n) : varOf l < n := by
  unfold varOf; omega

theorem ne_of_varOf_ne {l : Int} {j : Nat} (hj : j ≠ varOf l) :
    (j : Int) + 1 ≠ l ∧ -((j : Int) + 1) ≠ l :=
  ⟨fun h => hj (h ▸ (varOf_pos j).symm), fun h => hj (h ▸ (varOf_neg j).symm)⟩

theorem varOf_cast {l : Int} (h0 : l ≠ 0) :
    ((varOf l : Nat) : Int) + 1 = if l > 0 then l else -l := by
  unfold varOf; split <;> omega

theorem varOf_eq_iff {l : Int} {v : Nat} (h0 : l ≠ 0) :
    varOf l = v ↔ l = (v : Int) + 1 ∨ l = -((v : Int) + 1) := by
  constructor
  · intro h
    have := varOf_cast h0
    rw [h] at this
    split at this <;> omega
  · rintro (rfl | rfl)
    · exact varOf_pos v
    · exact varOf_neg v

theorem mget_modelOf {n : Nat} {tr : List Int} {l : Int} (h0 : l ≠ 0) (hn : l.natAbs ≤ n) :
    mget (modelOf n tr) (varOf l) =
      if l > 0 then (if l ∈ tr then 1 else if -l ∈ tr then -1 else 0)
      else (if -l ∈ tr then 1 else if l ∈ tr then -1 else 0) := by
  unfold mget
  rw [modelOf_get n tr _ (varOf_lt h0 hn), Option.getD_some, varOf_cast h0]
  by_cases hp : l > 0
  · simp only [hp, if_true]
  · simp only [hp, if_false, Int.neg_neg]

theorem mget_modelOf_mem {n : Nat} {tr : List Int} {l : Int} (hg : Good n tr) (hl : l ∈ tr) :
    mget (modelOf n tr) (varOf l) = lvlToSignedLvl l 1 := by
  obtain ⟨h0, hn⟩ := hg.range l hl
  rw [mget_modelOf h0 hn]
  unfold lvlToSignedLvl
  by_cases hp : l > 0
  · rw [if_pos hp, if_pos hl, if_pos hp]
  · rw [if_neg hp, if_neg (fun h => hg.noClash ⟨l, hl, h⟩), if_pos hl, if_neg hp]

theorem mget_modelOf_eq_zero {n : Nat} {tr : List Int} {v : Nat} (h : ∀ l ∈ tr, varOf l ≠ v) :
    mget (modelOf n tr) v = 0 := by
  unfold mget
  by_cases hvn : v < n
  · rw [modelOf_get _ _ v hvn, Option.getD_some,
      if_neg (fun hm => h _ hm (varOf_pos v)), if_neg (fun hm => h _ hm (varOf_neg v))]
  · rw [List.getElem?_eq_none (by rw [modelOf_length]; omega)]; rfl

theorem litStatus_modelOf {n : Nat} {tr : List Int} {l : Int} (h0 : l ≠ 0) (hn : l.natAbs ≤ n)
    (hc : ¬ Clash tr) :
    litStatus (modelOf n tr) l =
      if l ∈ tr then .sat else if -l ∈ tr then .unsat else .indet := by
  unfold litStatus
  simp only [mget_modelOf h0 hn]
  by_cases hp : l > 0
  · by_cases h1 : l ∈ tr
    · simp [hp, h1]
    · by_cases h2 : -l ∈ tr
      · simp [hp, h1, h2]
      · simp [hp, h1, h2]
  · by_cases h1 : l ∈ tr
    · have h2 : -l ∉ tr := fun h => hc ⟨l, h1, h⟩
      simp [hp, h1, h2]
    · by_cases h2 : -l ∈ tr
      · simp [hp, h1, h2]
      · simp [hp, h1, h2]

/-- `s.model[l.Var()] = lvlToSignedLvl(l, 1)` -/
theorem set_modelOf {n : Nat} {tr : List Int} {l : Int} (h0 : l ≠ 0) (h2 : -l ∉ tr) :
    (modelOf n tr).set (varOf l) (lvlToSignedLvl l 1) = modelOf n (tr ++ [l]) := by
  refine set_map_range n _ _ _ _ ?_ (fun j _ hj => ?_)
  · simp only [varOf_cast h0, lvlToSignedLvl, List.mem_append, List.mem_singleton]
    by_cases hp : l > 0
    · simp only [hp, if_true, or_true]
    · have hne : -l ≠ l := by omega
      simp only [hp, if_false, h2, hne, or_self, Int.neg_neg, or_true, if_true]
  · simp only [List.mem_append, List.mem_singleton, ne_of_varOf_ne hj, or_false]

/-- `s.assumptions[l.Var()] = true` -/
theorem set_flagsOf {n : Nat} {new : List Int} {l : Int} (h0 : l ≠ 0) :
    (flagsOf n new).set (varOf l) true = flagsOf n (new ++ [l]) := by
  refine set_map_range n _ _ _ _ ?_ (fun j _ hj => ?_)
  · simp only [varOf_cast h0, List.mem_append, List.mem_singleton, decide_eq_true_eq]
    by_cases hp : l > 0
    · simp only [hp, if_true, or_true, true_or]
    · simp only [hp, if_false, Int.neg_neg, or_true]
  · simp only [List.mem_append, List.mem_singleton, ne_of_varOf_ne hj, or_false]

theorem flag_flagsOf {n : Nat} {new : List Int} {l : Int} (h0 : l ≠ 0) (hn : l.natAbs ≤ n) :
    ((flagsOf n new)[varOf l]?).getD false = decide (l ∈ new ∨ -l ∈ new) := by
  rw [flagsOf_get n new _ (varOf_lt h0 hn), Option.getD_some, varOf_cast h0]
  by_cases hp : l > 0
  · simp only [hp, if_true]
  · simp only [hp, if_false, Int.neg_neg]
    exact decide_eq_decide.2 Or.comm

theorem flagsOf_true_iff {n : Nat} {new : List Int} (hr : InRange n new) (v : Nat) :
    (flagsOf n new)[v]? = some true ↔ ∃ l ∈ new, varOf l = v := by
  by_cases hvn : v < n
  · rw [flagsOf_get _ _ v hvn, Option.some.injEq, decide_eq_true_eq]
    constructor
    · rintro (h | h)
      · exact ⟨_, h, varOf_pos v⟩
      · exact ⟨_, h, varOf_neg v⟩
    · rintro ⟨l, hl, hv⟩
      rcases (varOf_eq_iff (hr l hl).1).1 hv with rfl | rfl
      · exact Or.inl hl
      · exact Or.inr hl
  · rw [List.getElem?_eq_none (by rw [flagsOf_length]; omega)]
    constructor
    · intro h; cases h
    · rintro ⟨l, hl, hv⟩
      have := varOf_lt (hr l hl).1 (hr l hl).2
      omega

theorem unbind_length : ∀ (ls m : List Int), (unbind m ls).length = m.length
  | [], _ => rfl
  | l :: ls, m => by rw [unbind, unbind_length ls, List.length_set]

theorem mget_set_zero (m : List Int) (i v : Nat) :
    mget (m.set i 0) v = if i = v then 0 else mget m v := by
  unfold mget
  rw [List.getElem?_set]
  by_cases h : i = v
  · rw [if_pos h, if_pos h]; split <;> rfl
  · rw [if_neg h, if_neg h]

/-- no range hypothesis: `mget` reads 0 out of range anyway -/
theorem mget_unbind : ∀ (ls m : List Int) (v : Nat),
    mget (unbind m ls) v = if ∃ l ∈ ls, varOf l = v then 0 else mget m v
  | [], m, v => by rw [unbind, if_neg (fun ⟨_, h, _⟩ => nomatch h)]
  | l :: ls, m, v => by
    rw [unbind, mget_unbind ls, mget_set_zero]
    simp only [List.mem_cons, exists_eq_or_imp]
    by_cases h2 : varOf l = v <;> by_cases h1 : ∃ a, a ∈ ls ∧ varOf a = v <;> simp [h1, h2]

theorem cleanup_zeros {s : State} {m : List Int} (h : WF s m) :
    (cleanupBindings m s.trail 0).1 = List.replicate s.nbVars 0 := by
  have hz : ∀ v, mget (unbind m (skipKept m 0 s.trail)) v = 0 := by
    intro v
    rw [mget_unbind]
    split
    · rfl
    · next hin =>
      -- a bound variable is on the trail, and not in the prefix that `skipKept` passes over
      false_or_by_contra
      rename_i hb
      have hlen : v < m.length := Nat.lt_of_not_le fun hle => hb (by
        rw [mget, List.getElem?_eq_none hle]; rfl)
      obtain ⟨l, hl, rfl⟩ := h.onTrail v hlen hb
      rw [← List.takeWhile_append_dropWhile
        (p := fun l => decide ((mget m (varOf l)).natAbs ≤ 0)) (l := s.trail), List.mem_append] at hl
      rcases hl with hl | hl
      · have := of_mem_takeWhile hl
        simp only [decide_eq_true_eq] at this
        omega
      · exact hin ⟨l, hl, rfl⟩
  show unbind m (skipKept m 0 s.trail) = _
  refine List.eq_replicate_iff.2 ⟨by rw [unbind_length, h.len], fun b hb => ?_⟩
  obtain ⟨v, hv, rfl⟩ := List.mem_iff_getElem.1 hb
  have := hz v
  rwa [mget, List.getElem?_eq_getElem hv] at this

theorem dedupFrom_nil (tr : List Int) : dedupFrom tr [] = tr := rfl

theorem dedupFrom_cons (tr : List Int) (x : Int) (xs : List Int) :
    dedupFrom tr (x :: xs) = dedupFrom (addNew tr x) xs := rfl

theorem dedupFrom_cons_of_mem {tr : List Int} {x : Int} (h : x ∈ tr) (xs : List Int) :
    dedupFrom tr (x :: xs) = dedupFrom tr xs := by
  rw [dedupFrom_cons, addNew, if_pos h]

theorem dedupFrom_cons_of_not_mem {tr : List Int} {x : Int} (h : x ∉ tr) (xs : List Int) :
    dedupFrom tr (x :: xs) = dedupFrom (tr ++ [x]) xs := by
  rw [dedupFrom_cons, addNew, if_neg h]

theorem dedupFrom_append (tr xs ys : List Int) :
    dedupFrom tr (xs ++ ys) = dedupFrom (dedupFrom tr xs) ys := by
  simp [dedupFrom, List.foldl_append]

theorem mem_dedupFrom (xs tr : List Int) (x : Int) : x ∈ dedupFrom tr xs ↔ x ∈ tr ∨ x ∈ xs :=
  mem_foldl_addNew xs tr x

theorem dedupFrom_nodup (xs tr : List Int) (h : tr.Nodup) : (dedupFrom tr xs).Nodup :=
  List.foldlRecOn (motive := List.Nodup) xs addNew h fun tr h y _ => by
    unfold addNew
    split
    · exact h
    · next hy =>
      refine List.nodup_append.2 ⟨h, List.nodup_cons.2 ⟨List.not_mem_nil, List.nodup_nil⟩, fun a ha b hb hab => ?_⟩
      rw [List.mem_singleton.1 hb] at hab
      exact hy (hab ▸ ha)

theorem clash_congr {A B : List Int} (h : ∀ x, x ∈ A ↔ x ∈ B) : Clash A ↔ Clash B := by
  unfold Clash
  constructor
  · rintro ⟨l, h1, h2⟩; exact ⟨l, (h l).1 h1, (h _).1 h2⟩
  · rintro ⟨l, h1, h2⟩; exact ⟨l, (h l).2 h1, (h _).2 h2⟩

theorem clash_cons_of_mem {tr ls : List Int} {l : Int} (h1 : l ∈ tr) :
    Clash (tr ++ l :: ls) ↔ Clash (tr ++ ls) :=
  clash_congr fun x => by
    simp only [List.mem_append, List.mem_cons]
    exact ⟨fun h => h.elim Or.inl fun h => h.elim (fun e => Or.inl (e ▸ h1)) Or.inr,
      fun h => h.imp_right Or.inr⟩

/-- The exit of a loop with the flags replaced. -/
def Loop.withFlags (fl : List Bool) : Loop → Loop
  | .panic => .panic
  | .unsat m tr _ => .unsat m tr fl
  | .ok m tr _ => .ok m tr fl

theorem factsLoop_eq (fl : List Bool) (fs m tr : List Int) : ∀ fl' : List Bool, fl'.length = m.length →
    factsLoop fl fs m tr = (assumeLoop fs m tr fl').withFlags fl := by
  fun_induction factsLoop fl fs m tr with
  | case1 m tr => exact fun _ _ => rfl
  | case2 m tr lit rest hin =>
    intro fl' _
    rw [assumeLoop, if_pos hin]
    rfl
  | case3 m tr lit rest hin hs =>
    intro fl' _
    rw [assumeLoop, if_neg hin]
    simp only [hs]
    rfl
  | case4 m tr lit rest hin hs ih =>
    -- `litStatus = Indet`: the index test on the flags is the one on the model again
    intro fl' h
    rw [assumeLoop, if_neg hin]
    simp only [hs, h, hin]
    exact ih _ (by rw [List.length_set, List.length_set, h])
  | case5 m tr lit rest hin hs ih =>
    intro fl' h
    rw [assumeLoop, if_neg hin]
    simp only [hs]
    exact ih fl' h

/-- The flags are those of the trail from position `k` on (`k` = where the second loop started). -/
theorem assumeLoop_spec (n k : Nat) : ∀ (ls tr : List Int), Good n tr → InRange n ls → k ≤ tr.length →
    (Clash (tr ++ ls) ∧ ∃ tr' fl',
      assumeLoop ls (modelOf n tr) tr (flagsOf n (tr.drop k)) = .unsat (modelOf n tr') tr' fl') ∨
    (¬ Clash (tr ++ ls) ∧
      assumeLoop ls (modelOf n tr) tr (flagsOf n (tr.drop k)) =
        .ok (modelOf n (dedupFrom tr ls)) (dedupFrom tr ls) (flagsOf n ((dedupFrom tr ls).drop k))) := by
  intro ls
  induction ls with
  | nil =>
    intro tr hg _ _
    exact Or.inr ⟨by rw [List.append_nil]; exact hg.noClash, rfl⟩
  | cons l ls ih =>
    intro tr hg hr hk
    have hl := hr l List.mem_cons_self
    have hr' : InRange n ls := fun x hx => hr x (List.mem_cons_of_mem _ hx)
    have hin : inRange (modelOf n tr).length l = true := by
      rw [modelOf_length, inRange_iff]; exact hl
    have hin2 : inRange (flagsOf n (tr.drop k)).length l = true := by
      rw [flagsOf_length, inRange_iff]; exact hl
    simp only [assumeLoop, hin, hin2, Bool.not_true, Bool.false_eq_true,
      if_false, litStatus_modelOf hl.1 hl.2 hg.noClash]
    by_cases h1 : l ∈ tr
    · simp only [h1, if_true]
      rw [clash_cons_of_mem h1, dedupFrom_cons_of_mem h1]
      exact ih tr hg hr' hk
    · by_cases h2 : -l ∈ tr
      · simp only [h1, h2, if_true, if_false]
        exact Or.inl ⟨⟨l, List.mem_append_right _ List.mem_cons_self, List.mem_append_left _ h2⟩,
          _, _, rfl⟩
      · simp only [h1, h2, if_false, set_modelOf hl.1 h2, set_flagsOf hl.1]
        rw [List.append_cons, dedupFrom_cons_of_not_mem h1, ← List.drop_append_of_le_length hk]
        exact ih (tr ++ [l]) (good_snoc hg hl.1 hl.2 h2) hr'
          (by rw [List.length_append]; exact Nat.le_add_right_of_le hk)

/-- `dedupFrom` is the loop of core's `List.eraseDupsBy`, which keeps its accumulator reversed; so
    what core knows of `eraseDups` holds of the installed trail. -/
theorem dedupFrom_eq_loop : ∀ (xs tr : List Int),
    dedupFrom tr xs = List.eraseDupsBy.loop (· == ·) xs tr.reverse := by
  intro xs
  induction xs with
  | nil => exact fun tr => (List.reverse_reverse tr).symm
  | cons x xs ih =>
    intro tr
    rw [dedupFrom_cons, ih, List.eraseDupsBy.loop, addNew]
    by_cases hx : x ∈ tr
    · have : tr.reverse.any (fun b => x == b) = true := by
        rw [List.any_eq_true]; exact ⟨x, List.mem_reverse.2 hx, beq_self_eq_true x⟩
      rw [if_pos hx, this]
    · have : tr.reverse.any (fun b => x == b) = false := by
        rw [List.any_eq_false]; intro b hb hxb; exact hx (eq_of_beq hxb ▸ List.mem_reverse.1 hb)
      rw [if_neg hx, this, List.reverse_append]; rfl

theorem dedup_eq_eraseDups (xs : List Int) : dedup xs = xs.eraseDups :=
  dedupFrom_eq_loop xs []

theorem mem_dedup (xs : List Int) (x : Int) : x ∈ dedup xs ↔ x ∈ xs := by
  simp [dedup, mem_dedupFrom]

theorem dedup_nodup (xs : List Int) : (dedup xs).Nodup :=
  dedupFrom_nodup xs [] List.nodup_nil

theorem newAssumed_eq (facts lits : List Int) :
    newAssumed facts lits = dedup (lits.removeAll facts) := by
  simp only [newAssumed, dedup_eq_eraseDups, List.eraseDups_append, List.drop_left]

theorem dedup_append_eq (facts lits : List Int) :
    dedup (facts ++ lits) = dedup facts ++ newAssumed facts lits := by
  simp only [newAssumed_eq, dedup_eq_eraseDups, List.eraseDups_append]

theorem mem_newAssumed (facts lits : List Int) (x : Int) :
    x ∈ newAssumed facts lits ↔ x ∈ lits ∧ x ∉ facts := by
  simp [newAssumed_eq, mem_dedup, List.removeAll]

theorem good_dedup {n : Nat} {xs : List Int} (h : ¬ Clash xs) (hr : InRange n xs) :
    Good n (dedup xs) :=
  ⟨fun ⟨l, hl, hnl⟩ => h ⟨l, (mem_dedup _ _).1 hl, (mem_dedup _ _).1 hnl⟩,
    fun l hl => hr l ((mem_dedup _ _).1 hl)⟩

theorem wf_modelOf {n : Nat} {tr : List Int} (st : Status) (facts : List Int)
    (fl : List Bool) :
    WF { nbVars := n, status := st, facts := facts, model := some (modelOf n tr), trail := tr,
         flags := fl } (modelOf n tr) :=
  ⟨rfl, modelOf_length n tr, fun _ _ hb => Classical.byContradiction fun hne =>
    hb (mget_modelOf_eq_zero fun l hl hv => hne ⟨l, hl, hv⟩)⟩

theorem assumePrologue_spec {s : State} {m : List Int} {lits : List Int} (h : WF s m)
    (hrF : InRange s.nbVars s.facts) (hrL : InRange s.nbVars lits) :
    (Clash (s.facts ++ lits) ∧ ∃ st' m', assumePrologue s lits = .refuted st' ∧
        st'.status = .unsat ∧ st'.nbVars = s.nbVars ∧ st'.facts = s.facts ∧ WF st' m') ∨
    (¬ Clash (s.facts ++ lits) ∧ assumePrologue s lits = .installed (installedState s lits)) := by
  unfold assumePrologue
  rw [h.model]
  simp only [cleanup_zeros h, ← modelOf_nil, ← flagsOf_nil]
  rw [factsLoop_eq _ _ _ _ (flagsOf s.nbVars ([].drop 0))
    ((flagsOf_length _ _).trans (modelOf_length _ _).symm)]
  have hF := assumeLoop_spec s.nbVars 0 s.facts [] (good_nil _) hrF (Nat.le_refl _)
  rw [List.nil_append, show dedupFrom [] s.facts = dedup s.facts from rfl] at hF
  rcases hF with ⟨⟨l, h1, h2⟩, tr', fl', hrun⟩ | ⟨hcF, hrun⟩
  · rw [hrun]
    exact Or.inl ⟨⟨l, List.mem_append_left _ h1, List.mem_append_left _ h2⟩,
      _, _, rfl, rfl, rfl, rfl, wf_modelOf _ _ _⟩
  simp only [hrun, Loop.withFlags]
  have hcl : Clash (dedup s.facts ++ lits) ↔ Clash (s.facts ++ lits) :=
    clash_congr fun x => by simp only [List.mem_append, mem_dedup]
  have hrun' := assumeLoop_spec s.nbVars (dedup s.facts).length lits _ (good_dedup hcF hrF) hrL
    (Nat.le_refl _)
  rw [List.drop_length, show dedupFrom (dedup s.facts) lits = dedup (s.facts ++ lits) from
    (dedupFrom_append [] _ _).symm] at hrun'
  rcases hrun' with ⟨hcL, tr', fl', hrun⟩ | ⟨hcL, hrun⟩
  · simp only [hrun]
    exact Or.inl ⟨hcl.1 hcL, _, _, rfl, rfl, rfl, rfl, wf_modelOf _ _ _⟩
  · simp only [hrun]
    exact Or.inr ⟨fun hc => hcL (hcl.2 hc), rfl⟩

/-- **Refutation ⇔ clash.**  `Assume` returns `Unsat` from one of its two loops exactly when some
    literal occurs together with its negation among the facts and the assumed literals. -/
theorem assumePrologue_refuted_iff {s : State} {m : List Int} {lits : List Int} (h : WF s m)
    (hrF : InRange s.nbVars s.facts) (hrL : InRange s.nbVars lits) :
    (∃ st', assumePrologue s lits = .refuted st') ↔
      ∃ l, l ∈ s.facts ++ lits ∧ -l ∈ s.facts ++ lits := by
  rcases assumePrologue_spec h hrF hrL with ⟨hc, st', _, he, _⟩ | ⟨hc, he⟩
  · exact ⟨fun _ => hc, fun _ => ⟨st', he⟩⟩
  · constructor
    · rintro ⟨st', h'⟩; rw [he] at h'; cases h'
    · intro h'; exact absurd h' hc

/-- The only other outcome is `installed` (no panic, no early return). -/
theorem assumePrologue_installed_iff {s : State} {m : List Int} {lits : List Int} (h : WF s m)
    (hrF : InRange s.nbVars s.facts) (hrL : InRange s.nbVars lits) :
    (∃ st', assumePrologue s lits = .installed st') ↔ ¬ Clash (s.facts ++ lits) := by
  rcases assumePrologue_spec h hrF hrL with ⟨hc, st', _, he, _⟩ | ⟨hc, he⟩
  · constructor
    · rintro ⟨st'', h'⟩; rw [he] at h'; cases h'
    · intro h'; exact absurd hc h'
  · exact ⟨fun _ => hc, fun _ => ⟨_, he⟩⟩

/-- **What is installed**, without reference to `modelOf` / `flagsOf`.  The trail `dedup` is
    `List.eraseDups` (`dedup_eq_eraseDups`): the distinct facts in order followed by the assumed
    literals that are new, in order. -/
theorem assumePrologue_installed {s : State} {m : List Int} {lits : List Int} (h : WF s m)
    (hrF : InRange s.nbVars s.facts) (hrL : InRange s.nbVars lits)
    (hc : ¬ Clash (s.facts ++ lits)) :
    ∃ st' m', assumePrologue s lits = .installed st' ∧
      st'.status = .indet ∧ st'.nbVars = s.nbVars ∧ st'.facts = s.facts ∧
      st'.model = some m' ∧ m'.length = s.nbVars ∧ st'.flags.length = s.nbVars ∧
      st'.trail.Nodup ∧
      st'.trail = dedup (s.facts ++ lits) ∧
      st'.trail = dedup s.facts ++ newAssumed s.facts lits ∧
      (∀ x, x ∈ st'.trail ↔ x ∈ s.facts ∨ x ∈ lits) ∧
      (∀ l ∈ st'.trail, mget m' (varOf l) = lvlToSignedLvl l 1) ∧
      (∀ v, (∀ l ∈ st'.trail, varOf l ≠ v) → mget m' v = 0) ∧
      (∀ v, st'.flags[v]? = some true ↔ ∃ l ∈ lits, l ∉ s.facts ∧ varOf l = v) ∧
      WF st' m' := by
  rcases assumePrologue_spec h hrF hrL with ⟨hc', _⟩ | ⟨_, he⟩
  · exact absurd hc' hc
  have hg := good_dedup hc (inRange_append hrF hrL)
  refine ⟨_, _, he, rfl, rfl, rfl, rfl, modelOf_length _ _, flagsOf_length _ _, dedup_nodup _, rfl,
    dedup_append_eq _ _, fun x => ?_, fun l hl => mget_modelOf_mem hg hl,
    fun v hv => mget_modelOf_eq_zero hv, fun v => ?_, wf_modelOf _ _ _⟩
  · exact (mem_dedup _ _).trans List.mem_append
  · refine (flagsOf_true_iff (fun l hl => hrL l ((mem_newAssumed _ _ l).1 hl).1) v).trans ?_
    simp only [mem_newAssumed, and_assoc]

def Agrees (a : Asg) (m : List Int) : Prop :=
  ∀ v, (mget m v > 0 → a (v + 1) = true) ∧ (mget m v < 0 → a (v + 1) = false)

theorem agrees_modelOf {n : Nat} {tr : List Int} (hg : Good n tr) (a : Asg) :
    Agrees a (modelOf n tr) ↔ ∀ l ∈ tr, litTrue a l = true := by
  -- what `Agrees` asks at the cell of a trail literal
  have key : ∀ l ∈ tr, ((mget (modelOf n tr) (varOf l) > 0 → a (varOf l + 1) = true) ∧
      (mget (modelOf n tr) (varOf l) < 0 → a (varOf l + 1) = false)) ↔ litTrue a l = true := by
    intro l hl
    have h0 := (hg.range l hl).1
    rw [mget_modelOf_mem hg hl, show varOf l + 1 = l.natAbs by unfold varOf; omega]
    unfold lvlToSignedLvl litTrue
    by_cases hp : l > 0 <;> simp [hp]
  constructor
  · intro ha l hl
    exact (key l hl).1 (ha (varOf l))
  · intro ht v
    by_cases hv : ∃ l ∈ tr, varOf l = v
    · obtain ⟨l, hl, rfl⟩ := hv
      exact (key l hl).2 (ht l hl)
    · rw [mget_modelOf_eq_zero (fun l hl h => hv ⟨l, hl, h⟩)]
      exact ⟨fun h => absurd h (by decide), fun h => absurd h (by decide)⟩

/-- **Semantics of the installed array.**  An assignment `Agrees` with it iff it makes every fact
    and every assumed literal true; after `refuted` no assignment does.  (Hence what
    `propagate`/`Solve` then decide — whether the installed bindings extend to a model of the
    clauses — is satisfiability of formula ∧ facts ∧ assumptions; that step is not stated here.) -/
theorem assumePrologue_sem {s : State} {m : List Int} {lits : List Int} (h : WF s m)
    (hrF : InRange s.nbVars s.facts) (hrL : InRange s.nbVars lits) :
    (∀ st', assumePrologue s lits = .installed st' →
      ∃ m', st'.model = some m' ∧
        ∀ a : Asg, (∀ l ∈ s.facts ++ lits, litTrue a l = true) ↔ Agrees a m') ∧
    (∀ st', assumePrologue s lits = .refuted st' →
      ¬ ∃ a : Asg, ∀ l ∈ s.facts ++ lits, litTrue a l = true) := by
  rcases assumePrologue_spec h hrF hrL with ⟨⟨l, h1, h2⟩, st', _, he, _⟩ | ⟨hc, he⟩
  · constructor
    · intro st'' h'; rw [he] at h'; cases h'
    · rintro _ _ ⟨a, ha⟩
      have hl0 : l ≠ 0 := (inRange_append hrF hrL l h1).1
      have t1 := ha l h1
      have t2 := ha _ h2
      rw [litTrue_neg a l hl0, t1] at t2
      cases t2
  · constructor
    · intro st'' h'
      rw [he] at h'
      cases h'
      refine ⟨_, rfl, fun a => ?_⟩
      rw [agrees_modelOf (good_dedup hc (inRange_append hrF hrL)) a]
      constructor
      · intro ha l hl; exact ha l ((mem_dedup _ _).1 hl)
      · intro ha l hl; exact ha l ((mem_dedup _ _).2 hl)
    · intro st'' h'; rw [he] at h'; cases h'

theorem assumePrologue_fresh {s : State} {m : List Int} (lits : List Int) (h : WF s m) :
    assumePrologue s lits = assumePrologue (fresh s.nbVars s.facts) lits := by
  unfold assumePrologue
  rw [h.model]
  simp only [cleanup_zeros h]
  simp only [fresh, cleanupBindings, skipKept, List.dropWhile_nil, unbind]

/-- **Assumptions do not leak** (at this layer): the outcome — the verdict and the whole state
    left behind — is a function of `(nbVars, facts, lits)` alone, whatever model array, trail,
    assumption flags and status earlier rounds (`Assume`, `Solve`, `AppendClause`) left.
    No hypothesis on the literals (the index panics coincide as well). -/
theorem assumePrologue_no_leak {s1 s2 : State} {m1 m2 : List Int} (lits : List Int)
    (h1 : WF s1 m1) (h2 : WF s2 m2) (hn : s1.nbVars = s2.nbVars) (hf : s1.facts = s2.facts) :
    assumePrologue s1 lits = assumePrologue s2 lits := by
  rw [assumePrologue_fresh lits h1, assumePrologue_fresh lits h2, hn, hf]

/-- The hypothesis `WF.onTrail` cannot be dropped: a variable bound in the model array but absent
    from the trail survives `cleanupBindings(0)`, and the next round sees it as a fact.
    (Model-level witness; the harness met no reachable Go state of this kind.) -/
example :
    assumePrologue { nbVars := 2, status := .indet, facts := [], model := some [0, -1],
                     trail := [], flags := [false, false] } [2] ≠
    assumePrologue (fresh 2 []) [2] := by decide +kernel

/-- `s.model == nil`: the status (`Unsat`, see `New`) is returned, nothing else happens. -/
theorem assumePrologue_nil {s : State} (lits : List Int) (h : s.model = none) :
    assumePrologue s lits = .early s.status := by
  unfold assumePrologue; rw [h]

open GS.Analyze in
/-- The concrete arrays read as a state of the trail machine (what the `verif` hooks of the Go
    code dump: for each trail literal its level `abs(model[v])`, its assumption flag, no reason —
    `Assume` does not touch `s.reason`, cleared by `cleanupBindings`).  `varOf l` is the array index
    of `l`, one less than `Entry.var`. -/
def toTrail (st : State) : GS.Trail.State :=
  { lvl := 1,
    es := st.trail.map (fun l =>
      ({ lit := l, lvl := (mget (st.model.getD []) (varOf l)).natAbs,
         assumed := (st.flags[varOf l]?).getD false, reason := none } : Entry)) }

theorem varsDistinct {xs : List Int} (hn : xs.Nodup) (hc : ¬ Clash xs) :
    xs.Pairwise (fun a b => a.natAbs ≠ b.natAbs) := by
  refine List.Pairwise.imp_of_mem ?_ hn
  intro a b ha hb hab
  have h1 : -a ∉ xs := fun h => hc ⟨a, ha, h⟩
  have h2 : b ≠ -a := fun h => h1 (h ▸ hb)
  omega

theorem toTrail_eq {n : Nat} {st : State} {fs new : List Int} (hg : Good n (fs ++ new))
    (hnd : (fs ++ new).Nodup) (hm : st.model = some (modelOf n (fs ++ new)))
    (ht : st.trail = fs ++ new) (hf : st.flags = flagsOf n new) :
    toTrail st = ⟨1, fs.map (entry1 false) ++ new.map (entry1 true)⟩ := by
  have hent : ∀ l ∈ fs ++ new,
      (⟨l, (mget (modelOf n (fs ++ new)) (varOf l)).natAbs,
        ((flagsOf n new)[varOf l]?).getD false, none⟩ : GS.Analyze.Entry) =
        entry1 (decide (l ∈ new ∨ -l ∈ new)) l := by
    intro l hl
    obtain ⟨h0, hn⟩ := hg.range l hl
    rw [mget_modelOf_mem hg hl, flag_flagsOf h0 hn, entry1]
    unfold lvlToSignedLvl
    split <;> rfl
  unfold toTrail
  rw [hm, ht, hf, Option.getD_some, List.map_congr_left hent, List.map_append]
  congr 2
  · refine List.map_congr_left fun l hl => ?_
    rw [decide_eq_false]
    rintro (hx | hx)
    · exact (List.nodup_append.1 hnd).2.2 l hl l hx rfl
    · exact hg.noClash ⟨l, List.mem_append_left _ hl, List.mem_append_right _ hx⟩
  · exact List.map_congr_left fun l hl => by rw [decide_eq_true (Or.inl hl)]

open GS.Analyze GS.Trail in
/-- **Link to the trail machine.**  The state `Assume` hands to `propagate` is, read through
    `toTrail`, the state the abstract machine reaches from `init (dedup facts)` — whose guard
    `unitsOk` holds: the re-installation loop skips the repeated facts that `New` itself would
    put twice on the trail — by one `assume` step per newly bound assumed literal.  Hence it
    meets `GS.Trail.Inv`, and so does every state `propagate`/`Solve` reach from it by machine
    operations (`GS.Trail.run_preserves_inv`, `reachable_inv_partial`). -/
theorem assumePrologue_trail_run {s : State} {m : List Int} {lits : List Int} {st' : State}
    (h : WF s m) (hrF : InRange s.nbVars s.facts) (hrL : InRange s.nbVars lits)
    (he : assumePrologue s lits = .installed st') :
    unitsOk (dedup s.facts) = true ∧
    GS.Trail.run (GS.Trail.init (dedup s.facts)) ((newAssumed s.facts lits).map Op.assume)
      = some (toTrail st') ∧
    GS.Trail.Inv (toTrail st') ∧
    GS.Trail.assumptions (toTrail st') = newAssumed s.facts lits := by
  rcases assumePrologue_spec h hrF hrL with ⟨_, _, _, he', _⟩ | ⟨hc, he'⟩
  · rw [he] at he'; cases he'
  obtain rfl : installedState s lits = st' := Outcome.installed.inj (he'.symm.trans he)
  have hg := good_dedup hc (inRange_append hrF hrL)
  have hnd := dedup_nodup (s.facts ++ lits)
  rw [dedup_append_eq] at hg hnd
  rw [toTrail_eq hg hnd (congrArg (fun tr => some (modelOf _ tr)) (dedup_append_eq _ _))
    (dedup_append_eq _ _) rfl]
  have hvd := varsDistinct hnd hg.noClash
  rw [List.pairwise_append] at hvd
  have hunits : unitsOk (dedup s.facts) = true := by
    simp only [unitsOk, Bool.and_eq_true, List.all_eq_true, bne_iff_ne, ne_eq, noDupVars_iff, init,
      List.pairwise_map]
    exact ⟨fun u hu => (hg.range u (List.mem_append_left _ hu)).1, hvd.1⟩
  have hrun := run_assumes (newAssumed s.facts lits) ((dedup s.facts).map (entry1 false))
    (fun l hl => (hg.range l (List.mem_append_right _ hl)).1)
    (fun e he' l hl => by
      obtain ⟨u, hu, rfl⟩ := List.mem_map.1 he'
      exact hvd.2.2 u hu l hl)
    hvd.2.1
  exact ⟨hunits, hrun, reachable_inv_partial hunits hrun, assumptions_entry1 _ _⟩

section Examples

/-- What the driver op `assumepro` (`GS.OpsAssume`) answers: trail and flagged variables. -/
def view : Outcome → Option (List Int × List Nat)
  | .installed st => some (st.trail, flagged st.flags)
  | _ => none

def isRefuted : Outcome → Bool
  | .refuted _ => true
  | _ => false

example : view (assumePrologue (fresh 4 [1, -3]) [2, -4]) = some ([1, -3, 2, -4], [2, 4]) := by decide
-- an assumption equal to a fact: skipped, hence **not** flagged (its binding is the fact's)
example : view (assumePrologue (fresh 4 [1, -3]) [-3, 2]) = some ([1, -3, 2], [2]) := by decide
example : isRefuted (assumePrologue (fresh 4 [1, -3]) [2, 3]) = true := by decide
example : isRefuted (assumePrologue (fresh 4 [1]) [2, -2]) = true := by decide +kernel
example : view (assumePrologue (fresh 4 [1]) [2, 2, -4, 2]) = some ([1, 2, -4], [2, 4]) := by decide
-- facts listed twice (`New` would put both on the trail; the re-installation does not)
example : view (assumePrologue (fresh 4 [1, -3, 1, -3]) [2]) = some ([1, -3, 2], [2]) := by decide
-- facts contradicting each other (left by `propagateUnits`): refuted whatever is assumed
example : isRefuted (assumePrologue (fresh 4 [1, -3, -1]) []) = true := by decide +kernel
-- a second round from the state a first round (and a full model found by `Solve`) left:
-- nothing of the first round's assumptions `[2, -4]` survives
example :
    view (assumePrologue { nbVars := 4, status := .sat, facts := [1, -3], model := some [1, 1, -1, -2],
                           trail := [1, -3, 2, -4], flags := [false, true, false, true] } [4])
      = some ([1, -3, 4], [4]) := by decide
-- index panics: literal 0, variable beyond the arrays
example : assumePrologue (fresh 4 [1]) [0] = .panic := by decide
example : assumePrologue (fresh 4 [1]) [5] = .panic := by decide +kernel
-- the solver of a problem refuted at parse time
example : assumePrologue { nbVars := 0, status := .unsat, facts := [], model := none, trail := [],
                           flags := [] } [1] = .early .unsat := by decide +kernel

/-- The hypotheses of the theorems on a concrete non-trivial state (second round above). -/
def exState : State :=
  { nbVars := 4, status := .sat, facts := [1, -3], model := some [1, 1, -1, -2],
    trail := [1, -3, 2, -4], flags := [false, true, false, true] }

theorem exState_wf : WF exState [1, 1, -1, -2] := ⟨rfl, rfl, by decide⟩

theorem exState_range : InRange exState.nbVars exState.facts ∧ InRange exState.nbVars [4, 1] := by
  unfold InRange; decide

theorem exState_noClash : ¬ Clash (exState.facts ++ [4, 1]) :=
  by unfold Clash; decide

example : ¬ Clash (exState.facts ++ [4, 1]) := exState_noClash

example : ∃ st', assumePrologue exState [4, 1] = .installed st' :=
  (assumePrologue_installed_iff exState_wf exState_range.1 exState_range.2).2 exState_noClash

example : assumePrologue exState [4, 1] = assumePrologue (fresh 4 [1, -3]) [4, 1] :=
  assumePrologue_fresh _ exState_wf

example : (∃ st', assumePrologue exState [3] = .refuted st') ↔
    ∃ l, l ∈ exState.facts ++ [3] ∧ -l ∈ exState.facts ++ [3] :=
  assumePrologue_refuted_iff exState_wf exState_range.1 (by unfold InRange; decide)

example : ∀ st', assumePrologue exState [4, 1] = .installed st' →
    ∃ m', st'.model = some m' ∧
      ∀ a : Asg, (∀ l ∈ exState.facts ++ [4, 1], litTrue a l = true) ↔ Agrees a m' :=
  (assumePrologue_sem exState_wf exState_range.1 exState_range.2).1

example : assumePrologue exState [4, 1] =
    assumePrologue { exState with model := some [0, 0, 0, 0], trail := [], status := .unsat } [4, 1] :=
  assumePrologue_no_leak _ exState_wf
    (⟨rfl, rfl, by decide⟩ :
      WF { exState with model := some [0, 0, 0, 0], trail := [], status := .unsat } [0, 0, 0, 0])
    rfl rfl

example : ∀ st', assumePrologue exState [4, 1] = .installed st' → GS.Trail.Inv (toTrail st') :=
  fun _ he => (assumePrologue_trail_run exState_wf exState_range.1 exState_range.2 he).2.2.1

example : GS.Trail.unitsOk (dedup [1, -3, 1, -3]) = true := by decide
example : dedup [1, -3, 1, 2, -3, 2] = [1, -3, 2] := by decide
example : newAssumed [1, -3, 1] [-3, 2, 2, 4] = [2, 4] := by decide +kernel

end Examples

end GS.Assume

#print axioms GS.Assume.assumePrologue_spec
#print axioms GS.Assume.assumePrologue_refuted_iff
#print axioms GS.Assume.assumePrologue_installed_iff
#print axioms GS.Assume.assumePrologue_installed
#print axioms GS.Assume.assumePrologue_sem
#print axioms GS.Assume.assumePrologue_fresh
#print axioms GS.Assume.assumePrologue_no_leak
#print axioms GS.Assume.assumePrologue_trail_run
#print axioms GS.Assume.assumePrologue_nil
#print axioms GS.Assume.dedup_eq_eraseDups
#print axioms GS.Assume.cleanup_zeros
