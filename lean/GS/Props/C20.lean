import GS.Props.Facts
/-!
# C20 — the stream of intermediate results is valid, improving and always terminated

`GS.Facts.chan_ops` (regenerated from the source on every run): the producer of
each result / model channel closes it by a deferred `close`, nobody else closes it, the
MaxSAT forwarder ranges over the inner channel and re-sends on the outer one.
The protocol theorems (no send on a closed channel, closed exactly once, no deadlock for
every capacity and schedule) live in `GS.Props.C20_Chan`.
-/
namespace GS
theorem C20_chan_structure : GS.Generated.chanOps = GS.Facts.expectedChanOps := GS.Facts.chan_ops
end GS
