import GS.Check.Brute
/-!
# C18 — Printed problems read back as equivalent problems

This module imports the oracles that judge every answer of the implementation in the harness;
they are proved, in the imported modules, to be exactly the specification on every input
over the variables `1..n` (`wf n`).
The theorems about the mirrors of the Go code are in `C13_Formats.lean` (`Problem.CNF`, `Problem.PBString`) and `C18_SolverPrint.lean`.
-/
namespace GS
end GS
