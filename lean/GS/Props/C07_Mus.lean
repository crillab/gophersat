import GS.Model.Mus
/-!
# C07 — extracted MUSes are unsatisfiable, minimal sub-multisets of the input

Theorems about the mirrors `GS.Mus.deletion` / `GS.Mus.insertion` (of `MUSDeletion` = `MUS`
and `MUSInsertion`, `/repo/explain/mus.go`) for **every** clause list — unit clauses, repeated
clauses, several cores, the empty clause — over an abstract satisfiability oracle `sat`.

The oracle contract is asked only of clause lists drawn from the input:

    hsat : ∀ f, f ⊆ cs → (sat f = true ↔ CnfSat f)

The executable instance `GS.bruteCnfSat n` meets it whenever the input is well formed over `n`
variables (`deletionBrute_mus`, `insertionBrute_mus`).

Both loops keep one invariant, `Crit`; a round takes it and hands it back for the next one
(`Crit.snoc`: the clause joins the MUS, `Crit.mono`: it stays out).

The MaxSat rounds alone (`maxsatStrategy`: all of `MUSMaxSat` before the fix 8b39c56) are not
minimal: `maxsat_mus_counterexample`. The repaired `MUSMaxSat` is in `C07_MaxSatFixed`.
-/
namespace GS.Mus
open GS

theorem sat_mono {f g : List (List Int)} (h : List.Sublist f g) : CnfSat g → CnfSat f :=
  CnfSat.mono h.subset

theorem dropNth_sublist {α} (xs : List α) (i : Nat) : List.Sublist (dropNth xs i) xs :=
  dropNth_eq_eraseIdx xs i ▸ List.eraseIdx_sublist xs i

theorem dropNth_append_lt {α} (xs ys : List α) (i : Nat) (h : i < xs.length) :
    dropNth (xs ++ ys) i = dropNth xs i ++ ys := by
  rw [dropNth_eq_eraseIdx, dropNth_eq_eraseIdx, List.eraseIdx_append_of_lt_length h]

theorem dropNth_append_length {α} (xs : List α) (c : α) :
    dropNth (xs ++ [c]) xs.length = xs := by
  unfold dropNth
  simp

theorem subMultiset_iff_count : ∀ (m cs : List (List Int)),
    subMultiset m cs = true ↔ ∀ x, m.count x ≤ cs.count x := by
  intro m
  induction m with
  | nil => simp [subMultiset]
  | cons x xs ih =>
    intro cs
    unfold subMultiset
    by_cases hx : x ∈ cs
    · rw [if_pos hx, ih (cs.erase x)]
      -- erasing `x` from `cs` and dropping the head `x` shift both counts of `x` by one
      have hpos : 0 < cs.count x := List.count_pos_iff.2 hx
      refine forall_congr' fun y => ?_
      rw [List.count_erase, List.count_cons]
      by_cases hxy : x = y
      · subst hxy; simp only [beq_self_eq_true, if_true]; omega
      · simp only [beq_iff_eq, hxy, if_false]; omega
    · rw [if_neg hx]
      refine ⟨fun h => (nomatch h), fun h => ?_⟩
      have := h x
      rw [List.count_cons_self, List.count_eq_zero_of_not_mem hx] at this
      omega

theorem sublist_subMultiset {m cs : List (List Int)} (h : List.Sublist m cs) :
    subMultiset m cs = true :=
  (subMultiset_iff_count m cs).2 (fun x => h.count_le x)

theorem subMultiset_trans {a b c : List (List Int)} (h1 : subMultiset a b = true)
    (h2 : subMultiset b c = true) : subMultiset a c = true := by
  rw [subMultiset_iff_count] at *
  exact fun x => Nat.le_trans (h1 x) (h2 x)

theorem dropNth_snoc_cases {α} (kept : List α) (c : α) (i : Nat) (hi : i < (kept ++ [c]).length) :
    (i < kept.length ∧ dropNth (kept ++ [c]) i = dropNth kept i ++ [c]) ∨
    dropNth (kept ++ [c]) i = kept := by
  rw [List.length_append, List.length_singleton] at hi
  by_cases hlt : i < kept.length
  · exact Or.inl ⟨hlt, dropNth_append_lt _ _ _ hlt⟩
  · exact Or.inr ((show i = kept.length by omega) ▸ dropNth_append_length kept c)

theorem append_subset_right {α} (xs : List α) {l l' : List α} (h : l' ⊆ l) : xs ++ l' ⊆ xs ++ l :=
  List.append_subset.2 ⟨List.subset_append_left _ _, List.subset_append_of_subset_right _ h⟩

/-- The invariant of the deletion and insertion loops. `kept`: the clauses decided to be in the
MUS; `l`: those still to be examined. The oracle is right about the clause lists drawn from
`kept ++ l`, which is unsatisfiable, and every clause of `kept` is needed. At `l = []` it is
`IsMUS kept`. -/
structure Crit (sat : List (List Int) → Bool) (kept l : List (List Int)) : Prop where
  ok : ∀ f, f ⊆ kept ++ l → (sat f = true ↔ CnfSat f)
  unsat : ¬ CnfSat (kept ++ l)
  needed : ∀ i, i < kept.length → CnfSat (dropNth kept i ++ l)

section
variable {sat : List (List Int) → Bool} {kept l l' : List (List Int)} {c : List Int}

theorem Crit.start {s : List (List Int)} (hsat : ∀ f, f ⊆ s → (sat f = true ↔ CnfSat f))
    (hun : ¬ CnfSat s) : Crit sat [] s :=
  ⟨hsat, hun, fun _ hi => nomatch hi⟩

theorem Crit.isMUS (h : Crit sat kept []) : IsMUS kept :=
  ⟨List.append_nil kept ▸ h.unsat, fun i hi => List.append_nil (dropNth kept i) ▸ h.needed i hi⟩

/-- `c` joins `kept`: without it the rest `l'` leaves `kept` satisfiable, with it not. -/
theorem Crit.snoc (h : Crit sat kept l) (hl : c :: l' ⊆ l)
    (hs : CnfSat (kept ++ l')) (hu : ¬ CnfSat (kept ++ c :: l')) : Crit sat (kept ++ [c]) l' := by
  have e : kept ++ [c] ++ l' = kept ++ c :: l' := (List.append_cons ..).symm
  refine ⟨fun f hf => h.ok f (hf.trans (e ▸ append_subset_right kept hl)), e ▸ hu, fun i hi => ?_⟩
  rcases dropNth_snoc_cases kept c i hi with ⟨hlt, h'⟩ | h' <;> rw [h']
  · rw [← List.append_cons]; exact CnfSat.mono (append_subset_right _ hl) (h.needed i hlt)
  · exact hs

theorem Crit.mono (h : Crit sat kept l) (hl : l' ⊆ l) (hu : ¬ CnfSat (kept ++ l')) : Crit sat kept l' :=
  ⟨fun f hf => h.ok f (hf.trans (append_subset_right kept hl)), hu,
    fun i hi => CnfSat.mono (append_subset_right _ hl) (h.needed i hi)⟩

end

theorem delLoop_spec (sat : List (List Int) → Bool) :
    ∀ (l kept : List (List Int)), Crit sat kept l →
      List.Sublist (delLoop sat kept l) (kept ++ l) ∧ IsMUS (delLoop sat kept l) := by
  intro l
  induction l with
  | nil => exact fun kept h => ⟨List.sublist_append_left kept [], h.isMUS⟩
  | cons c rest ih =>
    intro kept h
    have hk := h.ok _ (append_subset_right kept (List.subset_cons_self c rest))
    unfold delLoop
    by_cases hs : sat (kept ++ rest) = true
    · -- `kept ++ rest` is satisfiable: `c` is needed and joins `kept`
      rw [if_pos hs, List.append_cons kept c rest]
      exact ih (kept ++ [c]) (h.snoc (List.Subset.refl _) (hk.1 hs) h.unsat)
    · -- unsatisfiable without `c`: it stays out
      rw [if_neg hs]
      have ⟨h1, h2⟩ := ih kept (h.mono (List.subset_cons_self c rest) fun hc => hs (hk.2 hc))
      exact ⟨h1.trans ((List.sublist_cons_self c rest).append_left kept), h2⟩

/-- `UnsatSubset` is the parameter `sub`; its contract (`hsome`, `hnone`: an unsatisfiable sub-list
of the input, or an error exactly when the input is satisfiable) is a hypothesis. -/
theorem deletionWith_mus (sat : List (List Int) → Bool)
    (sub : List (List Int) → Option (List (List Int))) (cs : List (List Int))
    (hsat : ∀ f, f ⊆ cs → (sat f = true ↔ CnfSat f))
    (hsome : ∀ s, sub cs = some s → List.Sublist s cs ∧ ¬ CnfSat s)
    (hnone : sub cs = none ↔ CnfSat cs) :
    (¬ CnfSat cs → ∃ m, deletionWith sat sub cs = some m ∧ List.Sublist m cs ∧
        subMultiset m cs = true ∧ ¬ CnfSat m ∧ IsMUS m) ∧
    (CnfSat cs → deletionWith sat sub cs = none) := by
  unfold deletionWith
  constructor
  · intro hun
    cases hs : sub cs with
    | none => exact absurd (hnone.1 hs) hun
    | some s =>
      obtain ⟨hsl, hsu⟩ := hsome s hs
      have h := delLoop_spec sat s [] (Crit.start (fun f hf => hsat f (hf.trans hsl.subset)) hsu)
      have hsl' : List.Sublist (delLoop sat [] s) cs := h.1.trans hsl
      exact ⟨_, rfl, hsl', sublist_subMultiset hsl', h.2.1, h.2⟩
  · intro hS
    rw [hnone.2 hS]

theorem unsatSubsetId_some (sat : List (List Int) → Bool) (cs : List (List Int))
    (hsat : ∀ f, f ⊆ cs → (sat f = true ↔ CnfSat f)) :
    (∀ s, unsatSubsetId sat cs = some s → List.Sublist s cs ∧ ¬ CnfSat s) ∧
    (unsatSubsetId sat cs = none ↔ CnfSat cs) := by
  have h := hsat cs (List.Subset.refl cs)
  unfold unsatSubsetId
  by_cases hs : sat cs = true
  · simp [hs, h.1 hs]
  · have : ¬ CnfSat cs := fun hc => hs (h.2 hc)
    simp only [hs, Bool.false_eq_true, if_false, Option.some.injEq, reduceCtorEq, false_iff]
    exact ⟨fun s e => e ▸ ⟨List.Sublist.refl _, this⟩, this⟩

/-- **C07, deletion strategy (`MUSDeletion`, `MUS`).** -/
theorem deletion_mus (sat : List (List Int) → Bool) (cs : List (List Int))
    (hsat : ∀ f, f ⊆ cs → (sat f = true ↔ CnfSat f)) :
    (¬ CnfSat cs → ∃ m, deletion sat cs = some m ∧ List.Sublist m cs ∧
        subMultiset m cs = true ∧ ¬ CnfSat m ∧ IsMUS m) ∧
    (CnfSat cs → deletion sat cs = none) :=
  deletionWith_mus sat _ cs hsat (unsatSubsetId_some sat cs hsat).1 (unsatSubsetId_some sat cs hsat).2

theorem deletion_mus' (sat : List (List Int) → Bool) (hsat : ∀ f, sat f = true ↔ CnfSat f)
    (cs : List (List Int)) :
    (¬ CnfSat cs → ∃ m, deletion sat cs = some m ∧ List.Sublist m cs ∧
        subMultiset m cs = true ∧ ¬ CnfSat m ∧ IsMUS m) ∧
    (CnfSat cs → deletion sat cs = none) :=
  deletion_mus sat cs (fun f _ => hsat f)

theorem mus_mus (sat : List (List Int) → Bool) (cs : List (List Int))
    (hsat : ∀ f, f ⊆ cs → (sat f = true ↔ CnfSat f)) :
    (¬ CnfSat cs → ∃ m, mus sat cs = some m ∧ List.Sublist m cs ∧
        subMultiset m cs = true ∧ ¬ CnfSat m ∧ IsMUS m) ∧
    (CnfSat cs → mus sat cs = none) :=
  deletion_mus sat cs hsat

/-- The inner loop of `MUSInsertion` never runs past the end of `clauses` (no index-out-of-range
panic: `addUntil` answers `some`), and the clause `c` it stops at joins the MUS: the invariant holds
again with the candidates `b` that came before `c`. -/
theorem addUntil_spec (sat : List (List Int) → Bool) (mus : List (List Int)) :
    ∀ (l added : List (List Int)), Crit sat mus (added ++ l) → CnfSat (mus ++ added) →
      ∃ b c, addUntil sat mus added l = some (b, c) ∧ List.Sublist (b ++ [c]) (added ++ l) ∧
        Crit sat (mus ++ [c]) b := by
  intro l
  induction l with
  | nil => exact fun added h hS => absurd hS (List.append_nil added ▸ h.unsat)
  | cons c rest ih =>
    intro added h hS
    have e : added ++ [c] ++ rest = added ++ c :: rest := (List.append_cons ..).symm
    have hk := h.ok (mus ++ added ++ [c]) (List.append_assoc mus added [c] ▸ append_subset_right mus
      (append_subset_right added (List.cons_subset_cons c (List.nil_subset rest))))
    unfold addUntil
    by_cases hs : sat (mus ++ added ++ [c]) = true
    · rw [if_pos hs]
      exact e ▸ ih (added ++ [c]) (e.symm ▸ h) (List.append_assoc .. ▸ hk.1 hs)
    · rw [if_neg hs]
      exact ⟨added, c, rfl, (List.Sublist.refl added).append ((List.nil_sublist rest).cons_cons c),
        h.snoc (List.cons_subset.2 ⟨List.mem_append_right _ List.mem_cons_self, List.subset_append_left _ _⟩) hS
          fun hc => hs (hk.2 (CnfSat.mono (List.append_assoc .. ▸
            append_subset_right mus (List.perm_append_singleton c added).subset) hc))⟩

/-- The MUS comes out reversed: the clauses join it from the last needed candidate backwards. -/
theorem insLoop_spec (sat : List (List Int) → Bool) :
    ∀ (fuel : Nat) (mus cands : List (List Int)), cands.length < fuel → Crit sat mus cands →
      ∃ m, insLoop sat fuel mus cands = some m ∧ List.Sublist m.reverse (cands ++ mus.reverse) ∧
        IsMUS m := by
  intro fuel
  induction fuel with
  | zero => exact fun _ _ hf => nomatch hf
  | succ fuel ih =>
    intro mus cands hf h
    have hk := h.ok mus (List.subset_append_left _ _)
    unfold insLoop
    by_cases hs : sat mus = true
    · rw [if_pos hs]
      obtain ⟨b, c, h1, hsl, hb⟩ := addUntil_spec sat mus cands [] h (by rw [List.append_nil]; exact hk.1 hs)
      rw [List.nil_append] at hsl
      rw [h1]
      obtain ⟨m, hm1, hm2, hm3⟩ := ih (mus ++ [c]) b
        (by have := hsl.length_le; rw [List.length_append, List.length_singleton] at this; omega) hb
      refine ⟨m, hm1, hm2.trans ?_, hm3⟩
      rw [List.reverse_append, List.reverse_singleton, List.singleton_append, List.append_cons]
      exact hsl.append_right _
    · rw [if_neg hs]
      exact ⟨mus, rfl, List.sublist_append_right _ _,
        (h.mono (List.nil_subset _) (by rw [List.append_nil]; exact fun hc => hs (hk.2 hc))).isMUS⟩

theorem insertionWith_mus (sat : List (List Int) → Bool)
    (sub : List (List Int) → Option (List (List Int))) (cs : List (List Int))
    (hsat : ∀ f, f ⊆ cs → (sat f = true ↔ CnfSat f))
    (hsome : ∀ s, sub cs = some s → List.Sublist s cs ∧ ¬ CnfSat s)
    (hnone : sub cs = none ↔ CnfSat cs) :
    (¬ CnfSat cs → ∃ m, insertionWith sat sub cs = some m ∧ List.Sublist m.reverse cs ∧
        subMultiset m cs = true ∧ ¬ CnfSat m ∧ IsMUS m) ∧
    (CnfSat cs → insertionWith sat sub cs = none) := by
  unfold insertionWith
  constructor
  · intro hun
    cases hs : sub cs with
    | none => exact absurd (hnone.1 hs) hun
    | some s =>
      obtain ⟨hsl, hsu⟩ := hsome s hs
      obtain ⟨m, h1, h2, h3⟩ := insLoop_spec sat (s.length + 1) [] s (Nat.lt_succ_self _)
        (Crit.start (fun f hf => hsat f (hf.trans hsl.subset)) hsu)
      rw [List.reverse_nil, List.append_nil] at h2
      have hsl' : List.Sublist m.reverse cs := h2.trans hsl
      have hsm : subMultiset m cs = true :=
        (subMultiset_iff_count m cs).2 fun x => List.count_reverse (a := x) ▸ hsl'.count_le x
      exact ⟨m, h1, hsl', hsm, h3.1, h3⟩
  · intro hS
    rw [hnone.2 hS]

/-- **C07, insertion strategy (`MUSInsertion`).** Termination is part of the statement:
`insertion` runs `insLoop` with fuel `|cs| + 1` and the result is `some`. -/
theorem insertion_mus (sat : List (List Int) → Bool) (cs : List (List Int))
    (hsat : ∀ f, f ⊆ cs → (sat f = true ↔ CnfSat f)) :
    (¬ CnfSat cs → ∃ m, insertion sat cs = some m ∧ List.Sublist m.reverse cs ∧
        subMultiset m cs = true ∧ ¬ CnfSat m ∧ IsMUS m) ∧
    (CnfSat cs → insertion sat cs = none) :=
  insertionWith_mus sat _ cs hsat (unsatSubsetId_some sat cs hsat).1
    (unsatSubsetId_some sat cs hsat).2

theorem insertion_mus' (sat : List (List Int) → Bool) (hsat : ∀ f, sat f = true ↔ CnfSat f)
    (cs : List (List Int)) :
    (¬ CnfSat cs → ∃ m, insertion sat cs = some m ∧ List.Sublist m.reverse cs ∧
        subMultiset m cs = true ∧ ¬ CnfSat m ∧ IsMUS m) ∧
    (CnfSat cs → insertion sat cs = none) :=
  insertion_mus sat cs (fun f _ => hsat f)

theorem brute_contract (n : Nat) (cs : List (List Int)) (hw : cnfWf n cs = true) :
    ∀ f, f ⊆ cs → (bruteCnfSat n f = true ↔ CnfSat f) :=
  fun f hf => bruteCnfSat_iff n f (cnfWf_subset n hf hw)

/-- The hypotheses of `deletion_mus` / `insertion_mus` are met by a concrete oracle on a concrete
unsatisfiable input with two cores and a repeated clause. -/
example : (∀ f, f ⊆ [[1], [-1], [2], [1], [-2]] → (bruteCnfSat 2 f = true ↔ CnfSat f)) ∧
    ¬ CnfSat [[1], [-1], [2], [1], [-2]] :=
  ⟨brute_contract 2 _ (by decide),
   fun h => by
    have := (bruteCnfSat_iff 2 [[1], [-1], [2], [1], [-2]] (by decide)).2 h
    revert this; decide +kernel⟩

theorem deletionBrute_mus (n : Nat) (cs : List (List Int)) (hw : cnfWf n cs = true) :
    (¬ CnfSat cs → ∃ m, deletionBrute n cs = some m ∧ List.Sublist m cs ∧
        subMultiset m cs = true ∧ ¬ CnfSat m ∧ IsMUS m) ∧
    (CnfSat cs → deletionBrute n cs = none) :=
  deletion_mus _ cs (brute_contract n cs hw)

theorem insertionBrute_mus (n : Nat) (cs : List (List Int)) (hw : cnfWf n cs = true) :
    (¬ CnfSat cs → ∃ m, insertionBrute n cs = some m ∧ List.Sublist m.reverse cs ∧
        subMultiset m cs = true ∧ ¬ CnfSat m ∧ IsMUS m) ∧
    (CnfSat cs → insertionBrute n cs = none) :=
  insertion_mus _ cs (brute_contract n cs hw)

/-! ### Concrete inputs: two cores, a repeated clause, the empty clause, a satisfiable input.
The outputs coincide (including clause order) with what the Go functions return. -/

example : cnfWf 3 [[1, 2], [-1, 2], [3], [1, -2], [-1, -2], [-3]] = true := by decide
example : deletionBrute 3 [[1, 2], [-1, 2], [3], [1, -2], [-1, -2], [-3]] = some [[3], [-3]] := by
  decide +kernel
example : insertionBrute 3 [[1, 2], [-1, 2], [3], [1, -2], [-1, -2], [-3]]
    = some [[-1, -2], [1, -2], [-1, 2], [1, 2]] := by decide +kernel
example : isMUSB 3 [[-1, -2], [1, -2], [-1, 2], [1, 2]] = true := by decide +kernel
example : deletionBrute 1 [[1], [1], [-1]] = some [[1], [-1]] := by decide
example : insertionBrute 1 [[1], [1], [-1]] = some [[-1], [1]] := by decide
example : deletionBrute 2 [[1, 2], [], [1]] = some [[]] := by decide
example : insertionBrute 2 [[1, 2], [], [1]] = some [[]] := by decide
example : deletionBrute 2 [[1, 2]] = none ∧ insertionBrute 2 [[1, 2]] = none := by decide

/-! ### The MaxSat rounds of `MUSMaxSat` are not minimal (defect of the Go code, fixed by 8b39c56)

On two disjoint cores `{x₁, ¬x₁}`, `{x₂, ¬x₂}` every optimal model falsifies exactly one clause
of each core, so the first round hardens one clause per core and the second round the other
two: whatever optimal models the solver picks, all four clauses are gathered
(Go before the fix returned `[[-1] [-2] [1] [2]]`). That set is unsatisfiable but not minimal. -/

theorem maxsat_mus_counterexample :
    bruteCnfSat 2 [[1], [-1], [2], [-2]] = false ∧
    isMUSB 2 [[1], [-1], [2], [-2]] = false ∧
    ¬ IsMUS [[1], [-1], [2], [-2]] ∧
    (∃ m, maxsatStrategy 2 [[1], [-1], [2], [-2]] = some m ∧ m.length = 4 ∧
      subMultiset m [[1], [-1], [2], [-2]] = true ∧ isMUSB 2 m = false) ∧
    -- the other two strategies are fine on this input
    deletionBrute 2 [[1], [-1], [2], [-2]] = some [[2], [-2]] ∧
    insertionBrute 2 [[1], [-1], [2], [-2]] = some [[-1], [1]] := by
  refine ⟨by decide +kernel, by decide +kernel, ?_, ⟨[[1], [2], [-1], [-2]], by decide +kernel⟩,
    by decide +kernel, by decide +kernel⟩
  intro h
  have := (isMUSB_iff 2 [[1], [-1], [2], [-2]] (by decide)).2 h
  revert this
  decide +kernel

/-- A second witness: a repeated clause. The MaxSat rounds gather both copies of `[1]`
(Go before the fix returned `[[-1] [1] [1]]`). -/
theorem maxsat_mus_counterexample_dup :
    maxsatStrategy 1 [[1], [1], [-1]] = some [[-1], [1], [1]] ∧
    isMUSB 1 [[-1], [1], [1]] = false := by
  constructor <;> decide +kernel

/-! ### Remark: the caller's problem is left unchanged

In the model this is structural: `deletion`, `insertion`, `maxsatStrategy` are pure functions of
an immutable `cs`; nothing can be written back. What it stands for in the Go code (checked by
reading, and by the differential harness comparing `pb.Clauses` before and after):
`UnsatSubset` returns `pb.clone()` (deep copy) on the trivially-unsat path and a fresh outer
slice otherwise; `MUSDeletion` writes the relaxed clauses into fresh `newClause` slices of
`pb2`; `MUSInsertion` only reads (the returned MUS aliases the caller's inner clause slices but
nothing writes to them); `MUSMaxSat` appends relax literals to the clauses of a deep clone.
`UnsatSubset` runs `UnsatChan` on the caller's `pb`: it appends learned clauses to `pb.Clauses`
and `restore` truncates them again; `pb.units` is saved/restored by `unsat`; only the unexported
`pb.tagged` is overwritten.
There is deliberately no Lean theorem for this part: it would be `rfl`. -/

end GS.Mus
