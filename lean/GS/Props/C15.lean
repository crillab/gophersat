import GS.Check.Brute
/-!
# C15 — At-most-one detection preserves the set of models

The oracle that judges the implementation's answers for this property in the harness
(`GS.Check.Brute`) is proved in the imported module to be exactly the specification over *all*
inputs.  The theorems about the mirror of `DetectAtMostOne` are in `GS/Props/C15_Amo.lean`.
-/
namespace GS
end GS
