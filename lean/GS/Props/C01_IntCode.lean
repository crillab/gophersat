import GS.Model.IntCodeSem
/-!
# C01_IntCode — theorems about the GENERATED integer / bit code (translator route)

`GS/Generated/IntCode.lean` is rewritten from `/repo/solver/{types,clause,watcher,queue,solver}.go`
by `/verif/trans` on every run.  Every statement below is about those generated definitions and
holds for ALL bit patterns in the stated range (no testing, no `bv_decide`, no `native_decide`).
A changed operator or constant in the Go source changes the definition and breaks a named theorem.
Two definitions are written here by hand and have no generated text behind them: `abs32` (the `|i|`
of `Lit_Var_IntToLit`) and `litStatusSat` (the test inside `Solver.litStatus`, in
`lvlToSignedLvl_spec`); a change of `litStatus` in Go breaks nothing.

Findings recorded as theorems:
* the DIMACS round trip holds exactly for `0 < |i| ≤ 2^30` (`roundtrip_fails_above`, `…_below`,
  `IntToLit_minInt`): 2^30 is the hard limit on the number of variables, `IntToLit` does not check it;
* `Negation` keeps the variable only for non-negative codes (`Negation_Var_fails_neg`);
* `incLbd` carries into the locked flag at lbd = 2^30-1 (`incLbd_overflow`);
* `right i` overflows at `i = 2^62-1` (`left_lt_right_fails`); `abs` of the minimum is negative.
-/
namespace GS.Props.C01IntCode
open GS.Gen.IntCode GS.IntCodeSem

/-- the Go `int32` range in which a DIMACS literal is usable: `i ≠ 0`, `-2^30 ≤ i ≤ 2^30` -/
def LitRange (i : BitVec 32) : Prop := i ≠ 0#32 ∧ -2^30 ≤ i.toInt ∧ i.toInt ≤ 2^30

instance (i : BitVec 32) : Decidable (LitRange i) := by unfold LitRange; exact inferInstance

/-- `|i|` as the Go code would compute it (`abs` at int32) -/
def abs32 (i : BitVec 32) : BitVec 32 := if BitVec.slt i 0#32 then -i else i

theorem IntToLit_nonneg (i : BitVec 32) (h : LitRange i) :
    0 ≤ (IntToLit i).toInt ∧ (IntToLit i).toInt ≤ 2^31 - 1 := by
  obtain ⟨h0, hlo, hhi⟩ := h
  have hne := toInt_ne_zero h0
  rw [toInt_IntToLit i h0 hlo hhi]; unfold litCode
  split <;> omega

theorem Lit_Int_IntToLit (i : BitVec 32) (h : LitRange i) : Lit_Int (IntToLit i) = i := by
  have hnn := (IntToLit_nonneg i h).1
  obtain ⟨h0, hlo, hhi⟩ := h
  apply BitVec.toInt_inj.mp
  rw [toInt_Lit_Int _ hnn, toInt_IntToLit i h0 hlo hhi]
  exact litDecode_litCode _

/-- `toInt_IntToLit` with `litCode` written out -/
theorem IntToLit_toInt (i : BitVec 32) (h : LitRange i) :
    (IntToLit i).toInt = if i.toInt > 0 then 2 * (i.toInt - 1) else 2 * (-i.toInt - 1) + 1 := by
  rw [toInt_IntToLit i h.1 h.2.1 h.2.2]; rfl

theorem IntToLit_injective (i j : BitVec 32) (h : IntToLit i = IntToLit j) : i = j := by
  have hi := toInt_bounds i; have hj := toInt_bounds j
  -- the parity of the code gives the sign; codes of one sign are less than 2^32 apart
  have s : i.toInt < 0 ↔ j.toInt < 0 := by rw [← IntToLit_odd_iff, ← IntToLit_odd_iff, h]
  have hN := congrArg BitVec.toInt h
  rw [toInt_IntToLit_bmod, toInt_IntToLit_bmod] at hN
  apply BitVec.toInt_inj.mp
  by_cases si : i.toInt < 0
  · rw [if_pos si, if_pos (s.mp si)] at hN
    have := bmod32_inj hN (by omega) (by omega)
    omega
  · rw [if_neg si, if_neg (mt s.mpr si)] at hN
    have := bmod32_inj hN (by omega) (by omega)
    omega

/-- the Go `abs` is `BitVec.abs`, at every width -/
theorem toInt_ite_slt_zero {w} (x : BitVec w) (h : x ≠ BitVec.intMin w) :
    (if BitVec.slt x 0#w then -x else x).toInt = x.toInt.natAbs := by
  rw [BitVec.slt_zero_eq_msb]; exact BitVec.toInt_abs_eq_natAbs_of_ne_intMin h

theorem ne_intMin {w} {x : BitVec w} (h : (BitVec.intMin w).toInt < x.toInt) : x ≠ BitVec.intMin w :=
  fun e => Int.lt_irrefl _ (e ▸ h)

theorem toInt_abs32 (i : BitVec 32) (h : -2^31 < i.toInt) : (abs32 i).toInt = i.toInt.natAbs :=
  toInt_ite_slt_zero i (ne_intMin h)

theorem Lit_Var_IntToLit (i : BitVec 32) (h : LitRange i) : Lit_Var (IntToLit i) = IntToVar (abs32 i) := by
  have hnn := (IntToLit_nonneg i h).1
  obtain ⟨h0, hlo, hhi⟩ := h
  have habs := toInt_abs32 i (by omega)
  apply BitVec.toInt_inj.mp
  rw [toInt_Lit_Var _ hnn, toInt_IntToLit i h0 hlo hhi, toInt_IntToVar _ (by omega), habs,
    ← litCode_var _ (toInt_ne_zero h0)]
  omega

/-- holds for every `i ≠ 0` (also outside the range: wrap-around keeps the parity) -/
theorem Lit_IsPositive_IntToLit (i : BitVec 32) (h0 : i ≠ 0#32) :
    Lit_IsPositive (IntToLit i) = true ↔ 0 < i.toInt := by
  have hne := toInt_ne_zero h0
  have := IntToLit_odd_iff i
  rw [Lit_IsPositive_eq, decide_eq_true_eq]; omega

/-- at `i = 2^30+1`, `2*(i-1)` overflows: the code is `-2^31` and decodes to `-2^30+1` -/
theorem roundtrip_fails_above :
    IntToLit 1073741825#32 = BitVec.intMin 32 ∧ (IntToLit 1073741825#32).toInt = -2147483648 ∧
    (Lit_Int (IntToLit 1073741825#32)).toInt = -1073741823 := by decide
/-- at `i = -2^30-1` the code is `-2^31+1` and decodes to `2^30-1` … with the wrong sign -/
theorem roundtrip_fails_below :
    (IntToLit (BitVec.ofInt 32 (-1073741825))).toInt = -2147483647 ∧
    (Lit_Int (IntToLit (BitVec.ofInt 32 (-1073741825)))).toInt = 1073741822 := by decide
/-- at `-2^31`, `-i` wraps to itself: the code is `-1` (all bits set) -/
theorem IntToLit_minInt : (IntToLit (BitVec.intMin 32)).toInt = -1 ∧
    (Lit_Int (IntToLit (BitVec.intMin 32))).toInt = -1 := by decide
/-- `IntToLit 0 = -2`: a negative code (an index panic later), "positive" -/
theorem IntToLit_zero : (IntToLit 0#32).toInt = -2 ∧ Lit_IsPositive (IntToLit 0#32) = true := by decide
/-- the two ends of the range do round-trip -/
example : LitRange 1073741824#32 ∧ Lit_Int (IntToLit 1073741824#32) = 1073741824#32 := by decide
example : LitRange (BitVec.ofInt 32 (-1073741824)) ∧
    Lit_Int (IntToLit (BitVec.ofInt 32 (-1073741824))) = BitVec.ofInt 32 (-1073741824) := by decide
example : LitRange (BitVec.ofInt 32 (-3)) ∧ IntToLit (BitVec.ofInt 32 (-3)) = 5#32 := by decide

theorem Negation_involution (l : BitVec 32) : Lit_Negation (Lit_Negation l) = l := by
  unfold Lit_Negation; rw [BitVec.xor_assoc]; simp

theorem Negation_IsPositive (l : BitVec 32) : Lit_IsPositive (Lit_Negation l) = !Lit_IsPositive l := by
  rw [Lit_IsPositive_eq, Lit_IsPositive_eq, toInt_Negation_mod, ← decide_not]
  apply decide_eq_decide.mpr; omega

theorem Negation_nonneg {l : BitVec 32} (h : 0 ≤ l.toInt) : 0 ≤ (Lit_Negation l).toInt := by
  have := toInt_Negation_div l; omega

theorem Negation_Var (l : BitVec 32) (h : 0 ≤ l.toInt) : Lit_Var (Lit_Negation l) = Lit_Var l := by
  apply BitVec.toInt_inj.mp
  rw [toInt_Lit_Var _ (Negation_nonneg h), toInt_Lit_Var _ h, toInt_Negation_div]

/-- for a negative code the truncated division separates `l` and `l ^ 1` -/
theorem Negation_Var_fails_neg :
    Lit_Var (Lit_Negation (BitVec.ofInt 32 (-1))) ≠ Lit_Var (BitVec.ofInt 32 (-1)) := by decide

theorem Negation_Int (l : BitVec 32) (h : 0 ≤ l.toInt) : Lit_Int (Lit_Negation l) = -Lit_Int l := by
  -- same variable, opposite sign bit
  have hv : BitVec.sdiv (Lit_Negation l) 2#32 = BitVec.sdiv l 2#32 := Negation_Var l h
  have hs : ((Lit_Negation l &&& 1#32) == 1#32) = !((l &&& 1#32) == 1#32) := by
    rw [and_one_eq_one, and_one_eq_one, toInt_Negation_mod, ← decide_not]
    apply decide_eq_decide.mpr; omega
  unfold Lit_Int
  simp only [hv, hs]
  cases (l &&& 1#32) == 1#32
  · rfl
  · exact BitVec.neg_neg.symm

example : Lit_Negation 4#32 = 5#32 ∧ Lit_Int 4#32 = 3#32 ∧ Lit_Int 5#32 = BitVec.ofInt 32 (-3) := by decide

theorem Var_Lit_eq (v : BitVec 32) (h0 : 0 ≤ v.toInt) (h1 : v.toInt < 2^31 - 1) :
    Var_Lit v = IntToLit (v + 1#32) := by
  rw [IntToLit_of_nonneg (by rw [toInt_add_one h1]; omega), BitVec.add_sub_cancel, BitVec.mul_comm, Var_Lit]

theorem Var_SignedLit_eq (v : BitVec 32) (b : Bool) (h0 : 0 ≤ v.toInt) (h1 : v.toInt < 2^31 - 1) :
    Var_SignedLit v b = IntToLit (if b then -(v + 1#32) else v + 1#32) := by
  cases b
  · exact Var_Lit_eq v h0 h1
  · have hn : (-(v + 1#32)).toInt < 0 := by
      rw [BitVec.toInt_neg, toInt_add_one h1, bmod_self (by omega) (by omega)]; omega
    rw [if_pos rfl, IntToLit_of_neg hn, BitVec.neg_neg, BitVec.add_sub_cancel, BitVec.mul_comm]; rfl

theorem Var_Int_IntToVar (i : BitVec 32) : Var_Int (IntToVar i) = i := BitVec.sub_add_cancel i 1#32
theorem IntToVar_Var_Int (v : BitVec 32) : IntToVar (Var_Int v) = v := BitVec.add_sub_cancel v 1#32

theorem Var_Lit_Int (v : BitVec 32) (h0 : 0 ≤ v.toInt) (h1 : v.toInt < 2^30) :
    Lit_Int (Var_Lit v) = Var_Int v ∧ Lit_Var (Var_Lit v) = v := by
  have hv : (v + 1#32).toInt = v.toInt + 1 := toInt_add_one (by omega)
  have hr : LitRange (v + 1#32) :=
    ⟨fun e => by rw [e] at hv; change (0 : Int) = _ at hv; omega, by omega, by omega⟩
  have ha : abs32 (v + 1#32) = v + 1#32 := if_neg (fun hs => by rw [slt_zero_iff] at hs; omega)
  rw [Var_Lit_eq v h0 (by omega)]
  exact ⟨Lit_Int_IntToLit _ hr, (Lit_Var_IntToLit _ hr).trans (ha.symm ▸ IntToVar_Var_Int v)⟩

/-- at `v = 2^30` (variable number 2^30+1) `v*2` overflows -/
theorem Var_Lit_overflow : (Var_Lit 1073741824#32).toInt = -2147483648 := by decide

theorem lbd_setLbd (x : BitVec 32) (n : BitVec 64) (hn : n.toNat < 2^30) : Clause_lbd (Clause_setLbd x n) = n := by
  obtain ⟨a, b, l, rfl⟩ := flagWord_surj x
  rw [Clause_setLbd_flagWord a b l n hn, Clause_lbd_flagWord]
  apply BitVec.eq_of_toNat_eq
  rw [BitVec.toNat_setWidth, BitVec.toNat_setWidth, Nat.mod_eq_of_lt hn, Nat.mod_eq_of_lt n.isLt]

theorem setLbd_keeps_flags (x : BitVec 32) (n : BitVec 64) (hn : n.toNat < 2^30) :
    Clause_Learned (Clause_setLbd x n) = Clause_Learned x ∧
    Clause_isLocked (Clause_setLbd x n) = Clause_isLocked x := by
  obtain ⟨a, b, l, rfl⟩ := flagWord_surj x
  rw [Clause_setLbd_flagWord a b l n hn]
  simp only [Clause_Learned_flagWord, Clause_isLocked_flagWord, and_self]

/-- `setLbd` with `lbd ≥ 2^30` writes into the flag bits (the solver calls `setLbd(1)` only) -/
theorem setLbd_overflow : Clause_isLocked (Clause_setLbd learnedMask 1073741824#64) = true ∧
    Clause_isLocked learnedMask = false := by decide

theorem lock_keeps (x : BitVec 32) :
    Clause_lbd (Clause_lock x) = Clause_lbd x ∧ Clause_Learned (Clause_lock x) = Clause_Learned x := by
  obtain ⟨a, b, l, rfl⟩ := flagWord_surj x
  simp only [Clause_lock_flagWord, Clause_lbd_flagWord, Clause_Learned_flagWord, and_self]

theorem unlock_keeps (x : BitVec 32) :
    Clause_lbd (Clause_unlock x) = Clause_lbd x ∧ Clause_Learned (Clause_unlock x) = Clause_Learned x := by
  obtain ⟨a, b, l, rfl⟩ := flagWord_surj x
  simp only [Clause_unlock_flagWord, Clause_lbd_flagWord, Clause_Learned_flagWord, and_self]

/-- `isLocked` tests BOTH bits: a locked non-learned clause does not report as locked -/
theorem isLocked_lock (x : BitVec 32) : Clause_isLocked (Clause_lock x) = Clause_Learned x := by
  obtain ⟨a, b, l, rfl⟩ := flagWord_surj x
  rw [Clause_lock_flagWord, Clause_isLocked_flagWord, Clause_Learned_flagWord, Bool.and_true]

theorem isLocked_unlock (x : BitVec 32) : Clause_isLocked (Clause_unlock x) = false := by
  obtain ⟨a, b, l, rfl⟩ := flagWord_surj x
  rw [Clause_unlock_flagWord, Clause_isLocked_flagWord, Bool.and_false]

theorem unlock_lock (x : BitVec 32) (h : Clause_isLocked x = false) (hl : Clause_Learned x = true) :
    Clause_unlock (Clause_lock x) = x := by
  obtain ⟨a, b, l, rfl⟩ := flagWord_surj x
  rw [Clause_Learned_flagWord] at hl
  rw [Clause_isLocked_flagWord, hl, Bool.true_and] at h
  rw [Clause_lock_flagWord, Clause_unlock_flagWord, h]

theorem incLbd_keeps (x : BitVec 32) (h : (Clause_lbd x).toNat ≠ 2^30 - 1) :
    Clause_lbd (Clause_incLbd x) = Clause_lbd x + 1#64 ∧
    Clause_Learned (Clause_incLbd x) = Clause_Learned x ∧
    Clause_isLocked (Clause_incLbd x) = Clause_isLocked x := by
  obtain ⟨a, b, l, rfl⟩ := flagWord_surj x
  have hl : l.toNat < 2^64 := Nat.lt_trans l.isLt (by decide)
  rw [Clause_lbd_flagWord, BitVec.toNat_setWidth, Nat.mod_eq_of_lt hl] at h
  rw [Clause_incLbd_flagWord a b l h]
  simp only [Clause_lbd_flagWord, Clause_Learned_flagWord, Clause_isLocked_flagWord, and_self, and_true]
  -- no carry in the 30-bit field, none in 64 bits
  have h1 : l.toNat + 1 < 2^30 := by have := l.isLt; omega
  apply BitVec.eq_of_toNat_eq
  rw [BitVec.toNat_add, BitVec.toNat_setWidth, BitVec.toNat_setWidth, BitVec.toNat_add]
  change (_ + 1) % _ % _ = (_ + 1) % _
  rw [Nat.mod_eq_of_lt h1, Nat.mod_eq_of_lt hl]

/-- at lbd = 2^30-1 the increment carries into bit 30: a learned unlocked clause becomes locked with
lbd 0.  Not reachable in the solver: `incLbd` is called at most once per literal of the clause
(`learn.go`, `computeLbd`), and a clause has fewer than 2^30 literals of distinct levels. -/
theorem incLbd_overflow :
    let x : BitVec 32 := learnedMask ||| 1073741823#32
    Clause_isLocked x = false ∧ (Clause_lbd x).toNat = 2^30 - 1 ∧
    Clause_isLocked (Clause_incLbd x) = true ∧ Clause_lbd (Clause_incLbd x) = 0#64 := by decide

theorem Cardinality_nonlearned (x : BitVec 32) (h : Clause_Learned x = false) :
    Clause_Cardinality x = Clause_lbd x + 1#64 := by
  unfold Clause_Cardinality Clause_lbd; simp [h]

theorem Cardinality_learned (x : BitVec 32) (h : Clause_Learned x = true) : Clause_Cardinality x = 1#64 := by
  unfold Clause_Cardinality; simp [h]

/-- `NewCardClause(lits, card)` stores `uint32(card-1)`: for `1 ≤ card ≤ 2^30` the cardinality reads back -/
theorem Cardinality_of_card (card : BitVec 64) (h1 : 1 ≤ card.toNat) (h2 : card.toNat ≤ 2^30) :
    Clause_Cardinality (BitVec.setWidth 32 (card - 1#64)) = card := by
  have hle : 1#64 ≤ card := BitVec.le_def.mpr h1
  have hc : (card - 1#64).toNat < 2^30 := by
    rw [BitVec.toNat_sub_of_le hle]; change card.toNat - 1 < _; omega
  -- storing `card - 1` is `setLbd (card - 1)` on the empty word
  have e : BitVec.setWidth 32 (card - 1#64) = Clause_setLbd 0#32 (card - 1#64) := by
    rw [Clause_setLbd, BitVec.zero_and, BitVec.zero_or]
  rw [e, Cardinality_nonlearned _ ((setLbd_keeps_flags _ _ hc).1.trans (by decide)), lbd_setLbd _ _ hc,
    BitVec.sub_add_cancel]

/-- a cardinality above 2^30 is silently misread (2^31+1 literals would be needed: not reachable) -/
theorem Cardinality_overflow : Clause_Cardinality (BitVec.setWidth 32 (2147483649#64 - 1#64)) = 1#64 := by decide

example : Clause_lbd (Clause_setLbd learnedMask 7#64) = 7#64 ∧ Clause_Learned (Clause_setLbd learnedMask 7#64) = true := by decide
example : Clause_isLocked (Clause_lock learnedMask) = true ∧ Clause_isLocked (Clause_lock 2#32) = false := by decide
example : Clause_Cardinality 2#32 = 3#64 := by decide

/-- hand mirror of the test in `Solver.litStatus`: `assign > 0 == l.IsPositive()` (with `assign ≠ 0`) -/
def litStatusSat (assign : BitVec 64) (l : BitVec 32) : Bool := (BitVec.slt 0#64 assign) == Lit_IsPositive l

/-- a literal bound at level `lvl > 0` is Sat, its negation is Unsat, and `abs` gives the level back -/
theorem lvlToSignedLvl_spec (l : BitVec 32) (lvl : BitVec 64) (h : 0 < lvl.toInt) :
    lvlToSignedLvl l lvl ≠ 0#64 ∧
    litStatusSat (lvlToSignedLvl l lvl) l = true ∧
    litStatusSat (lvlToSignedLvl l lvl) (Lit_Negation l) = false ∧
    abs_decLevel (lvlToSignedLvl l lvl) = lvl := by
  have hn : (-lvl).toInt = -lvl.toInt := BitVec.toInt_neg_of_ne_intMin (ne_intMin (Int.lt_trans (by decide) h))
  have hnz : lvl ≠ 0#64 := fun e => by rw [e] at h; exact absurd h (by decide)
  -- the signed level is `lvl > 0` for a positive literal, `-lvl < 0` for a negative one
  have hp : BitVec.slt 0#64 lvl = true ∧ BitVec.slt lvl 0#64 = false := by
    simp only [BitVec.slt_eq_decide, BitVec.toInt_zero, decide_eq_true_eq, decide_eq_false_iff_not]; omega
  have hm : BitVec.slt 0#64 (-lvl) = false ∧ BitVec.slt (-lvl) 0#64 = true := by
    simp only [BitVec.slt_eq_decide, BitVec.toInt_zero, hn, decide_eq_true_eq, decide_eq_false_iff_not]; omega
  unfold lvlToSignedLvl litStatusSat abs_decLevel
  rw [Negation_IsPositive]
  cases Lit_IsPositive l
  · simp only [Bool.false_eq_true, if_false, hm.1, hm.2, if_true, Bool.not_false]
    exact ⟨fun e => hnz (BitVec.neg_eq_zero_iff.mp e), rfl, rfl, BitVec.neg_neg⟩
  · simp only [if_true, hp.1, hp.2, Bool.not_true, Bool.false_eq_true, if_false]
    exact ⟨hnz, rfl, rfl, trivial⟩

example : lvlToSignedLvl 5#32 3#64 = BitVec.ofInt 64 (-3) ∧ litStatusSat (BitVec.ofInt 64 (-3)) 5#32 = true := by decide

/-- `abs` of the minimum is the minimum (negative); decision levels never get there -/
theorem abs_minInt : abs_decLevel (BitVec.intMin 64) = BitVec.intMin 64 ∧ abs_int (BitVec.intMin 64) = BitVec.intMin 64 := by decide

theorem abs_nonneg (x : BitVec 64) (h : x ≠ BitVec.intMin 64) :
    0 ≤ (abs_decLevel x).toInt ∧ (abs_decLevel x).toInt = x.toInt.natAbs ∧ abs_int x = abs_decLevel x := by
  have ha : (abs_decLevel x).toInt = x.toInt.natAbs := toInt_ite_slt_zero x h
  exact ⟨ha ▸ Int.natCast_nonneg _, ha, rfl⟩

theorem min_int_spec (a b : BitVec 64) : (min_int a b).toInt = min a.toInt b.toInt := by
  unfold min_int; simp only [BitVec.slt_eq_decide, decide_eq_true_eq]; split <;> omega

/-! ## heap index arithmetic (`queue.go`), Go `int` = 64 bits -/

theorem toInt_left (i : BitVec 64) (h0 : 0 ≤ i.toInt) (h1 : i.toInt < 2^62) : (left i).toInt = 2 * i.toInt + 1 := by
  rw [left, BitVec.toInt_add, BitVec.toInt_mul, Int.bmod_add_bmod]
  change (i.toInt * 2 + 1).bmod _ = _
  rw [bmod_self (by omega) (by omega)]; omega

theorem toInt_right (i : BitVec 64) (h0 : 0 ≤ i.toInt) (h1 : i.toInt < 2^62 - 1) : (right i).toInt = 2 * i.toInt + 2 := by
  rw [right, BitVec.toInt_mul, BitVec.toInt_add, Int.bmod_mul_bmod]
  change ((i.toInt + 1) * 2).bmod _ = _
  rw [bmod_self (by omega) (by omega)]; omega

theorem toInt_parent (i : BitVec 64) (h : -2^63 < i.toInt) : (parent i).toInt = (i.toInt - 1) / 2 := by
  have hb := toInt_bounds i
  rw [parent, BitVec.toInt_sshiftRight, BitVec.toInt_sub, Int.shiftRight_eq_div_pow,
    show (1#64).toInt = 1 from rfl, bmod_self (by omega) (by omega)]; rfl

theorem parent_left (i : BitVec 64) (h0 : 0 ≤ i.toInt) (h1 : i.toInt < 2^62) : parent (left i) = i := by
  apply BitVec.toInt_inj.mp
  have := toInt_left i h0 h1
  rw [toInt_parent _ (by omega), this]; omega

theorem parent_right (i : BitVec 64) (h0 : 0 ≤ i.toInt) (h1 : i.toInt < 2^62 - 1) : parent (right i) = i := by
  apply BitVec.toInt_inj.mp
  have := toInt_right i h0 h1
  rw [toInt_parent _ (by omega), this]; omega

theorem left_lt_right (i : BitVec 64) (h0 : 0 ≤ i.toInt) (h1 : i.toInt < 2^62 - 1) :
    BitVec.slt (left i) (right i) = true ∧ BitVec.slt i (left i) = true := by
  have := toInt_left i h0 (by omega); have := toInt_right i h0 h1
  simp only [BitVec.slt_eq_decide, decide_eq_true_eq]; omega

/-- at `i = 2^62-1`, `right i = 2^63` wraps to the minimum: `left i < right i` fails
(`parent (right i) = i` still holds there, by a second wrap-around) -/
theorem left_lt_right_fails :
    BitVec.slt (left 4611686018427387903#64) (right 4611686018427387903#64) = false ∧
    parent (right 4611686018427387903#64) = 4611686018427387903#64 := by decide

/-- `parent 0 = -1`: `percolateUp` must (and does) stop at the root before using it -/
theorem parent_zero : (parent 0#64).toInt = -1 := by decide

example : left 3#64 = 7#64 ∧ right 3#64 = 8#64 ∧ parent 7#64 = 3#64 ∧ parent 8#64 = 3#64 := by decide

#print axioms IntToLit_nonneg
#print axioms Lit_Int_IntToLit
#print axioms IntToLit_toInt
#print axioms IntToLit_injective
#print axioms Lit_Var_IntToLit
#print axioms Lit_IsPositive_IntToLit
#print axioms roundtrip_fails_above
#print axioms roundtrip_fails_below
#print axioms IntToLit_minInt
#print axioms IntToLit_zero
#print axioms Negation_involution
#print axioms Negation_IsPositive
#print axioms Negation_Var
#print axioms Negation_Var_fails_neg
#print axioms Negation_Int
#print axioms Var_Lit_eq
#print axioms Var_SignedLit_eq
#print axioms Var_Int_IntToVar
#print axioms IntToVar_Var_Int
#print axioms Var_Lit_Int
#print axioms Var_Lit_overflow
#print axioms lbd_setLbd
#print axioms setLbd_keeps_flags
#print axioms setLbd_overflow
#print axioms lock_keeps
#print axioms unlock_keeps
#print axioms isLocked_lock
#print axioms isLocked_unlock
#print axioms unlock_lock
#print axioms incLbd_keeps
#print axioms incLbd_overflow
#print axioms Cardinality_nonlearned
#print axioms Cardinality_learned
#print axioms Cardinality_of_card
#print axioms Cardinality_overflow
#print axioms lvlToSignedLvl_spec
#print axioms abs_minInt
#print axioms abs_nonneg
#print axioms min_int_spec
#print axioms toInt_left
#print axioms toInt_right
#print axioms toInt_parent
#print axioms parent_left
#print axioms parent_right
#print axioms left_lt_right
#print axioms left_lt_right_fails
#print axioms parent_zero

end GS.Props.C01IntCode
