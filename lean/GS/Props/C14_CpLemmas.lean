import GS.Model.CpAnalyze
import GS.Props.C14_Learned
/-!
# C14 — what the loop invariant of `cuttingPlanes` rests on

What `roundToOne` does at the variable rounded on and to the signs elsewhere (`round_locked`,
`round_sign`, `round_falsifies`), so that the clash cancels that variable (`clash_cancel`); the
executable `trailOk` unpacked into `EntryOk`; and what a well-formed trail says of its model
(`modelAt_mem`, `modelOfR_notin`, `modelOfR_pop`; `TrailModel` for a model carried beside its trail).
-/
namespace GS.Cp
open GS

theorem clauseTerms_eq (k : Nat) (ws : List Int) : clauseTerms k ws = PbSet.termsFrom k ws := by
  induction ws generalizing k with
  | nil => rfl
  | cons w ws ih => simp only [clauseTerms, PbSet.termsFrom, ih]

theorem clauseTerms_pos {k : Nat} {ws : List Int} {t : Int × Int} (h : t ∈ clauseTerms k ws) : 0 < t.1 :=
  termsFrom_weight_pos k ws t (clauseTerms_eq k ws ▸ h)

theorem insTerm_perm (t : Int × Int) (us : List (Int × Int)) : (insTerm t us).Perm (t :: us) := by
  induction us with
  | nil => exact List.Perm.refl _
  | cons u us ih =>
    simp only [insTerm]
    split
    · exact List.Perm.refl _
    · exact (List.Perm.cons u ih).trans (List.Perm.swap t u us)

theorem sortTerms_perm (ts : List (Int × Int)) : (sortTerms ts).Perm ts := by
  induction ts with
  | nil => exact List.Perm.refl _
  | cons t ts ih =>
    show (insTerm t (sortTerms ts)).Perm (t :: ts)
    exact (insTerm_perm t _).trans (List.Perm.cons t ih)

theorem freeSumB_eq (m : List Int) (excl : Nat → Bool) (j : Nat) (ws : List Int) :
    freeSumB m excl j ws = freeSum m excl j ws := by
  induction ws generalizing j with
  | nil => rfl
  | cons w ws ih =>
    simp only [freeSumB, freeSum, nonFalsified, ih]
    congr 1

theorem pbWeights_length (n : Nat) (ts : List (Int × Int)) : (pbWeights n ts).length = n := by
  induction ts with
  | nil => simp [pbWeights]
  | cons t ts ih => simp [pbWeights, ih]

theorem pbOf_length (n : Nat) (c : Lin) : (pbOf n c).weights.length = n := pbWeights_length n _

theorem modelOfR_length (n : Nat) (rt : List Entry) : (modelOfR n rt).length = n := by
  induction rt with
  | nil => simp [modelOfR]
  | cons e rt ih => simp [modelOfR, ih]

theorem weakenFrom_getD (m : List Int) (wi : Int) (j : Nat) (ws : List Int) (i : Nat) :
    (weakenFrom m wi j ws).1.getD i 0 = weakenW m wi (j+i) (ws.getD i 0) := by
  rw [weakenFrom_eq]; exact getD_mapPos (weakenW_zero m wi) ws j i

theorem divW_iabs_self (w : Int) (hw : w ≠ 0) : iabs (divW (iabs w) w) = 1 := by
  have hm := tmod_iabs_self w
  unfold divW
  rw [if_neg hw, if_pos hm]
  unfold iabs
  by_cases h : w < 0
  · simp only [if_pos h]
    rw [Int.tdiv_neg, Int.tdiv_self hw]; decide
  · simp only [if_neg h]
    rw [Int.tdiv_self hw]; decide

theorem round_locked (p q : PbSet) (m : List Int) (locked : Nat)
    (hq : PbSet.roundToOne p m locked = some q) : iabs (q.weights.getD locked 0) = 1 := by
  rcases roundToOne_some hq with ⟨h1, rfl⟩ | ⟨_, hpos, rfl⟩
  · exact h1
  · have hw : p.weights.getD locked 0 ≠ 0 := by
      intro h; rw [h] at hpos; exact absurd hpos (by decide)
    simp only [PbSet.divideBy]
    rw [getD_map_divW, weakenFrom_getD, weakenW, if_neg]
    · exact divW_iabs_self _ hw
    · intro hc; exact hc.2.1 (tmod_iabs_self _)

theorem roundToOne_isSome (p : PbSet) (m : List Int) (v : Nat) (h : p.weights.getD v 0 ≠ 0) :
    ∃ q, p.roundToOne m v = some q := by
  rw [roundToOne_eq]
  by_cases h1 : iabs (p.weights.getD v 0) = 1
  · exact ⟨p, by rw [if_pos h1]⟩
  · have h0 : iabs (p.weights.getD v 0) ≠ 0 := fun h' => h (iabs_eq_zero h')
    exact ⟨_, by rw [if_neg h1, if_neg h0]⟩

theorem falsifies_iff {ws : List Int} {l : Int} :
    falsifies ws l = true ↔ ws.getD (varIdx l) 0 ≠ 0 ∧ (ws.getD (varIdx l) 0 < 0 ↔ l > 0) := by
  unfold falsifies
  generalize ws.getD (varIdx l) 0 = w
  by_cases hw : w = 0 <;> simp [hw]

theorem round_sign (p q : PbSet) (m : List Int) (v : Nat) (hq : p.roundToOne m v = some q)
    (j : Nat) :
    (0 < q.weights.getD j 0 → 0 < p.weights.getD j 0) ∧
    (q.weights.getD j 0 < 0 → p.weights.getD j 0 < 0) := by
  rcases roundToOne_some hq with ⟨_, rfl⟩ | ⟨_, hpos, rfl⟩
  · exact ⟨id, id⟩
  · simp only [PbSet.divideBy]
    rw [getD_map_divW, weakenFrom_getD, weakenW]
    by_cases hc : weakenCond m (iabs (p.weights.getD v 0)) (0 + j) (p.weights.getD j 0)
    · rw [if_pos hc]
      rw [divW_zero]; constructor <;> intro h <;> omega
    · rw [if_neg hc]
      have := divW_sign hpos (p.weights.getD j 0)
      constructor <;> intro h <;> omega

theorem ne_zero_of_iabs_one {x : Int} (h : iabs x = 1) : x ≠ 0 := by
  intro h0; rw [h0] at h; exact absurd h (by decide)

theorem round_sign_at (p q : PbSet) (m : List Int) (v : Nat) (hq : p.roundToOne m v = some q) :
    (q.weights.getD v 0 < 0 ↔ p.weights.getD v 0 < 0) ∧
    (0 < q.weights.getD v 0 ↔ 0 < p.weights.getD v 0) := by
  have h1 := round_locked p q m v hq
  obtain ⟨s1, s2⟩ := round_sign p q m v hq v
  unfold iabs at h1
  omega

theorem round_falsifies (p q : PbSet) (m : List Int) (l : Int)
    (hq : p.roundToOne m (varIdx l) = some q) (hf : falsifies p.weights l = true) :
    falsifies q.weights l = true :=
  falsifies_iff.mpr ⟨ne_zero_of_iabs_one (round_locked p q m _ hq),
    (round_sign_at p q m _ hq).1.trans (falsifies_iff.mp hf).2⟩

theorem getD_zipWith_add (l1 l2 : List Int) (h : l1.length = l2.length) (i : Nat) :
    (List.zipWith (· + ·) l1 l2).getD i 0 = l1.getD i 0 + l2.getD i 0 := by
  simp only [List.getD_eq_getElem?_getD, List.getElem?_zipWith]
  by_cases hi : i < l1.length
  · rw [List.getElem?_eq_getElem hi, List.getElem?_eq_getElem (h ▸ hi)]; rfl
  · rw [List.getElem?_eq_none (by omega), List.getElem?_eq_none (by omega)]; rfl

theorem clash_cancel {p1 p2 : PbSet} {v : Nat} (hlen : p1.weights.length = p2.weights.length)
    (h1 : iabs (p1.weights.getD v 0) = 1) (h2 : iabs (p2.weights.getD v 0) = 1)
    (hs : p1.weights.getD v 0 < 0 ↔ 0 < p2.weights.getD v 0) :
    (p1.clash p2).weights.getD v 0 = 0 := by
  simp only [PbSet.clash]
  rw [getD_zipWith_add _ _ hlen]
  unfold iabs at h1 h2
  omega

theorem set_zero_self (l : List Int) (v : Nat) (h : l.getD v 0 = 0) : l.set v 0 = l := by
  by_cases hv : v < l.length
  · rw [List.getD_eq_getElem?_getD, List.getElem?_eq_getElem hv, Option.getD_some] at h
    exact set_eq_self (by rw [List.getElem?_eq_getElem hv, h])
  · exact List.set_eq_of_length_le (Nat.le_of_not_lt hv)

theorem modelOfR_notin (n : Nat) (rest : List Entry) (v : Nat)
    (h : ∀ e' ∈ rest, varIdx e'.lit ≠ v) : modelAt (modelOfR n rest) v = 0 := by
  induction rest with
  | nil =>
    simp only [modelOfR, modelAt, List.getD_eq_getElem?_getD, List.getElem?_replicate]
    split <;> rfl
  | cons e rest ih =>
    simp only [modelOfR]
    rw [modelAt_set_ne _ _ _ _ (fun h' => h e (by simp) h'.symm)]
    exact ih (fun e' he' => h e' (by simp [he']))

theorem modelOfR_head {n : Nat} {e : Entry} (rest : List Entry) (h : varIdx e.lit < n) :
    modelAt (modelOfR n (e :: rest)) (varIdx e.lit) = signedLvl e :=
  modelAt_set_self _ _ _ (by rw [modelOfR_length]; exact h)

theorem modelOfR_pop (n : Nat) (e : Entry) (rest : List Entry)
    (h : ∀ e' ∈ rest, varIdx e'.lit ≠ varIdx e.lit) :
    (modelOfR n (e :: rest)).set (varIdx e.lit) 0 = modelOfR n rest := by
  simp only [modelOfR, List.set_set]
  exact set_zero_self _ _ (modelOfR_notin n rest _ h)

structure EntryOk (n : Nat) (prob : List PbSet) (e : Entry) (rest : List Entry) : Prop where
  lit0 : e.lit ≠ 0
  litn : varIdx e.lit < n
  dist : ∀ e' ∈ rest, varIdx e'.lit ≠ varIdx e.lit
  lev1 : 1 ≤ e.level
  mono : ∀ e' ∈ rest, e'.level ≤ e.level
  fact : e.reason = none → e.level = 1 → unitPb n e.lit ∈ prob
  rmem : ∀ r, e.reason = some r → pbOf n r ∈ prob
  rsign : ∀ r, e.reason = some r → (pbOf n r).weights.getD (varIdx e.lit) 0 ≠ 0 ∧
    (0 < (pbOf n r).weights.getD (varIdx e.lit) 0 ↔ 0 < e.lit)
  rprop : ∀ r, e.reason = some r →
    freeSum (modelOfR n rest) (fun i => i == varIdx e.lit) 0 (pbOf n r).weights < r.degree

theorem entryOk_spec {n : Nat} {prob : List PbSet} {e : Entry} {rest : List Entry}
    (h : entryOk n prob e rest = true) : EntryOk n prob e rest := by
  unfold entryOk litOkB at h
  simp only [Bool.and_eq_true, List.all_eq_true, decide_eq_true_eq, bne_iff_ne, ne_eq] at h
  obtain ⟨⟨⟨⟨⟨h1, h2⟩, h3⟩, h4⟩, h5⟩, h6⟩ := h
  cases hr : e.reason with
  | none =>
    rw [hr] at h6
    refine ⟨h1, h2, h3, h4, h5, ?_, (by intro r h; rw [hr] at h; cases h), (by intro r h; rw [hr] at h; cases h), (by intro r h; rw [hr] at h; cases h)⟩
    intro _ hl
    simp only [Bool.or_eq_true, bne_iff_ne, ne_eq, List.contains_iff_mem] at h6
    rcases h6 with h6 | h6
    · exact absurd hl h6
    · exact h6
  | some r =>
    rw [hr] at h6
    simp only [Bool.and_eq_true, List.contains_iff_mem, decide_eq_true_eq, beq_iff_eq,
      decide_eq_decide, freeSumB_eq] at h6
    obtain ⟨⟨h61, h62, h63⟩, h64⟩ := h6
    refine ⟨h1, h2, h3, h4, h5, (by intro h; rw [hr] at h; cases h), ?_, ?_, ?_⟩
    · intro r' hr'; rw [hr] at hr'; cases hr'; exact h61
    · intro r' hr'; rw [hr] at hr'; cases hr'; exact ⟨h62, h63⟩
    · intro r' hr'; rw [hr] at hr'; cases hr'; exact h64

theorem trailOk_cons {n : Nat} {prob : List PbSet} {e : Entry} {rest : List Entry}
    (h : trailOk n prob (e :: rest) = true) : EntryOk n prob e rest ∧ trailOk n prob rest = true := by
  simp only [trailOk, Bool.and_eq_true] at h
  exact ⟨entryOk_spec h.1, h.2⟩

theorem signedLvl_pos (e : Entry) (h : 1 ≤ e.level) : 0 < signedLvl e ↔ 0 < e.lit := by
  unfold signedLvl
  by_cases hl : e.lit > 0
  · rw [if_pos hl]; constructor <;> intro <;> omega
  · rw [if_neg hl]; constructor <;> intro <;> omega

theorem iabs_signedLvl (e : Entry) : iabs (signedLvl e) = (e.level : Int) := by
  unfold signedLvl iabs; split <;> split <;> omega

theorem notFalsifies_nonFalsified (ws : List Int) (m : List Int) (e : Entry) (h1 : 1 ≤ e.level)
    (hm : modelAt m (varIdx e.lit) = signedLvl e) (hf : falsifies ws e.lit = false) :
    ws.getD (varIdx e.lit) 0 = 0 ∨ nonFalsified m (varIdx e.lit) (ws.getD (varIdx e.lit) 0) := by
  unfold falsifies at hf
  by_cases hw : ws.getD (varIdx e.lit) 0 = 0
  · exact Or.inl hw
  · right
    simp only [hw, if_false, beq_eq_false_iff_ne, ne_eq, decide_eq_decide] at hf
    unfold nonFalsified
    right
    rw [hm]
    simp only [gt_iff_lt, decide_eq_decide, signedLvl_pos e h1]
    constructor <;> intro <;> omega

theorem modelAt_mem {n : Nat} {prob : List PbSet} {sub rt : List Entry} (hs : sub.Sublist rt)
    (hok : trailOk n prob rt = true) (e : Entry) (he : e ∈ sub) :
    modelAt (modelOfR n sub) (varIdx e.lit) = signedLvl e := by
  induction hs with
  | slnil => cases he
  | cons _ _ ih => exact ih (trailOk_cons hok).2 he
  | cons_cons x hs ih =>
    obtain ⟨hx, hrest⟩ := trailOk_cons hok
    rcases List.mem_cons.mp he with rfl | he
    · exact modelOfR_head _ hx.litn
    · exact (modelAt_set_ne _ _ _ _ (hx.dist e (hs.subset he))).trans (ih hrest he)

theorem trailOk_suffix {n : Nat} {prob : List PbSet} :
    ∀ (xs : List Entry) {ys : List Entry}, trailOk n prob (xs ++ ys) = true → trailOk n prob ys = true
  | [], _, h => h
  | _ :: xs, _, h => trailOk_suffix xs (trailOk_cons h).2

theorem trailOk_mem {n : Nat} {prob : List PbSet} {rt : List Entry} {e : Entry}
    (h : trailOk n prob rt = true) (he : e ∈ rt) : ∃ below, EntryOk n prob e below := by
  obtain ⟨above, below, rfl⟩ := List.append_of_mem he
  exact ⟨below, (trailOk_cons (trailOk_suffix above h)).1⟩

theorem trailOk_lev1 {n : Nat} {prob : List PbSet} {rt : List Entry}
    (h : trailOk n prob rt = true) (e : Entry) (he : e ∈ rt) : 1 ≤ e.level :=
  let ⟨_, ok⟩ := trailOk_mem h he
  ok.lev1

/-- `m` is the model of the well-formed trail `rt`: the part of the loop invariant of `cuttingPlanes` that
    does not mention the resolvent -/
structure TrailModel (n : Nat) (prob : List PbSet) (m : List Int) (rt : List Entry) : Prop where
  model : m = modelOfR n rt
  trail : trailOk n prob rt = true

namespace TrailModel
variable {n : Nat} {prob : List PbSet} {m : List Int} {rt : List Entry}

theorem modelAt_lit (T : TrailModel n prob m rt) {e : Entry} (he : e ∈ rt) :
    modelAt m (varIdx e.lit) = signedLvl e := by
  rw [T.model]; exact modelAt_mem (List.Sublist.refl _) T.trail e he

theorem lookup (T : TrailModel n prob m rt) {i : Nat} (h : modelAt m i ≠ 0) :
    ∃ e ∈ rt, varIdx e.lit = i ∧ modelAt m i = signedLvl e := by
  apply Classical.byContradiction
  intro hn
  apply h
  rw [T.model]
  exact modelOfR_notin n rt i fun e he hv => hn ⟨e, he, hv, hv ▸ T.modelAt_lit he⟩

/-- a position of `ws` counts towards the free weight unless the trail literal on it falsifies `ws` -/
theorem counted_or (T : TrailModel n prob m rt) (ws : List Int) (i : Nat) :
    (ws.getD i 0 = 0 ∨ nonFalsified m i (ws.getD i 0)) ∨
      ∃ e ∈ rt, varIdx e.lit = i ∧ falsifies ws e.lit = true := by
  by_cases h0 : modelAt m i = 0
  · exact Or.inl (Or.inr (Or.inl h0))
  · obtain ⟨e, he, hv, _⟩ := T.lookup h0
    cases hfe : falsifies ws e.lit with
    | true => exact Or.inr ⟨e, he, hv, hfe⟩
    | false =>
      exact Or.inl (hv ▸ notFalsifies_nonFalsified ws m e (trailOk_lev1 T.trail e he) (T.modelAt_lit he) hfe)

end TrailModel

theorem trailOk_levels {n : Nat} {prob : List PbSet} : ∀ {rt : List Entry}, trailOk n prob rt = true →
    rt.Pairwise (fun y b => b.level ≤ y.level)
  | [], _ => List.Pairwise.nil
  | _ :: _, h => by
    obtain ⟨he, hr⟩ := trailOk_cons h
    exact List.pairwise_cons.mpr ⟨he.mono, trailOk_levels hr⟩

end GS.Cp
