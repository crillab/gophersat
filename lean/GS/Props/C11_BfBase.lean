import GS.Model.BfBase
/-!
# C11 (formula side, part 1): `Eval` of the builders `Implies`, `Eq`, `Xor`, `uniqueSmall`,
`Unique` and of `unique.negation()`; the syntactic classes of formulas used by the other files.

`F` is a tree with lists of children: the list-level functions are `List.all` / `List.any` of the
formula-level ones (`evalAll_eq`, `allKs_eq`, …) and a property of formulas is proved by `F.ind`
(`∀ f ∈ fs, P f` for the children). `Leafwise Q` (`allK p`, `noU`): what holds of the variables a
builder is given holds of the formula it builds.
-/
namespace GS.Bf

theorem evalAll_eq (m) : ∀ fs : List F, evalAll m fs = fs.all (eval m)
  | [] => rfl
  | f :: fs => by rw [evalAll, List.all_cons, evalAll_eq m fs]

theorem evalAny_eq (m) : ∀ fs : List F, evalAny m fs = fs.any (eval m)
  | [] => rfl
  | f :: fs => by rw [evalAny, List.any_cons, evalAny_eq m fs]

theorem evalAll_append (m) (xs ys : List F) : evalAll m (xs ++ ys) = (evalAll m xs && evalAll m ys) := by
  simp only [evalAll_eq, List.all_append]

theorem evalAny_append (m) (xs ys : List F) : evalAny m (xs ++ ys) = (evalAny m xs || evalAny m ys) := by
  simp only [evalAny_eq, List.any_append]

theorem implies_eval (m) (a b : F) : eval m (implies a b) = (!eval m a || eval m b) := by
  simp [implies, eval, evalAny]

theorem eq_eval (m) (a b : F) : eval m (eq a b) = (eval m a == eval m b) := by
  cases ha : eval m a <;> cases hb : eval m b <;> simp [eq, eval, evalAny, evalAll, ha, hb]

theorem xor_eval (m) (a b : F) : eval m (xor a b) = (eval m a != eval m b) := by
  cases ha : eval m a <;> cases hb : eval m b <;> simp [xor, eval, evalAny, evalAll, ha, hb]

theorem evalAll_mapNot (m) (v : F) : ∀ vs : List F,
    evalAll m (vs.map (fun w => F.or [.not v, .not w])) = (!eval m v || !evalAny m vs)
  | [] => by simp [evalAll, evalAny]
  | w :: vs => by
      cases hv : eval m v <;> cases hw : eval m w <;>
        simp [evalAll, evalAny, eval, evalAll_mapNot m v vs, hv, hw]

theorem evalAny_count (m) : ∀ vs : List F, evalAny m vs = decide (1 ≤ countTrue (vs.map (eval m)))
  | [] => by simp [evalAny, countTrue]
  | v :: vs => by
      cases hv : eval m v <;> simp [evalAny, countTrue, evalAny_count m vs, hv]

theorem pairsNot_count (m) : ∀ vs : List F,
    evalAll m (pairsNot vs) = decide (countTrue (vs.map (eval m)) ≤ 1) := by
  intro vs
  induction vs with
  | nil => simp [pairsNot, evalAll, countTrue]
  | cons v vs ih =>
      simp only [pairsNot, evalAll_append, evalAll_mapNot, ih, evalAny_count m vs,
        List.map_cons, countTrue]
      generalize countTrue (vs.map (eval m)) = c
      cases hv : eval m v
      · simp
      · rw [Bool.eq_iff_iff]
        simp only [Bool.not_eq_true', Bool.and_eq_true, decide_eq_true_eq,
          decide_eq_false_iff_not, if_true, Bool.not_true, Bool.false_or]
        omega

theorem uniqueSmallV_eval (m) (vs : List F) :
    eval m (uniqueSmallV vs) = (countTrue (vs.map (eval m)) == 1) := by
  simp only [uniqueSmallV, eval, evalAll, evalAny_count, pairsNot_count]
  generalize countTrue (vs.map (eval m)) = c
  rw [Bool.eq_iff_iff]
  simp only [Bool.and_eq_true, decide_eq_true_eq, beq_iff_eq]
  omega

/-- Exactly one of the listed names is true, counted by position — which is the spec's
    `SF.unique`, *without* a distinctness hypothesis: with a repeated name `x` the Go formula
    contains `or{not x, not x}` and forces `x` false, and so does "exactly one position true"
    (e.g. `Unique("a","a")` is unsatisfiable on both sides). -/
theorem uniqueSmall_eval (m : Key → Bool) (ns : List Nat) :
    eval m (uniqueSmall ns) = (countTrue (ns.map (fun n => m (n, false))) == 1) := by
  simp only [uniqueSmall, uniqueSmallV_eval, List.map_map]
  rfl

/-- `unique.Eval` counts positions: a repeated name that is true counts twice -/
theorem uniqueOf_eval (m : Key → Bool) (ns : List Nat) :
    eval m (uniqueOf ns) = (countTrue (ns.map (fun n => m (n, false))) == 1) := by
  simp only [uniqueOf, eval, List.map_map]
  rfl

theorem evalAny_mapAnd (m) (v : F) : ∀ vs : List F,
    evalAny m (vs.map (fun w => F.and [v, w])) = (eval m v && evalAny m vs)
  | [] => by simp [evalAny]
  | w :: vs => by
      cases hv : eval m v <;> cases hw : eval m w <;>
        simp [evalAll, evalAny, eval, evalAny_mapAnd m v vs, hv, hw]

theorem pairsAnd_count (m) : ∀ vs : List F,
    evalAny m (pairsAnd vs) = decide (2 ≤ countTrue (vs.map (eval m))) := by
  intro vs
  induction vs with
  | nil => simp [pairsAnd, evalAny, countTrue]
  | cons v vs ih =>
      simp only [pairsAnd, evalAny_append, evalAny_mapAnd, ih, evalAny_count m vs,
        List.map_cons, countTrue]
      generalize countTrue (vs.map (eval m)) = c
      cases hv : eval m v
      · simp
      · rw [Bool.eq_iff_iff]
        simp only [Bool.or_eq_true, Bool.and_eq_true, decide_eq_true_eq, if_true, true_and]
        omega

theorem eval_keyVar (m : Key → Bool) (k : Key) : eval m (keyVar k) = m k := rfl

theorem evalAll_mapNotVar (m : Key → Bool) : ∀ ks : List Key,
    evalAll m (ks.map (fun k => F.not (keyVar k))) = decide (countTrue (ks.map m) = 0)
  | [] => by simp [evalAll, countTrue]
  | k :: ks => by
      have ih := evalAll_mapNotVar m ks
      simp only [List.map_cons, evalAll, eval, countTrue, ih, eval_keyVar]
      cases hk : m k <;> simp

theorem map_eval_keyVar (m : Key → Bool) (ks : List Key) : (ks.map keyVar).map (eval m) = ks.map m :=
  List.map_map.trans (List.map_congr_left fun k _ => eval_keyVar m k)

/-- For every list of variables, repeated or not: a repeated variable that is true makes the pair
    `And(x, x)` true, and `unique.Eval` counts it twice. -/
theorem negation_eval (m : Key → Bool) (ks : List Key) :
    eval m (negation ks) = !(countTrue (ks.map m) == 1) := by
  simp only [negation, eval, evalAny, evalAll_mapNotVar, pairsAnd_count, map_eval_keyVar]
  generalize countTrue (ks.map m) = c
  rw [Bool.eq_iff_iff]
  simp only [Bool.or_eq_true, decide_eq_true_eq, Bool.not_eq_true', beq_eq_false_iff_ne, ne_eq]
  omega

theorem negation_eval_unique (m : Key → Bool) (ks : List Key) :
    eval m (negation ks) = !eval m (.unique ks) := by
  rw [negation_eval]; rfl

theorem builders_eval (m : Key → Bool) (a b : F) (ns : List Nat) :
    eval m (implies a b) = (!eval m a || eval m b) ∧
    eval m (eq a b) = (eval m a == eval m b) ∧
    eval m (xor a b) = (eval m a != eval m b) ∧
    eval m (uniqueSmall ns) = (countTrue (ns.map (fun n => m (n, false))) == 1) ∧
    eval m (uniqueOf ns) = (countTrue (ns.map (fun n => m (n, false))) == 1) ∧
    eval m (negation (ns.map (fun n => (n, false)))) = !(countTrue (ns.map (fun n => m (n, false))) == 1) :=
  ⟨implies_eval m a b, eq_eval m a b, xor_eval m a b, uniqueSmall_eval m ns, uniqueOf_eval m ns, by
    rw [negation_eval, List.map_map]; rfl⟩

example : ∀ x : Bool, eval (fun _ => x) (uniqueSmall [0, 0]) = false := by
  intro x; cases x <;> simp [uniqueSmall_eval, countTrue]
example : eval (fun k => k.1 == 1) (uniqueSmall [0, 0, 1]) = true := by
  simp [uniqueSmall_eval, countTrue]
/-- `Unique("a","a")`: never true (`Eval` counts 0 or 2), its negation always true -/
example : ∀ x : Bool, eval (fun _ => x) (uniqueOf [0, 0]) = false ∧
    eval (fun _ => x) (negation [(0, false), (0, false)]) = true := by
  intro x; cases x <;> simp [uniqueOf_eval, negation_eval, countTrue]

mutual
/-- every variable of the tree (those of the `unique` nodes included) satisfies `p` -/
def allK (p : Key → Bool) : F → Bool
  | .var n d => p (n, d)
  | .lit n d _ => p (n, d)
  | .not f => allK p f
  | .and fs => allKs p fs
  | .or fs => allKs p fs
  | .tt => true
  | .ff => true
  | .unique ks => ks.all p
def allKs (p : Key → Bool) : List F → Bool
  | [] => true
  | f :: fs => allK p f && allKs p fs
end

mutual
/-- every `unique` node satisfies `q b ks`, `b` being the polarity of its position (`true` under
    an odd number of `not`), starting from polarity `b` at the root -/
def allU (q : Bool → List Key → Bool) : Bool → F → Bool
  | _, .var _ _ => true
  | _, .lit _ _ _ => true
  | b, .not f => allU q (!b) f
  | b, .and fs => allUs q b fs
  | b, .or fs => allUs q b fs
  | _, .tt => true
  | _, .ff => true
  | b, .unique ks => q b ks
def allUs (q : Bool → List Key → Bool) : Bool → List F → Bool
  | _, [] => true
  | b, f :: fs => allU q b f && allUs q b fs
end

mutual
/-- no `unique` node (the image of `uniqueRec`, `negation`, `nnf`) -/
def noU : F → Bool
  | .var _ _ => true
  | .lit _ _ _ => true
  | .not f => noU f
  | .and fs => noUs fs
  | .or fs => noUs fs
  | .tt => true
  | .ff => true
  | .unique _ => false
def noUs : List F → Bool
  | [] => true
  | f :: fs => noU f && noUs fs
end

/-- a variable that `cnfRec` may meet in a formula: a problem variable, or a `line-…` / `col-…`
    dummy of `uniqueRec` (odd number) — not a `dummy-<n>` of `cnfRec` (even number) -/
def isFK (k : Key) : Bool := !k.2 || k.1 % 2 == 1

/-- every variable of the tree has `dummy = false`: true of everything built through the public
    API (`Var`, the connectives, `Unique`: the type `variable` is unexported) -/
def userOnly (f : F) : Bool := allK (fun k => !k.2) f
def userOnlyAll (fs : List F) : Bool := allKs (fun k => !k.2) fs

/-- the exactly-one groups in positive position have at most 4 names (no dummy variable in `nnf`) -/
def smallPos (f : F) : Bool := allU (fun b ks => b || decide (ks.length ≤ 4)) false f

theorem F.ind {P : F → Prop} (var : ∀ n d, P (.var n d)) (lit : ∀ n d s, P (.lit n d s))
    (not : ∀ f, P f → P (.not f)) (and : ∀ fs, (∀ f ∈ fs, P f) → P (.and fs))
    (or : ∀ fs, (∀ f ∈ fs, P f) → P (.or fs)) (tt : P .tt) (ff : P .ff) (unique : ∀ ks, P (.unique ks))
    (f : F) : P f :=
  F.rec (motive_1 := P) (motive_2 := fun fs => ∀ f ∈ fs, P f) var lit (fun f => not f) (fun fs => and fs)
    (fun fs => or fs) tt ff unique (fun _ h => nomatch h)
    (fun _ _ hg hgs f h => by
      rcases List.mem_cons.1 h with rfl | h
      · exact hg
      · exact hgs f h) f

theorem allKs_eq (p : Key → Bool) : ∀ fs : List F, allKs p fs = fs.all (allK p)
  | [] => rfl
  | f :: fs => by rw [allKs, List.all_cons, allKs_eq p fs]

theorem allUs_eq (q : Bool → List Key → Bool) (b : Bool) : ∀ fs : List F, allUs q b fs = fs.all (allU q b)
  | [] => rfl
  | f :: fs => by rw [allUs, List.all_cons, allUs_eq q b fs]

theorem noUs_eq : ∀ fs : List F, noUs fs = fs.all noU
  | [] => rfl
  | f :: fs => by rw [noUs, List.all_cons, noUs_eq fs]

theorem allKs_mem {p : Key → Bool} {fs : List F} (h : allKs p fs = true) {f : F} (hf : f ∈ fs) : allK p f = true :=
  List.all_eq_true.1 (allKs_eq p fs ▸ h) f hf

theorem allUs_mem {q : Bool → List Key → Bool} {b : Bool} {fs : List F} (h : allUs q b fs = true) {f : F} (hf : f ∈ fs) :
    allU q b f = true :=
  List.all_eq_true.1 (allUs_eq q b fs ▸ h) f hf

theorem noUs_mem {fs : List F} (h : noUs fs = true) {f : F} (hf : f ∈ fs) : noU f = true :=
  List.all_eq_true.1 (noUs_eq fs ▸ h) f hf

theorem allKs_append (p : Key → Bool) (xs ys : List F) : allKs p (xs ++ ys) = (allKs p xs && allKs p ys) := by
  simp only [allKs_eq, List.all_append]

/-- A predicate on trees that is decided at the variables and the `unique` nodes (`allK p`, `noU`): what
    holds of the variables a builder is given holds of what it builds from them with `not`, `and`, `or`. -/
structure Leafwise (Q : F → Bool) : Prop where
  not : ∀ f, Q (.not f) = Q f
  and : ∀ fs, Q (.and fs) = fs.all Q
  or : ∀ fs, Q (.or fs) = fs.all Q

theorem allK_leafwise (p : Key → Bool) : Leafwise (allK p) := ⟨fun _ => rfl, allKs_eq p, allKs_eq p⟩

theorem noU_leafwise : Leafwise noU := ⟨fun _ => rfl, noUs_eq, noUs_eq⟩

section leafwise
variable {Q : F → Bool} (hQ : Leafwise Q)
include hQ

theorem allU_of_leafwise (q : Bool → List Key → Bool) (hu : ∀ b ks, Q (.unique ks) = true → q b ks = true)
    (b : Bool) (f : F) : Q f = true → allU q b f = true := by
  induction f using F.ind generalizing b with
  | var _ _ => intro _; rfl
  | lit _ _ _ => intro _; rfl
  | not f ih => intro h; exact ih _ (hQ.not f ▸ h)
  | and fs ih =>
    intro h
    rw [allU, allUs_eq]
    exact List.all_eq_true.2 fun f hf => ih f hf b (List.all_eq_true.1 (hQ.and fs ▸ h) f hf)
  | or fs ih =>
    intro h
    rw [allU, allUs_eq]
    exact List.all_eq_true.2 fun f hf => ih f hf b (List.all_eq_true.1 (hQ.or fs ▸ h) f hf)
  | tt => intro _; rfl
  | ff => intro _; rfl
  | unique ks => exact hu b ks

theorem pairsNot_leafwise : ∀ vs : List F, vs.all Q = true → (pairsNot vs).all Q = true
  | [], _ => rfl
  | v :: vs, h => by
      simp only [List.all_cons, Bool.and_eq_true] at h
      simp only [pairsNot, List.all_append, List.all_map, Bool.and_eq_true]
      refine ⟨List.all_eq_true.2 fun w hw => ?_, pairsNot_leafwise vs h.2⟩
      simp [hQ.or, hQ.not, h.1, List.all_eq_true.1 h.2 w hw]

theorem uniqueSmallV_leafwise (vs : List F) (h : vs.all Q = true) : Q (uniqueSmallV vs) = true := by
  simp [uniqueSmallV, hQ.and, hQ.or, h, pairsNot_leafwise hQ vs h]

theorem pairsAnd_leafwise : ∀ vs : List F, vs.all Q = true → (pairsAnd vs).all Q = true
  | [], _ => rfl
  | v :: vs, h => by
      simp only [List.all_cons, Bool.and_eq_true] at h
      simp only [pairsAnd, List.all_append, List.all_map, Bool.and_eq_true]
      refine ⟨List.all_eq_true.2 fun w hw => ?_, pairsAnd_leafwise vs h.2⟩
      simp [hQ.and, h.1, List.all_eq_true.1 h.2 w hw]

theorem negation_leafwise (ks : List Key) (h : ∀ k ∈ ks, Q (keyVar k) = true) : Q (negation ks) = true := by
  have hk : (ks.map keyVar).all Q = true := by rw [List.all_map]; exact List.all_eq_true.2 h
  rw [negation, hQ.or, List.all_cons, hQ.and, List.all_map, pairsAnd_leafwise hQ _ hk, Bool.and_true]
  exact List.all_eq_true.2 fun k hk => (hQ.not _).trans (h k hk)

theorem eq_leafwise (a b : F) (ha : Q a = true) (hb : Q b = true) : Q (eq a b) = true := by
  simp [eq, hQ.and, hQ.or, hQ.not, ha, hb]

end leafwise

theorem allU_of_noU (q : Bool → List Key → Bool) (b : Bool) (f : F) : noU f = true → allU q b f = true :=
  allU_of_leafwise noU_leafwise q (fun _ _ h => nomatch h) b f

theorem allUs_of_noUs (q : Bool → List Key → Bool) : ∀ (b : Bool) (fs : List F), noUs fs = true → allUs q b fs = true :=
  fun b fs => allU_of_noU q b (.and fs)

theorem allK_mono (p p' : Key → Bool) (hp : ∀ k, p k = true → p' k = true) (f : F) :
    allK p f = true → allK p' f = true := by
  induction f using F.ind with
  | var n d => exact hp _
  | lit n d _ => exact hp _
  | not f ih => exact ih
  | and fs ih => intro h; rw [allK, allKs_eq]; exact List.all_eq_true.2 fun f hf => ih f hf (allKs_mem h hf)
  | or fs ih => intro h; rw [allK, allKs_eq]; exact List.all_eq_true.2 fun f hf => ih f hf (allKs_mem h hf)
  | tt => intro _; rfl
  | ff => intro _; rfl
  | unique ks => exact fun h => List.all_eq_true.2 fun k hk => hp k (List.all_eq_true.1 h k hk)

theorem allKs_mono (p p' : Key → Bool) (hp : ∀ k, p k = true → p' k = true) :
    ∀ fs : List F, allKs p fs = true → allKs p' fs = true :=
  fun fs => allK_mono p p' hp (.and fs)

theorem isFK_of_user (k : Key) (h : (!k.2) = true) : isFK k = true := by simp [isFK, h]

theorem negation_allK (p : Key → Bool) (ks : List Key) (h : ks.all p = true) : allK p (negation ks) = true :=
  negation_leafwise (allK_leafwise p) ks (List.all_eq_true.1 h)

theorem negation_noU (ks : List Key) : noU (negation ks) = true :=
  negation_leafwise noU_leafwise ks fun _ _ => rfl

end GS.Bf
