import GS.Props.C02_PbProp
/-!
# C02 (support) — the constraint after a call is the constraint before

`swapFalse` only permutes the literals of a cardinality constraint (`swapFalse_effect` in
`GS.Props.C02_PbPropSwap`; `clause.swap` touches no weight since `pbData == nil`: in the mirror the
weights, all `1`, are left as they are), hence `CardHolds` is invariant under `simplifyCardConstr`
(`simplifyCard_same_constraint`).  `simplifyPseudoBool` and `simplifyCardAMOConstr` do not reorder
anything (`simplifyPB_same_constraint`, `simplifyCardAMO_same_constraint`).
-/
namespace GS.PbProp
open GS

theorem cardHolds_perm (a : Asg) {ls ls' : List Int} (h : ls.Perm ls') (card : Int) :
    CardHolds a ls card ↔ CardHolds a ls' card := by
  unfold CardHolds
  rw [lhs_perm a (h.map _)]

theorem simplifyCard_same_constraint {lvl card : Int} {st st' : St} {b : Bool}
    (h : simplifyCard lvl card st = .ok (b, st')) :
    st'.lits.Perm st.lits ∧ ((∀ w ∈ st.weights, w = 1) → st'.weights = st.weights) ∧
      ∀ a, CardHolds a st'.lits card ↔ CardHolds a st.lits card := by
  have key : st'.lits.Perm st.lits ∧ ((∀ w ∈ st.weights, w = 1) → st'.weights = st.weights) := by
    cases simplifyCard_run h with
    | sat => exact ⟨List.Perm.refl _, fun _ => rfl⟩
    | confl => exact ⟨List.Perm.refl _, fun _ => rfl⟩
    | tight => exact ⟨List.Perm.refl _, fun _ => rfl⟩
    | swap _ hq => exact (swapFalse_effect hq).2.2
  exact ⟨key.1, key.2, fun a => cardHolds_perm a key.1 card⟩

theorem simplifyPB_same_constraint {lvl card : Int} {st st' : St} {b : Bool}
    (h : simplifyPB lvl card st = .ok (b, st')) :
    st'.lits = st.lits ∧ st'.weights = st.weights ∧
      ∀ a, PbHolds a st'.weights st'.lits card ↔ PbHolds a st.weights st.lits card := by
  obtain ⟨ps, m1, hs, he⟩ := pbLoop_run h
  have : st'.lits = st.lits ∧ st'.weights = st.weights := by
    cases he with
    | sat => exact ⟨rfl, rfl⟩
    | confl => exact ⟨rfl, rfl⟩
    | all => obtain ⟨_, _, e⟩ := propagateAll_after lvl (st.after m1 ps); rw [e]; exact ⟨rfl, rfl⟩
    | upd _ hu => exact ⟨(updateWatchPB_frame hu).2.2.1, (updateWatchPB_frame hu).2.2.2⟩
  exact ⟨this.1, this.2, fun a => by rw [this.1, this.2]⟩

theorem simplifyCardAMO_same_constraint {lvl card : Int} {st st' : St} {b : Bool}
    (h : simplifyCardAMO lvl card st = .ok (b, st')) :
    st'.lits = st.lits ∧ st'.weights = st.weights := by
  rcases simplifyCardAMO_run h with ⟨_, rfl, _⟩ | ⟨_, hq⟩
  · exact ⟨rfl, rfl⟩
  · obtain ⟨_, hs⟩ := amoProp_steps _ _ _ _ hq
    obtain ⟨_, rfl⟩ := hs.after
    exact ⟨rfl, rfl⟩

/-- Non-vacuity: `x1 + x2 + x3 + x4 ≥ 2` with `x1` false: the literals come back as `4 2 3 1`. -/
example : (match simplifyCard 2 2 (St.init (mOf [-1, 0, 0, 0]) [1, 2, 3, 4] [1, 1, 1, 1] [true, true, true, false]) with
    | .ok (_, st') => st'.lits | _ => []) = [4, 2, 3, 1] := by rfl
example : ([4, 2, 3, 1] : List Int).Perm [1, 2, 3, 4] := by decide

end GS.PbProp

#print axioms GS.PbProp.swapL_perm
#print axioms GS.PbProp.simplifyCard_same_constraint
#print axioms GS.PbProp.simplifyPB_same_constraint
#print axioms GS.PbProp.simplifyCardAMO_same_constraint
