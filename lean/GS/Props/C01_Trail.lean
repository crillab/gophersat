import GS.Model.Trail
import GS.Props.C01_Analyze
/-!
# C01 / C02 / C06 — the hypotheses of the conflict-analysis theorems are an inductive invariant

`GS.Props.C01_Analyze` proves `analyze_sound_cnf`, `analyze_asserting`, `analyze_not_stuck` under
hypotheses on the analysed state (`trailInv`, `reasonsCnf`, `decisionsOk`/`FactsEntailed`,
`conflOk`).  Here they are proved to hold in **every** state the abstract trail machine
`GS.Model.Trail` can reach (see the table there for the Go statements each operation abstracts), so
that `reachable_analyze_sound` has no hypothesis on the state left.

The invariant `Inv` keeps the decision property at every level `≥ 2`, not only the current one:
that is the form that survives a backjump.  Every accepted operation is an optional backjump
followed by at most one push (`step_cases`), so each invariant (`Inv`, `Sourced`: where antecedents
and facts come from, `HasDecisions`) is shown for these two moves only.  `Inv0` is `Inv` without the
condition on antecedents: the part `GS.Props.C02_TrailPb` reuses on its projected state.

Beyond soundness: every trail literal follows from the antecedents, facts, decisions and assumptions
(`reachable_entailed_db`); the loop closes, i.e. the answer of the analysis is an operation the
machine accepts (`assertLearned_enabled`, `learnedUnit_enabled`); each level `2 … lvl` has exactly
one decision, and the decisions stand on the trail in the order of their levels
(`reachable_decisions`, `decEntries_lvl`); only `assume` pushes an assumed entry, at level 1
(`step_mem`).

Findings (see the last section for the witnesses): `decisionsOk` at the current level is not
preserved at level 1 (two facts); `New` does not test whether a unit's variable is already bound
(`init_units_inv_statement_false`); a conflict repeating a false literal makes the analysis `stuck`.
-/
namespace GS.Trail
open GS GS.Analyze

theorem entries_toSt (s : State) (confl : List Int) : (s.toSt confl).entries = s.es := by
  unfold State.toSt St.entries
  simp only
  induction s.es with
  | nil => rfl
  | cons e es ih => simp only [List.map_cons, List.zipWith_cons_cons, ih]

theorem analyze_toSt (s : State) (confl : List Int) :
    analyze (s.toSt confl) = analyzeE s.es s.lvl confl := by
  unfold analyze
  rw [entries_toSt]
  rfl

theorem unbound_iff (es : List Entry) (l : Int) :
    unbound es l = true ↔ ∀ e ∈ es, e.var ≠ l.natAbs := by
  simp [unbound]

theorem isUnit_iff (es : List Entry) (l : Int) (c : List Int) :
    isUnit es l c = true ↔ l ∈ c ∧ ∀ f ∈ c, f ≠ l → isFalse es f = true := by
  simp only [isUnit, Bool.and_eq_true, List.contains_iff_mem, List.all_eq_true, Bool.or_eq_true,
    beq_iff_eq]
  exact and_congr_right fun _ => forall_congr' fun f => forall_congr' fun _ =>
    Decidable.or_iff_not_imp_left

/-- `decisionsOk es k` as a `Prop` (the right-hand side of `GS.Analyze.decisionsOk_iff`): the
    decision of level `k` is the first entry of level `k`. -/
def DecisionsOkP (es : List Entry) (k : Nat) : Prop :=
  ∀ pre e post, es = pre ++ e :: post → e.reason = none → e.assumed = false → e.lvl = k →
    ∀ x ∈ pre, x.lvl ≠ k

theorem DecisionsOkP.prefix {es rest : List Entry} {k : Nat} (h : DecisionsOkP (es ++ rest) k) :
    DecisionsOkP es k :=
  fun pre e post hes => h pre e (post ++ rest) (by rw [hes]; simp)

theorem DecisionsOkP.snoc {es : List Entry} {x : Entry} {k : Nat} (h : DecisionsOkP es k)
    (hx : x.reason = none → x.assumed = false → x.lvl = k → ∀ y ∈ es, y.lvl ≠ k) :
    DecisionsOkP (es ++ [x]) k := by
  intro pre e post hsp
  rcases snoc_split hsp with ⟨_, rfl, rfl⟩ | ⟨post', _, hsp'⟩
  · exact hx
  · exact h pre e post' hsp'

theorem ReasonsCnf.prefix {es rest : List Entry} (h : ReasonsCnf (es ++ rest)) : ReasonsCnf es :=
  fun pre e post r hes => h pre e (post ++ rest) r (by rw [hes]; simp)

theorem ReasonsCnf.snoc {es : List Entry} {x : Entry} (h : ReasonsCnf es)
    (hx : ∀ r, x.reason = some r → x.lit ∈ r ∧ ∀ f ∈ r, f ≠ x.lit → isFalse es f = true) :
    ReasonsCnf (es ++ [x]) := by
  intro pre e post r hsp
  rcases snoc_split hsp with ⟨_, rfl, rfl⟩ | ⟨post', _, hsp'⟩
  · exact hx r
  · exact h pre e post' r hsp'

/-- The invariant of the trail machine: the hypotheses of `analyze_sound_cnf` /
    `analyze_asserting` / `analyze_not_stuck` on the analysed state (`TrailInv`, `ReasonsCnf`),
    the decision property at **every** level `≥ 2` (needed to survive a backjump; at the current
    level it is `decisionsOk`), and levels `≥ 1`. -/
structure Inv (s : State) : Prop where
  trail : TrailInv s.es s.lvl
  reasons : ReasonsCnf s.es
  decisions : ∀ k, 2 ≤ k → DecisionsOkP s.es k
  lvl_pos : 1 ≤ s.lvl
  lvls_pos : ∀ e ∈ s.es, 1 ≤ e.lvl

/-- `Inv` without the condition on antecedents: the part that the machine of
    `GS.Model.TrailPb` shares, on its projected state. -/
structure Inv0 (s : State) : Prop where
  trail : TrailInv s.es s.lvl
  decisions : ∀ k, 2 ≤ k → DecisionsOkP s.es k
  lvl_pos : 1 ≤ s.lvl
  lvls_pos : ∀ e ∈ s.es, 1 ≤ e.lvl

theorem Inv.inv0 {s : State} (h : Inv s) : Inv0 s := ⟨h.trail, h.decisions, h.lvl_pos, h.lvls_pos⟩

theorem Inv.of_inv0 {s : State} (h : Inv0 s) (hr : ReasonsCnf s.es) : Inv s :=
  ⟨h.trail, hr, h.decisions, h.lvl_pos, h.lvls_pos⟩

theorem push_inv0 {s : State} (h : Inv0 s) {l : Int} {k : Nat} {a : Bool} {r : Option (List Int)}
    (hl : l ≠ 0) (hu : unbound s.es l = true) (hk : s.lvl ≤ k)
    (hd : r = none → a = false → 2 ≤ k → s.lvl < k) : Inv0 (push s l k a r) := by
  have hu' := (unbound_iff _ _).1 hu
  have hmem : ∀ e ∈ (push s l k a r).es, e ∈ s.es ∨ e = ⟨l, k, a, r⟩ := fun e he => by
    simpa [push] using he
  refine ⟨⟨?_, ?_, ?_, ?_⟩, fun k' hk' => DecisionsOkP.snoc (h.decisions k' hk') fun hr ha hek y hy => ?_,
    Nat.le_trans h.lvl_pos hk, ?_⟩
  · refine List.pairwise_append.2 ⟨h.trail.nodup, List.pairwise_singleton _ _, fun x hx y hy => ?_⟩
    rw [List.mem_singleton.1 hy]
    exact hu' x hx
  · intro e he
    rcases hmem e he with he | rfl
    · exact h.trail.nonzero e he
    · exact hl
  · refine List.pairwise_append.2 ⟨h.trail.mono, List.pairwise_singleton _ _, fun x hx y hy => ?_⟩
    rw [List.mem_singleton.1 hy]
    exact Nat.le_trans (h.trail.bound x hx) hk
  · intro e he
    rcases hmem e he with he | rfl
    · exact Nat.le_trans (h.trail.bound e he) hk
    · exact Nat.le_refl _
  · have hek' : k = k' := hek
    have := hd hr ha (hek' ▸ hk')
    have := h.trail.bound y hy
    omega
  · intro e he
    rcases hmem e he with he | rfl
    · exact h.lvls_pos e he
    · exact Nat.le_trans h.lvl_pos hk

theorem backjumpOp_some {s s' : State} {k : Nat} (hs : backjumpOp s k = some s') :
    1 ≤ k ∧ k ≤ s.lvl ∧ s' = ⟨k, s.es.takeWhile (fun e => decide (e.lvl ≤ k))⟩ := by
  simp only [backjumpOp, Option.ite_none_right_eq_some, Bool.and_eq_true, decide_eq_true_eq,
    Option.some.injEq] at hs
  exact ⟨hs.1.1, hs.1.2, hs.2.symm⟩

theorem backjump_inv0 {s s' : State} {k : Nat} (h : Inv0 s) (hs : backjumpOp s k = some s') :
    Inv0 s' := by
  obtain ⟨hk1, _, rfl⟩ := backjumpOp_some hs
  have hsub := List.takeWhile_sublist (l := s.es) (fun e => decide (e.lvl ≤ k))
  refine ⟨⟨h.trail.nodup.sublist hsub, fun e he => h.trail.nonzero e (hsub.subset he),
    h.trail.mono.sublist hsub, fun e he => of_decide_eq_true
      (of_mem_takeWhile (p := fun e : Entry => decide (e.lvl ≤ k)) he)⟩,
    fun k' hk' => ?_, hk1, fun e he => h.lvls_pos e (hsub.subset he)⟩
  refine DecisionsOkP.prefix (rest := s.es.dropWhile (fun e => decide (e.lvl ≤ k))) ?_
  rw [List.takeWhile_append_dropWhile]
  exact h.decisions k' hk'

theorem push_inv {s : State} (h : Inv s) {l : Int} {k : Nat} {a : Bool} {r : Option (List Int)}
    (hl : l ≠ 0) (hu : unbound s.es l = true) (hk : s.lvl ≤ k)
    (hr : ∀ c, r = some c → isUnit s.es l c = true)
    (hd : r = none → a = false → 2 ≤ k → s.lvl < k) : Inv (push s l k a r) :=
  .of_inv0 (push_inv0 h.inv0 hl hu hk hd)
    (ReasonsCnf.snoc h.reasons fun c hc => (isUnit_iff _ _ _).1 (hr c hc))

theorem backjump_preserves_inv {s s' : State} {k : Nat} (h : Inv s)
    (hs : backjumpOp s k = some s') : Inv s' := by
  refine .of_inv0 (backjump_inv0 h.inv0 hs) ?_
  obtain ⟨_, _, rfl⟩ := backjumpOp_some hs
  refine ReasonsCnf.prefix (rest := s.es.dropWhile (fun e => decide (e.lvl ≤ k))) ?_
  rw [List.takeWhile_append_dropWhile]
  exact h.reasons

/-- The level `k` of a pushed entry against the current level `cur`: the current level (level 1
    when there is no antecedent: facts and assumptions), or a decision that opens the next one. -/
def LvlOk (cur k : Nat) (a : Bool) (noReason : Prop) : Prop :=
  (k = cur ∧ (noReason → k = 1)) ∨ (k = cur + 1 ∧ noReason ∧ a = false)

theorem LvlOk.le {cur k a p} (h : LvlOk cur k a p) : cur ≤ k := by
  rcases h with h | h <;> omega

theorem LvlOk.opens {cur k a p} (h : LvlOk cur k a p) (hp : p) (h2 : 2 ≤ k) : cur < k := by
  rcases h with h | h
  · have := h.2 hp; omega
  · omega

/-- What the operation `o` pushes on `s`. -/
structure PushOk (o : Op) (s : State) (l : Int) (k : Nat) (a : Bool) (r : Option (List Int)) :
    Prop where
  nonzero : l ≠ 0
  unbound : unbound s.es l = true
  lvl : LvlOk s.lvl k a (r = none)
  unit : ∀ c, r = some c → isUnit s.es l c = true ∧ opClause o = some c
  fact : r = none → a = false → k = s.lvl → opClause o = some [l]
  assumed : a = true → k = 1 ∧ o = .assume l

theorem propagateOp_some {s s' : State} {o : Op} {l : Int} {c : List Int}
    (ho : opClause o = some c) (hs : propagateOp s l c = some s') :
    PushOk o s l s.lvl false (some c) ∧ s' = push s l s.lvl false (some c) := by
  simp only [propagateOp, Option.ite_none_right_eq_some, Bool.and_eq_true, bne_iff_ne, ne_eq,
    Option.some.injEq] at hs
  exact ⟨⟨hs.1.1.1, hs.1.1.2, Or.inl ⟨rfl, fun h => (by cases h)⟩,
    fun c' hc => (by cases hc; exact ⟨hs.1.2, ho⟩), fun h => (by cases h), fun h => (by cases h)⟩,
    hs.2.symm⟩

theorem step_cases {s s' : State} {o : Op} (hs : step s o = some s') :
    (∃ k, backjumpOp s k = some s') ∨
    ∃ s1 l k a r, (s1 = s ∨ ∃ j, backjumpOp s j = some s1) ∧ PushOk o s1 l k a r ∧
      s' = push s1 l k a r := by
  cases o with
  | decide l =>
    simp only [step, decideOp, Option.ite_none_right_eq_some, Bool.and_eq_true, bne_iff_ne, ne_eq,
      Option.some.injEq] at hs
    exact Or.inr ⟨s, l, _, _, _, Or.inl rfl, ⟨hs.1.1, hs.1.2, Or.inr ⟨rfl, rfl, rfl⟩,
      fun _ h => (by cases h), fun _ _ h => absurd h (Nat.succ_ne_self _), fun h => (by cases h)⟩,
      hs.2.symm⟩
  | propagate l c =>
    obtain ⟨ok, rfl⟩ := propagateOp_some (o := .propagate l c) rfl hs
    exact Or.inr ⟨s, l, _, _, _, Or.inl rfl, ok, rfl⟩
  | backjump k => exact Or.inl ⟨k, hs⟩
  | assertLearned l c k =>
    simp only [step, assertLearnedOp] at hs
    split at hs
    · rename_i s1 h1
      obtain ⟨ok, rfl⟩ := propagateOp_some (o := .assertLearned l c k) rfl hs
      exact Or.inr ⟨s1, l, _, _, _, Or.inr ⟨k, h1⟩, ok, rfl⟩
    · cases hs
  | addFact l =>
    simp only [step, addFactOp, Option.ite_none_right_eq_some, Bool.and_eq_true, bne_iff_ne, ne_eq,
      beq_iff_eq, Option.some.injEq] at hs
    exact Or.inr ⟨s, l, _, _, _, Or.inl rfl, ⟨hs.1.1.1, hs.1.1.2, Or.inl ⟨hs.1.2.symm, fun _ => rfl⟩,
      fun _ h => (by cases h), fun _ _ _ => rfl, fun h => (by cases h)⟩, hs.2.symm⟩
  | assume l =>
    simp only [step, assumeOp, Option.ite_none_right_eq_some, Bool.and_eq_true, bne_iff_ne, ne_eq,
      beq_iff_eq, Option.some.injEq] at hs
    exact Or.inr ⟨s, l, _, _, _, Or.inl rfl, ⟨hs.1.1.1, hs.1.1.2, Or.inl ⟨hs.1.2.symm, fun _ => rfl⟩,
      fun _ h => (by cases h), fun _ h => (by cases h), fun _ => ⟨rfl, rfl⟩⟩, hs.2.symm⟩

theorem step_mem {s s' : State} {o : Op} (hs : step s o = some s') {e : Entry} (he : e ∈ s'.es) :
    e ∈ s.es ∨ e.assumed = false ∨ (e.lvl = 1 ∧ ∃ l, o = .assume l) := by
  have cut : ∀ {t t' : State} {k : Nat}, backjumpOp t k = some t' → e ∈ t'.es → e ∈ t.es := by
    intro t t' k ht he
    obtain ⟨_, _, rfl⟩ := backjumpOp_some ht
    exact (List.takeWhile_sublist _).subset he
  rcases step_cases hs with ⟨k, hb⟩ | ⟨s1, l, k, a, r, h1, ok, rfl⟩
  · exact Or.inl (cut hb he)
  · rcases List.mem_append.1 he with he | he
    · exact Or.inl (h1.elim (fun h => h ▸ he) fun ⟨j, hj⟩ => cut hj he)
    · cases List.mem_singleton.1 he
      cases a with
      | false => exact Or.inr (Or.inl rfl)
      | true => exact Or.inr (Or.inr ⟨(ok.assumed rfl).1, l, (ok.assumed rfl).2⟩)

theorem step_preserves_inv {s s' : State} {o : Op} (h : Inv s) (hs : step s o = some s') :
    Inv s' := by
  rcases step_cases hs with ⟨k, hb⟩ | ⟨s1, l, k, a, r, h1, ok, rfl⟩
  · exact backjump_preserves_inv h hb
  · have hi1 : Inv s1 := h1.elim (fun e => e ▸ h) fun ⟨j, hj⟩ => backjump_preserves_inv h hj
    exact push_inv hi1 ok.nonzero ok.unbound ok.lvl.le (fun c hc => (ok.unit c hc).1)
      fun hr _ => ok.lvl.opens hr

theorem run_induction {P : State → Prop} : ∀ (ops : List Op) {s s' : State},
    (∀ o ∈ ops, ∀ t t', P t → step t o = some t' → P t') → P s → run s ops = some s' → P s' := by
  intro ops
  induction ops with
  | nil => intro s s' _ h hr; cases hr; exact h
  | cons o os ih =>
    intro s s' hstep h hr
    rw [run] at hr
    split at hr
    · rename_i s1 h1
      exact ih (fun o' ho' => hstep o' (List.mem_cons_of_mem _ ho'))
        (hstep o List.mem_cons_self s s1 h h1) hr
    · cases hr

theorem run_preserves_inv (ops : List Op) {s s' : State} (h : Inv s) (hr : run s ops = some s') :
    Inv s' :=
  run_induction ops (fun _ _ _ _ ht => step_preserves_inv ht) h hr

theorem init_entry {units : List Int} {e : Entry} (he : e ∈ (init units).es) :
    e.lit ∈ units ∧ e.lvl = 1 ∧ e.assumed = false ∧ e.reason = none := by
  simp only [init, List.mem_map] at he
  obtain ⟨u, hu, rfl⟩ := he
  exact ⟨hu, rfl, rfl, rfl⟩

/-- `New` on a problem whose unit literals are non-zero over pairwise distinct variables. -/
theorem init_units_inv_partial {units : List Int} (hu : unitsOk units = true) :
    Inv (init units) := by
  simp only [unitsOk, Bool.and_eq_true, List.all_eq_true, bne_iff_ne, ne_eq] at hu
  refine ⟨⟨(noDupVars_iff _).1 hu.2, ?_, ?_, ?_⟩, ?_, ?_, Nat.le_refl _, ?_⟩
  · intro e he
    exact hu.1 _ (init_entry he).1
  · rw [List.pairwise_iff_forall_sublist]
    intro a b hab
    have ha := (init_entry (hab.subset (List.mem_cons_self))).2.1
    have hb := (init_entry (hab.subset (List.mem_cons_of_mem _ List.mem_cons_self))).2.1
    omega
  · intro e he
    have := (init_entry he).2.1
    show e.lvl ≤ 1
    omega
  · intro pre e post r hsp hr
    have he : e ∈ (init units).es := by rw [hsp]; simp
    rw [(init_entry he).2.2.2] at hr; cases hr
  · intro k hk pre e post hsp _ _ hek
    have he : e ∈ (init units).es := by rw [hsp]; simp
    have := (init_entry he).2.1
    omega
  · intro e he
    have := (init_entry he).2.1
    omega

/-- `empty` is `init []` by definition; the `rfl` is `unitsOk [] = true`. -/
theorem init_inv : Inv empty := init_units_inv_partial (units := []) rfl

/-- The unrestricted statement about `New`'s trail … -/
def init_units_inv_statement : Prop :=
  ∀ units : List Int, (∀ u ∈ units, u ≠ 0) → Inv (init units)

/-- … is false: a unit clause given twice (`[[1], [1]]`: `parseSlice` appends both to `pb.Units`,
    `New` copies both onto the trail) puts variable 1 twice on the trail. -/
theorem init_units_inv_statement_false : ¬ init_units_inv_statement := by
  intro h
  have := (h [1, 1] (by decide)).trail.nodup
  revert this
  decide

example : unitsOk [1, 1] = false := by decide +kernel
example : trailInv (init [1, 1]).es 1 = false := by decide +kernel
example : unitsOk [3, -1, 2] = true := by decide +kernel

theorem reachable_inv {ops : List Op} {s : State} (hr : run empty ops = some s) : Inv s :=
  run_preserves_inv ops init_inv hr

theorem reachable_inv_partial {units : List Int} {ops : List Op} {s : State}
    (hu : unitsOk units = true) (hr : run (init units) ops = some s) : Inv s :=
  run_preserves_inv ops (init_units_inv_partial hu) hr

theorem Inv.bool {s : State} (h : Inv s) :
    trailInv s.es s.lvl = true ∧ reasonsCnf s.es = true ∧
    (2 ≤ s.lvl → decisionsOk s.es s.lvl = true) :=
  ⟨(trailInv_iff _ _).2 h.trail, (reasonsCnf_iff _).2 h.reasons,
   fun h2 => (decisionsOk_iff _ _).2 (h.decisions _ h2)⟩

theorem decisionsRange_iff {es : List Entry} {lvl : Nat} (hb : ∀ e ∈ es, e.lvl ≤ lvl) :
    ((List.range (lvl + 1)).all fun k => decide (k < 2) || decisionsOk es k) = true ↔
      ∀ k, 2 ≤ k → DecisionsOkP es k := by
  simp only [List.all_eq_true, List.mem_range, Bool.or_eq_true, decide_eq_true_eq, decisionsOk_iff]
  constructor
  · intro h k hk
    by_cases hkl : k < lvl + 1
    · exact (h k hkl).resolve_left (by omega)
    · intro pre e post hsp _ _ hek
      have := hb e (by rw [hsp]; simp)
      omega
  · intro h k _
    by_cases hk : k < 2
    · exact Or.inl hk
    · exact Or.inr (h k (by omega))

theorem invB_iff (s : State) : invB s = true ↔ Inv s := by
  simp only [invB, Bool.and_eq_true, decide_eq_true_eq, trailInv_iff, reasonsCnf_iff]
  constructor
  · rintro ⟨⟨⟨⟨h1, h2⟩, h3⟩, h4⟩, h5⟩
    exact ⟨h1, h2, (decisionsRange_iff h1.bound).1 h3, h4, by simpa using h5⟩
  · intro h
    exact ⟨⟨⟨⟨h.trail, h.reasons⟩, (decisionsRange_iff h.trail.bound).2 h.decisions⟩, h.lvl_pos⟩,
      by simpa using h.lvls_pos⟩

theorem step_preserves_invB {s s' : State} {o : Op} (h : invB s = true)
    (hs : step s o = some s') : invB s' = true :=
  (invB_iff s').2 (step_preserves_inv ((invB_iff s).1 h) hs)

/-- The last three conjuncts are the checks the driver op `analyze_inv` evaluates on a snapshot. -/
theorem reachable_invB {units : List Int} {ops : List Op} {s : State}
    (hu : unitsOk units = true) (hr : run (init units) ops = some s) :
    invB s = true ∧ trailInv s.es s.lvl = true ∧ reasonsCnf s.es = true ∧
    (2 ≤ s.lvl → decisionsOk s.es s.lvl = true) :=
  have hi := reachable_inv_partial hu hr
  ⟨(invB_iff s).2 hi, hi.bool⟩

theorem falsified_iff (s : State) (confl : List Int) :
    falsified s confl = true ↔
      (∀ l ∈ confl, isFalse s.es l = true) ∧ confl.Pairwise (· ≠ ·) ∧
      ∃ l ∈ confl, lvOf s.es l.natAbs = s.lvl := by
  simp only [falsified, Bool.and_eq_true, List.all_eq_true, decide_eq_true_eq, List.any_eq_true,
    beq_iff_eq, and_assoc]

theorem conflict_ok {s : State} {confl : List Int} (hf : falsified s confl = true) :
    conflOk s.es s.lvl confl = true := by
  obtain ⟨hall, hpw, l, hl, hlv⟩ := (falsified_iff s confl).1 hf
  unfold conflOk
  simp only [List.filter_eq_self.2 hall, Bool.and_eq_true, decide_eq_true_eq, List.any_eq_true,
    beq_iff_eq]
  exact ⟨hpw, l, hl, hlv⟩

/-- Side condition on an operation: the clause it installs as antecedent / the fact it adds
    satisfies `P` (in the applications `P = CnfEntails db`: a clause of the problem, a learned
    clause, a learned unit). -/
def OpOk (P : List Int → Prop) : Op → Prop
  | .propagate _ c => P c
  | .assertLearned _ c _ => P c
  | .addFact l => P [l]
  | _ => True

structure Sourced (P : List Int → Prop) (s : State) : Prop where
  reasons : ∀ e ∈ s.es, ∀ r, e.reason = some r → P r
  facts : ∀ e ∈ s.es, e.reason = none → e.assumed = false → e.lvl = 1 → P [e.lit]

theorem push_sourced {P : List Int → Prop} {s : State} (h : Sourced P s) {l : Int} {k : Nat}
    {a : Bool} {r : Option (List Int)} (hr : ∀ c, r = some c → P c)
    (hf : r = none → a = false → k = 1 → P [l]) : Sourced P (push s l k a r) :=
  ⟨List.forall_mem_append.2 ⟨h.reasons, List.forall_mem_singleton.2 hr⟩,
   List.forall_mem_append.2 ⟨h.facts, List.forall_mem_singleton.2 hf⟩⟩

theorem opOk_iff {P : List Int → Prop} {o : Op} : OpOk P o ↔ ∀ c, opClause o = some c → P c := by
  cases o <;> simp [OpOk, opClause]

theorem opsFrom_opOk {P : List Int → Prop} {db : List (List Int)} {ops : List Op} (hP : ∀ c ∈ db, P c)
    (h : opsFrom db ops = true) : ∀ o ∈ ops, OpOk P o := by
  intro o ho
  rw [opOk_iff]
  intro c hc
  have := List.all_eq_true.1 h o ho
  rw [hc] at this
  exact hP c (List.contains_iff_mem.1 this)

theorem opsFrom_ok {db : List (List Int)} {ops : List Op} (h : opsFrom db ops = true) :
    ∀ o ∈ ops, OpOk (CnfEntails db) o :=
  opsFrom_opOk (fun _ => CnfEntails.of_mem) h

theorem backjump_sourced {P : List Int → Prop} {s s' : State} {k : Nat} (h : Sourced P s)
    (hs : backjumpOp s k = some s') : Sourced P s' := by
  obtain ⟨_, _, rfl⟩ := backjumpOp_some hs
  exact ⟨fun e he => h.reasons e ((List.takeWhile_sublist _).subset he),
    fun e he => h.facts e ((List.takeWhile_sublist _).subset he)⟩

theorem step_preserves_sourced {P : List Int → Prop} {s s' : State} {o : Op} (hl : 1 ≤ s.lvl)
    (h : Sourced P s) (ho : OpOk P o) (hs : step s o = some s') : Sourced P s' := by
  rcases step_cases hs with ⟨k, hb⟩ | ⟨s1, l, k, a, r, h1, ok, rfl⟩
  · exact backjump_sourced h hb
  · have hs1 : Sourced P s1 := h1.elim (fun e => e ▸ h) fun ⟨j, hj⟩ => backjump_sourced h hj
    have hl1 : 1 ≤ s1.lvl := h1.elim (fun e => e ▸ hl) fun ⟨j, hj⟩ => by
      obtain ⟨hj1, _, rfl⟩ := backjumpOp_some hj; exact hj1
    refine push_sourced hs1 (fun c hc => opOk_iff.1 ho c (ok.unit c hc).2)
      fun hr ha hk => opOk_iff.1 ho _ (ok.fact hr ha ?_)
    rcases ok.lvl with h' | h' <;> omega

theorem run_preserves_sourced {P : List Int → Prop} (ops : List Op) {s s' : State} (hi : Inv s)
    (h : Sourced P s) (ho : ∀ o ∈ ops, OpOk P o) (hr : run s ops = some s') : Sourced P s' :=
  (run_induction (P := fun t => Inv t ∧ Sourced P t) ops
    (fun o hmem _ _ ht hs => ⟨step_preserves_inv ht.1 hs,
      step_preserves_sourced ht.1.lvl_pos ht.2 (ho o hmem) hs⟩) ⟨hi, h⟩ hr).2

theorem init_sourced {P : List Int → Prop} {units : List Int} (hu : ∀ u ∈ units, P [u]) :
    Sourced P (init units) :=
  ⟨fun e he r hr => (by rw [(init_entry he).2.2.2] at hr; cases hr),
   fun e he _ _ _ => hu _ (init_entry he).1⟩

theorem empty_sourced {P : List Int → Prop} : Sourced P empty :=
  init_sourced (units := []) fun _ h => nomatch h

/-- The premise `FactsEntailed` of `analyze_sound_cnf`: at a level `≥ 2` it is vacuous (only the
    decision has no antecedent), at level 1 the reason-less literals are the facts. -/
theorem factsEntailed {db : List (List Int)} {s : State} (h : Inv s)
    (hs : Sourced (CnfEntails db) s) : FactsEntailed db s.es s.lvl := by
  intro pre e post hsp hr ha hlv ⟨x, hx, hxl⟩
  by_cases h2 : 2 ≤ s.lvl
  · exact absurd hxl (h.decisions _ h2 pre e post hsp hr ha hlv x hx)
  · have he : e ∈ s.es := by rw [hsp]; simp
    have := h.lvl_pos
    exact hs.facts e he hr ha (by omega)

/-- What the three theorems of `GS.Props.C01_Analyze` give together on the snapshot `st`
    with analysed trail `es` at level `lvl`. -/
def AnalysisOk (db : List (List Int)) (es : List Entry) (lvl : Nat) (st : St) : Prop :=
  analyze st ≠ .stuck ∧
  (∀ a rest, analyze st = .learned a rest →
    CnfEntails db (a :: rest) ∧ rest ≠ [] ∧ isFalse es a = true ∧ lvOf es a.natAbs = lvl ∧
    (∀ l ∈ rest, isFalse es l = true ∧ lvOf es l.natAbs < lvl) ∧
    rest.Pairwise (fun x y => lvOf es y.natAbs ≤ lvOf es x.natAbs)) ∧
  (∀ l, analyze st = .unit l →
    CnfEntails db [l] ∧ isFalse es l = true ∧ lvOf es l.natAbs = lvl)

theorem inv_analyze_sound (db : List (List Int)) {s : State} {confl : List Int} (h : Inv s)
    (hs : Sourced (CnfEntails db) s) (hf : falsified s confl = true) (hc : CnfEntails db confl) :
    AnalysisOk db s.es s.lvl (s.toSt confl) := by
  unfold AnalysisOk
  rw [analyze_toSt]
  refine analyzeE_ok h.trail (conflict_ok hf) (analyzeE_sound db s.es s.lvl confl
    ((trailInv_iff _ _).2 h.trail) (ReasonsCnf.entailed h.reasons hs.reasons) (factsEntailed h hs) ?_)
  rw [List.filter_eq_self.2 ((falsified_iff s confl).1 hf).1]
  exact hc

theorem reachable_analyze_sound_partial (db : List (List Int)) {units : List Int} {ops : List Op}
    {s : State} {confl : List Int} (hu : unitsOk units = true)
    (hrun : run (init units) ops = some s)
    (hunits : ∀ u ∈ units, CnfEntails db [u])
    (hops : ∀ o ∈ ops, OpOk (CnfEntails db) o)
    (hf : falsified s confl = true) (hc : CnfEntails db confl) :
    AnalysisOk db s.es s.lvl (s.toSt confl) :=
  inv_analyze_sound db (reachable_inv_partial hu hrun)
    (run_preserves_sourced ops (init_units_inv_partial hu) (init_sourced hunits) hops hrun) hf hc

/-- **Conflict analysis is sound in every reachable conflict state**: the hypotheses are on the
    operations (antecedents and facts entailed by `db`) and on the conflict clause (entailed by
    `db`, falsified at the current level), none on the state. -/
theorem reachable_analyze_sound (db : List (List Int)) {ops : List Op} {s : State}
    {confl : List Int} (hrun : run empty ops = some s)
    (hops : ∀ o ∈ ops, OpOk (CnfEntails db) o)
    (hf : falsified s confl = true) (hc : CnfEntails db confl) :
    AnalysisOk db s.es s.lvl (s.toSt confl) :=
  reachable_analyze_sound_partial db (units := []) rfl hrun (fun _ h => nomatch h) hops hf hc

theorem mem_facts {s : State} {l : Int} :
    l ∈ facts s ↔ ∃ e ∈ s.es, e.lit = l ∧ e.reason = none ∧ e.assumed = false ∧ e.lvl ≤ 1 := by
  simp only [facts, List.mem_map, List.mem_filter, Bool.and_eq_true, Option.isNone_iff_eq_none,
    Bool.not_eq_true', decide_eq_true_eq]
  exact ⟨fun ⟨e, ⟨he, ⟨h1, h2⟩, h3⟩, hl⟩ => ⟨e, he, hl, h1, h2, h3⟩,
    fun ⟨e, he, hl, h1, h2, h3⟩ => ⟨e, ⟨he, ⟨h1, h2⟩, h3⟩, hl⟩⟩

theorem mem_decisions {s : State} {l : Int} :
    l ∈ decisions s ↔ ∃ e ∈ s.es, e.lit = l ∧ e.reason = none ∧ e.assumed = false ∧ 2 ≤ e.lvl := by
  simp only [decisions, List.mem_map, List.mem_filter, Bool.and_eq_true, Option.isNone_iff_eq_none,
    Bool.not_eq_true', decide_eq_true_eq]
  exact ⟨fun ⟨e, ⟨he, ⟨h1, h2⟩, h3⟩, hl⟩ => ⟨e, he, hl, h1, h2, h3⟩,
    fun ⟨e, he, hl, h1, h2, h3⟩ => ⟨e, ⟨he, ⟨h1, h2⟩, h3⟩, hl⟩⟩

theorem mem_assumptions {s : State} {l : Int} :
    l ∈ assumptions s ↔ ∃ e ∈ s.es, e.lit = l ∧ e.reason = none ∧ e.assumed = true := by
  simp only [assumptions, List.mem_map, List.mem_filter, Bool.and_eq_true,
    Option.isNone_iff_eq_none]
  exact ⟨fun ⟨e, ⟨he, h1, h2⟩, hl⟩ => ⟨e, he, hl, h1, h2⟩,
    fun ⟨e, he, hl, h1, h2⟩ => ⟨e, ⟨he, h1, h2⟩, hl⟩⟩

theorem noReason_cases {s : State} {e : Entry} (he : e ∈ s.es) (hr : e.reason = none) :
    e.lit ∈ facts s ∨ e.lit ∈ decisions s ∨ e.lit ∈ assumptions s := by
  rw [mem_facts, mem_decisions, mem_assumptions]
  cases ha : e.assumed with
  | true => exact Or.inr (Or.inr ⟨e, he, rfl, hr, ha⟩)
  | false =>
    by_cases hl : 2 ≤ e.lvl
    · exact Or.inr (Or.inl ⟨e, he, rfl, hr, ha, hl⟩)
    · exact Or.inl ⟨e, he, rfl, hr, ha, by omega⟩

theorem inv_entailed {s : State} (h : Inv s) (A : Asg)
    (hR : ∀ c ∈ reasonClauses s, clauseTrue A c = true)
    (hF : ∀ l ∈ facts s, litTrue A l = true)
    (hD : ∀ l ∈ decisions s, litTrue A l = true)
    (hAs : ∀ l ∈ assumptions s, litTrue A l = true) :
    ∀ e ∈ s.es, litTrue A e.lit = true :=
  trail_true h.trail.nonzero
    (ReasonsCnf.reasonsTrue h.reasons fun e he r hr => hR r (List.mem_filterMap.2 ⟨e, he, hr⟩))
    fun _ he hr => (noReason_cases he hr).elim (hF _) fun h' => h'.elim (hD _) (hAs _)

theorem reachable_entailed {ops : List Op} {s : State} (hrun : run empty ops = some s) (A : Asg)
    (hR : ∀ c ∈ reasonClauses s, clauseTrue A c = true)
    (hF : ∀ l ∈ facts s, litTrue A l = true)
    (hD : ∀ l ∈ decisions s, litTrue A l = true)
    (hAs : ∀ l ∈ assumptions s, litTrue A l = true) :
    ∀ e ∈ s.es, litTrue A e.lit = true :=
  inv_entailed (reachable_inv hrun) A hR hF hD hAs

theorem sourced_entailed {P : List Int → Prop} {s : State} (h : Inv s) (hs : Sourced P s) (A : Asg)
    (hP : ∀ c, P c → clauseTrue A c = true)
    (hD : ∀ l ∈ decisions s ++ assumptions s, litTrue A l = true) :
    ∀ e ∈ s.es, litTrue A e.lit = true := by
  refine inv_entailed h A (fun c hc => ?_) (fun l hl => ?_)
    (fun l hl => hD l (List.mem_append_left _ hl)) (fun l hl => hD l (List.mem_append_right _ hl))
  · obtain ⟨x, hx, hxr⟩ := List.mem_filterMap.1 hc
    exact hP c (hs.reasons x hx c hxr)
  · obtain ⟨x, hx, rfl, hr, ha, hl1⟩ := mem_facts.1 hl
    rw [← clauseTrue_singleton]
    exact hP _ (hs.facts x hx hr ha (Nat.le_antisymm hl1 (h.lvls_pos x hx)))

theorem reachable_entailed_db (db : List (List Int)) {ops : List Op} {s : State}
    (hrun : run empty ops = some s) (hops : ∀ o ∈ ops, OpOk (CnfEntails db) o) :
    ∀ e ∈ s.es, CnfEntails (db ++ (decisions s ++ assumptions s).map (fun l => [l])) [e.lit] := by
  intro e he A hA
  rw [cnfTrue, List.all_append, Bool.and_eq_true] at hA
  rw [clauseTrue_singleton]
  refine sourced_entailed (reachable_inv hrun)
    (run_preserves_sourced ops init_inv empty_sourced hops hrun) A (fun c hc => hc A hA.1)
    (fun l hl => ?_) e he
  rw [← clauseTrue_singleton]
  exact List.all_eq_true.1 hA.2 [l] (List.mem_map_of_mem hl)

theorem takeWhile_eq_filter_of_mono (k : Nat) {es : List Entry} (h : es.Pairwise (fun x y => x.lvl ≤ y.lvl)) :
    es.takeWhile (fun e => decide (e.lvl ≤ k)) = es.filter (fun e => decide (e.lvl ≤ k)) :=
  takeWhile_eq_filter (h.imp fun hxy hy => decide_eq_true (Nat.le_trans hxy (of_decide_eq_true hy)))

theorem mem_backjump {s s' : State} {k : Nat} (hm : s.es.Pairwise (fun x y => x.lvl ≤ y.lvl))
    (hs : backjumpOp s k = some s') :
    s'.lvl = k ∧ s'.es = s.es.filter (fun e => decide (e.lvl ≤ k)) ∧
    ∀ e, e ∈ s'.es ↔ e ∈ s.es ∧ e.lvl ≤ k := by
  obtain ⟨_, _, rfl⟩ := backjumpOp_some hs
  refine ⟨rfl, takeWhile_eq_filter_of_mono k hm, fun e => ?_⟩
  show e ∈ s.es.takeWhile _ ↔ _
  rw [takeWhile_eq_filter_of_mono k hm, List.mem_filter, decide_eq_true_eq]

theorem unbound_takeWhile {es : List Entry} (hnd : es.Pairwise (fun x y => x.var ≠ y.var))
    {l : Int} {k : Nat} (hk : k < lvOf es l.natAbs) :
    unbound (es.takeWhile (fun e => decide (e.lvl ≤ k))) l = true := by
  rw [unbound_iff]
  intro e he hev
  have h1 := lvOf_of_mem hnd ((List.takeWhile_sublist _).subset he)
  have h2 : e.lvl ≤ k :=
    of_decide_eq_true (of_mem_takeWhile (p := fun e : Entry => decide (e.lvl ≤ k)) he)
  rw [hev] at h1
  omega

theorem assertLearned_accepts {s : State} (hm : s.es.Pairwise (fun x y => x.lvl ≤ y.lvl))
    {l : Int} {c : List Int} {k : Nat} (h1 : 1 ≤ k) (hk : k ≤ s.lvl) (hl0 : l ≠ 0) (hlc : l ∈ c)
    (hub : ∀ e ∈ s.es, e.var = l.natAbs → k < e.lvl)
    (hfalse : ∀ f ∈ c, f ≠ l → ∃ e ∈ s.es, e.lit = -f ∧ e.lvl ≤ k) :
    step s (.assertLearned l c k) =
      some ⟨k, s.es.filter (fun e => decide (e.lvl ≤ k)) ++ [⟨l, k, false, some c⟩]⟩ := by
  have hbj : backjumpOp s k = some ⟨k, s.es.takeWhile (fun e => decide (e.lvl ≤ k))⟩ := by
    unfold backjumpOp
    rw [if_pos (by simp only [Bool.and_eq_true, decide_eq_true_eq]; exact ⟨h1, hk⟩)]
  obtain ⟨_, hfil, hmem⟩ := mem_backjump hm hbj
  simp only at hfil hmem
  simp only [step, assertLearnedOp, hbj, propagateOp]
  rw [if_pos, push, hfil]
  simp only [Bool.and_eq_true, bne_iff_ne, ne_eq, unbound_iff, isUnit_iff, isFalse_iff]
  refine ⟨⟨hl0, fun e he hev => ?_⟩, hlc, fun f hf hne => ?_⟩
  · obtain ⟨hes, hel⟩ := (hmem e).1 he
    have := hub e hes hev
    omega
  · obtain ⟨e, he, hef, hel⟩ := hfalse f hf hne
    exact ⟨e, (hmem e).2 ⟨he, hel⟩, hef⟩

/-- **The learned clause is unit after the backjump** (`backtrackData` + `cleanupBindings` +
    `unifyLiteral`); the backjump level is the level of the first literal of `rest`, as
    `backtrackData` reads it (`c.Get(1)`). -/
theorem assertLearned_enabled {s : State} {confl : List Int} {a : Int} {rest : List Int}
    (h : Inv s) (ha : analyze (s.toSt confl) = .learned a rest) :
    ∃ s', step s (.assertLearned a (a :: rest) (lvOf s.es (rest.headD 0).natAbs)) = some s' ∧
      s'.lvl = lvOf s.es (rest.headD 0).natAbs ∧ s'.lvl < s.lvl ∧
      s'.es = s.es.filter (fun e => decide (e.lvl ≤ s'.lvl)) ++
        [⟨a, s'.lvl, false, some (a :: rest)⟩] := by
  rw [analyze_toSt] at ha
  obtain ⟨hne, hfa, hla, hrest, hsorted⟩ :=
    (analyzeE_asserting s.es s.lvl confl h.trail.bound).1 a rest ha
  obtain ⟨b, rest', rfl⟩ := List.exists_cons_of_ne_nil hne
  simp only [List.headD_cons]
  have hb := hrest b List.mem_cons_self
  obtain ⟨yb, hyb, _, hybl⟩ := isFalse_lvl h.trail.nodup hb.1
  obtain ⟨ya, hya, hyal, _⟩ := isFalse_lvl h.trail.nodup hfa
  have ha0 : a ≠ 0 := by have := h.trail.nonzero ya hya; omega
  refine ⟨_, assertLearned_accepts h.trail.mono (hybl ▸ h.lvls_pos yb hyb) (Nat.le_of_lt hb.2) ha0
    List.mem_cons_self (fun e he hev => ?_) (fun f hf hfa' => ?_), rfl, hb.2, rfl⟩
  · rw [← lvOf_of_mem h.trail.nodup he, hev, hla]
    exact hb.2
  · have hfr : f ∈ b :: rest' := (List.mem_cons.1 hf).resolve_left hfa'
    obtain ⟨y, hy, hyl, hylv⟩ := isFalse_lvl h.trail.nodup (hrest f hfr).1
    refine ⟨y, hy, hyl, ?_⟩
    rw [hylv]
    rcases List.mem_cons.1 hfr with rfl | hfr'
    · exact Nat.le_refl _
    · exact (List.pairwise_cons.1 hsorted).1 f hfr'

/-- **A learned unit is an enabled fact** after the restart to level 1 (`cleanupBindings(1)`,
    `addLearnedUnit`, `unifyLiteral(unit, 1)`), when the conflict was above the top level. -/
theorem learnedUnit_enabled {s : State} {confl : List Int} {l : Int}
    (h : Inv s) (h2 : 2 ≤ s.lvl) (hl : analyze (s.toSt confl) = .unit l) :
    ∃ s', run s [.backjump 1, .addFact l] = some s' ∧ s'.lvl = 1 ∧
      s'.es = s.es.filter (fun e => decide (e.lvl ≤ 1)) ++ [⟨l, 1, false, none⟩] := by
  rw [analyze_toSt] at hl
  obtain ⟨hfl, hll⟩ := (analyzeE_asserting s.es s.lvl confl h.trail.bound).2 l hl
  obtain ⟨y, hy, hyl, _⟩ := isFalse_lvl h.trail.nodup hfl
  have hl0 : l ≠ 0 := by have := h.trail.nonzero y hy; omega
  have hg1 : (decide (1 ≤ 1) && decide (1 ≤ s.lvl)) = true := by
    rw [Bool.and_eq_true, decide_eq_true_eq, decide_eq_true_eq]; omega
  have hg2 : (l != 0 && unbound (s.es.takeWhile (fun e => decide (e.lvl ≤ 1))) l &&
      (1 : Nat) == 1) = true := by
    rw [unbound_takeWhile h.trail.nodup (by omega), bne_iff_ne.2 hl0]; rfl
  refine ⟨⟨1, s.es.filter (fun e => decide (e.lvl ≤ 1)) ++ [⟨l, 1, false, none⟩]⟩, ?_, rfl, rfl⟩
  simp only [run, step, backjumpOp, if_pos hg1, addFactOp, if_pos hg2, push]
  rw [takeWhile_eq_filter_of_mono 1 h.trail.mono]

/-- At the top level the analysis never returns a clause (there is no level to jump back to):
    with `analyze_not_stuck` it answers `unit` — false at level 1, `propagateAndSearch` then
    returns `Unsat` — or `topLevel`. -/
theorem level1_no_learned {s : State} {confl : List Int} (h : Inv s) (h1 : s.lvl = 1)
    (a : Int) (rest : List Int) : analyze (s.toSt confl) ≠ .learned a rest := by
  intro ha
  rw [analyze_toSt] at ha
  obtain ⟨hne, _, _, hrest, _⟩ := (analyzeE_asserting s.es s.lvl confl h.trail.bound).1 a rest ha
  obtain ⟨b, rest', rfl⟩ := List.exists_cons_of_ne_nil hne
  obtain ⟨hfb, hlb⟩ := hrest b List.mem_cons_self
  obtain ⟨y, hy, _, hyl⟩ := isFalse_lvl h.trail.nodup hfb
  have := h.lvls_pos y hy
  omega

theorem decision_unique {s : State} (h : Inv s) {k : Nat} (hk : 2 ≤ k) {e1 e2 : Entry}
    (h1 : e1 ∈ s.es) (h2 : e2 ∈ s.es) (hr1 : e1.reason = none) (ha1 : e1.assumed = false)
    (hl1 : e1.lvl = k) (hr2 : e2.reason = none) (ha2 : e2.assumed = false) (hl2 : e2.lvl = k) :
    e1 = e2 := by
  obtain ⟨pre, post, hsp⟩ := List.append_of_mem h2
  rw [hsp, List.mem_append, List.mem_cons] at h1
  rcases h1 with h1 | rfl | h1
  · exact absurd hl1 (h.decisions k hk pre e2 post hsp hr2 ha2 hl2 e1 h1)
  · rfl
  · obtain ⟨p1, p2, hp⟩ := List.append_of_mem h1
    have hsp' : s.es = (pre ++ e2 :: p1) ++ e1 :: p2 := by rw [hsp, hp]; simp
    exact absurd hl2 (h.decisions k hk _ e1 p2 hsp' hr1 ha1 hl1 e2 (by simp))

/-- Every level `2 … lvl` has its decision on the trail (with `Inv.decisions`: exactly one, the
    first entry of the level — what `decisionLits` relies on: `lits := make([]Lit, lvls-1)`). -/
def HasDecisions (s : State) : Prop :=
  ∀ k, 2 ≤ k → k ≤ s.lvl → ∃ e ∈ s.es, e.lvl = k ∧ e.reason = none ∧ e.assumed = false

theorem push_hasDecisions {s : State} (h : HasDecisions s) {l : Int} {k : Nat} {a : Bool}
    {r : Option (List Int)} (hk : k = s.lvl ∨ (k = s.lvl + 1 ∧ r = none ∧ a = false)) :
    HasDecisions (push s l k a r) := by
  intro k' h2 hle
  change k' ≤ k at hle
  by_cases hold : k' ≤ s.lvl
  · obtain ⟨e, he, h'⟩ := h k' h2 hold
    exact ⟨e, List.mem_append_left _ he, h'⟩
  · rcases hk with hk | ⟨hk, hr, ha⟩
    · omega
    · refine ⟨⟨l, k, a, r⟩, List.mem_append_right _ List.mem_cons_self, ?_, hr, ha⟩
      show k = k'
      omega

theorem backjump_hasDecisions {s s' : State} {k : Nat}
    (hm : s.es.Pairwise (fun x y => x.lvl ≤ y.lvl)) (h : HasDecisions s)
    (hs : backjumpOp s k = some s') : HasDecisions s' := by
  obtain ⟨hl, _, hmem⟩ := mem_backjump hm hs
  have hk := (backjumpOp_some hs).2.1
  intro k' h2 hle
  rw [hl] at hle
  obtain ⟨e, he, hek, h'⟩ := h k' h2 (Nat.le_trans hle hk)
  exact ⟨e, (hmem e).2 ⟨he, by omega⟩, hek, h'⟩

theorem step_preserves_hasDecisions {s s' : State} {o : Op}
    (hm : s.es.Pairwise (fun x y => x.lvl ≤ y.lvl)) (h : HasDecisions s)
    (hs : step s o = some s') : HasDecisions s' := by
  rcases step_cases hs with ⟨k, hb⟩ | ⟨s1, l, k, a, r, h1, ok, rfl⟩
  · exact backjump_hasDecisions hm h hb
  · have hd1 : HasDecisions s1 := h1.elim (fun e => e ▸ h) fun ⟨j, hj⟩ => backjump_hasDecisions hm h hj
    exact push_hasDecisions hd1 (ok.lvl.imp And.left id)

theorem run_preserves_hasDecisions (ops : List Op) {s s' : State} (hi : Inv s)
    (h : HasDecisions s) (hr : run s ops = some s') : HasDecisions s' :=
  (run_induction (P := fun t => Inv t ∧ HasDecisions t) ops
    (fun _ _ _ _ ht hs => ⟨step_preserves_inv ht.1 hs, step_preserves_hasDecisions ht.1.trail.mono ht.2 hs⟩)
    ⟨hi, h⟩ hr).2

theorem reachable_hasDecisions {ops : List Op} {s : State} (hrun : run empty ops = some s) :
    HasDecisions s :=
  run_preserves_hasDecisions ops init_inv (fun k h2 hle => by change k ≤ 1 at hle; omega) hrun

theorem reachable_decisions {ops : List Op} {s : State} (hrun : run empty ops = some s) :
    ∀ k, 2 ≤ k → k ≤ s.lvl → ∃ e ∈ s.es, e.lvl = k ∧ e.reason = none ∧ e.assumed = false ∧
      (∀ e' ∈ s.es, e'.lvl = k → e'.reason = none → e'.assumed = false → e' = e) ∧
      ∀ pre post, s.es = pre ++ e :: post → ∀ x ∈ pre, x.lvl < k := by
  intro k h2 hle
  have hi := reachable_inv hrun
  obtain ⟨e, he, hek, hr, ha⟩ := reachable_hasDecisions hrun k h2 hle
  refine ⟨e, he, hek, hr, ha, fun e' he' hl' hr' ha' => decision_unique hi h2 he' he hr' ha' hl' hr ha hek,
    fun pre post hsp x hx => ?_⟩
  have hne := hi.decisions k h2 pre e post hsp hr ha hek x hx
  have hmono := hi.trail.mono
  rw [hsp, List.pairwise_append] at hmono
  have := hmono.2.2 x hx e List.mem_cons_self
  omega

/-- The last trail entry is at the current level (where `GS.EnumRound.decisionLits` reads it). -/
theorem last_lvl {s : State} (hi : Inv s) (hd : HasDecisions s) {last : Entry}
    (hl : s.es.getLast? = some last) : last ∈ s.es ∧ last.lvl = s.lvl := by
  obtain ⟨ys, hys⟩ := List.getLast?_eq_some_iff.1 hl
  have hmem : last ∈ s.es := by rw [hys]; simp
  refine ⟨hmem, ?_⟩
  have hb := hi.trail.bound last hmem
  by_cases h2 : 2 ≤ s.lvl
  · obtain ⟨e, he, hek, _⟩ := hd s.lvl h2 (Nat.le_refl _)
    rw [hys, List.mem_append, List.mem_singleton] at he
    rcases he with he | rfl
    · have hm := hi.trail.mono
      rw [hys, List.pairwise_append] at hm
      have := hm.2.2 e he last (by simp)
      omega
    · exact hek
  · have := hi.lvls_pos last hmem
    omega

/-- The trail entries behind `decisions`. -/
def decEntries (s : State) : List Entry :=
  s.es.filter (fun e => e.reason.isNone && !e.assumed && decide (2 ≤ e.lvl))

theorem mem_decEntries {s : State} {e : Entry} :
    e ∈ decEntries s ↔ e ∈ s.es ∧ e.reason = none ∧ e.assumed = false ∧ 2 ≤ e.lvl := by
  simp only [decEntries, List.mem_filter, Bool.and_eq_true, Option.isNone_iff_eq_none,
    Bool.not_eq_true', decide_eq_true_eq, and_assoc]

/-- The decisions, in trail order, are those of the levels `2, 3, …, lvl`: their levels are sorted
    (`mono`), pairwise different (`decision_unique`), and every level has one (`HasDecisions`). -/
theorem decEntries_lvl {s : State} (hi : Inv s) (hd : HasDecisions s) :
    (decEntries s).map (·.lvl) = List.range' 2 (s.lvl - 1) := by
  have hsub : (decEntries s).Sublist s.es := List.filter_sublist
  have hnd : ((decEntries s).map (·.lvl)).Nodup :=
    List.pairwise_map.2 ((hi.trail.nodup.sublist hsub).imp_of_mem fun {a b} ha hb hv hl => by
      obtain ⟨ha, ra, aa, ka⟩ := mem_decEntries.1 ha
      obtain ⟨hb, rb, ab, _⟩ := mem_decEntries.1 hb
      exact hv (congrArg Entry.var (decision_unique hi ka ha hb ra aa rfl rb ab hl.symm)))
  refine List.Perm.eq_of_pairwise (le := (· ≤ ·)) (fun _ _ _ _ => Nat.le_antisymm)
    (List.pairwise_map.2 (hi.trail.mono.sublist hsub)) List.pairwise_le_range'
    ((List.perm_ext_iff_of_nodup hnd List.nodup_range').2 fun k => ?_)
  have := hi.lvl_pos
  rw [List.mem_map, List.mem_range'_1]
  constructor
  · rintro ⟨e, he, rfl⟩
    obtain ⟨he, _, _, h2⟩ := mem_decEntries.1 he
    have := hi.trail.bound e he
    omega
  · intro hk
    obtain ⟨e, he, hek, hr, ha⟩ := hd k hk.1 (by omega)
    exact ⟨e, mem_decEntries.2 ⟨he, hr, ha, hek ▸ hk.1⟩, hek⟩

/-- A level-1 trail entry without antecedent (a fact, or an assumption when `a`). -/
def entry1 (a : Bool) (l : Int) : Entry := { lit := l, lvl := 1, assumed := a, reason := none }

/-- Fresh assumptions over pairwise distinct variables are accepted one after the other at level 1
    (the trail `Solver.Assume` leaves; used by `GS.Props.C10_Assume`). -/
theorem run_assumes : ∀ (new : List Int) (es : List Entry),
    (∀ l ∈ new, l ≠ 0) → (∀ e ∈ es, ∀ l ∈ new, e.var ≠ l.natAbs) →
    new.Pairwise (fun a b => a.natAbs ≠ b.natAbs) →
    run { lvl := 1, es := es } (new.map Op.assume) =
      some { lvl := 1, es := es ++ new.map (entry1 true) } := by
  intro new
  induction new with
  | nil => intro es _ _ _; simp [run]
  | cons l ls ih =>
    intro es h0 hd hp
    have hl0 : l ≠ 0 := h0 l List.mem_cons_self
    have hub : unbound es l = true := by
      rw [unbound_iff]; intro e he; exact hd e he l List.mem_cons_self
    rw [List.pairwise_cons] at hp
    have hne : (l != 0) = true := by simp [hl0]
    simp only [List.map_cons, run, step, assumeOp, hub, hne, Bool.and_self,
      beq_self_eq_true, if_true, push]
    have hd' : ∀ e ∈ es ++ [entry1 true l], ∀ x ∈ ls, e.var ≠ x.natAbs := by
      intro e he x hx
      rcases List.mem_append.1 he with he | he
      · exact hd e he x (List.mem_cons_of_mem _ hx)
      · rw [List.mem_singleton.1 he]
        exact hp.1 x hx
    rw [show (⟨l, 1, true, none⟩ : Entry) = entry1 true l from rfl,
      ih _ (fun x hx => h0 x (List.mem_cons_of_mem _ hx)) hd' hp.2, List.append_assoc]
    rfl

theorem assumptions_entry1 (fs new : List Int) :
    assumptions ⟨1, fs.map (entry1 false) ++ new.map (entry1 true)⟩ = new := by
  have h1 : (fs.map (entry1 false)).filter (fun e => e.reason.isNone && e.assumed) = [] :=
    List.filter_eq_nil_iff.2 (fun e he => by obtain ⟨l, _, rfl⟩ := List.mem_map.1 he; simp [entry1])
  have h2 : (new.map (entry1 true)).filter (fun e => e.reason.isNone && e.assumed) =
      new.map (entry1 true) :=
    List.filter_eq_self.2 (fun e he => by obtain ⟨l, _, rfl⟩ := List.mem_map.1 he; rfl)
  simp only [assumptions, List.filter_append, h1, h2, List.nil_append, List.map_map]
  exact List.map_id' _

def exOps : List Op :=
  [.addFact 7, .decide 6, .decide 1, .propagate 2 [-1, 2], .propagate 3 [-1, 3],
   .propagate 4 [-2, -3, 4], .propagate 5 [-4, 5]]

def exConfl : List Int := [-5, -6, -3]

def exDb : List (List Int) := [[7], [-1, 2], [-1, 3], [-2, -3, 4], [-4, 5], [-5, -6, -3]]

def exState : State :=
  { lvl := 3,
    es := [⟨7, 1, false, none⟩, ⟨6, 2, false, none⟩, ⟨1, 3, false, none⟩,
           ⟨2, 3, false, some [-1, 2]⟩, ⟨3, 3, false, some [-1, 3]⟩,
           ⟨4, 3, false, some [-2, -3, 4]⟩, ⟨5, 3, false, some [-4, 5]⟩] }

example : run empty exOps = some exState := by decide +kernel
example : falsified exState exConfl = true := by decide +kernel
example : analyze (exState.toSt exConfl) = .learned (-1) [-6] := by decide +kernel
example : invB exState = true := by decide +kernel
example : opsFrom exDb exOps = true := by decide +kernel

example : step exState (.assertLearned (-1) [-1, -6] (lvOf exState.es ((-6 : Int)).natAbs)) =
    some { lvl := 2, es := [⟨7, 1, false, none⟩, ⟨6, 2, false, none⟩,
                            ⟨-1, 2, false, some [-1, -6]⟩] } := by decide +kernel

example : CnfEntails exDb [-1, -6] :=
  ((reachable_analyze_sound exDb (ops := exOps) (s := exState) (confl := exConfl) (by decide +kernel)
    (opsFrom_ok (by decide +kernel)) (by decide +kernel) (CnfEntails.of_mem (by decide +kernel))).2.1 (-1) [-6]
    (by decide +kernel)).1

example : CnfEntails (exDb ++ [[6], [1]]) [5] :=
  reachable_entailed_db exDb (ops := exOps) (s := exState) (by decide +kernel) (opsFrom_ok (by decide +kernel))
    ⟨5, 3, false, some [-4, 5]⟩ (by decide +kernel)

example : ∃ s', step exState (.assertLearned (-1) [-1, -6] 2) = some s' ∧ s'.lvl = 2 := by
  obtain ⟨s', h1, h2, _⟩ := assertLearned_enabled (s := exState) (confl := exConfl)
    ((invB_iff _).1 (by decide +kernel)) (a := -1) (rest := [-6]) (by decide +kernel)
  exact ⟨s', h1, h2⟩

example : analyze ((⟨2, [⟨1, 2, false, none⟩, ⟨2, 2, false, some [-1, 2]⟩]⟩ : State).toSt [-2, -1])
    = .unit (-1) := by decide +kernel

/-- Assumptions: the walk stops at an assumed variable (`topLevel`). -/
example : (run empty [.assume 1, .assume 2, .propagate 3 [-1, -2, 3]]).map
    (fun s => (invB s, falsified s [-3, -1, -2], analyze (s.toSt [-3, -1, -2]))) =
    some (true, true, .topLevel) := by decide +kernel

/-! ### what is *not* preserved, with witnesses -/

/-- (1) `decisionsOk` at the current level is **not** an invariant at level 1: two facts (two
    unit clauses of the problem, or a fact and a learned unit) are two reason-less entries of
    level 1.  The run below is what `New` / the learned-unit branch do.  What the analysis needs at
    level 1 is `FactsEntailed`, provided by `factsEntailed` from `Sourced`; the invariant keeps
    `decisionsOk` at every level `≥ 2` (`Inv.decisions`, `Inv.bool`). -/
example : (run empty [.addFact 1, .addFact 2]).map (fun s => (decisionsOk s.es s.lvl, invB s)) =
    some (false, true) := by decide +kernel

/-- (2) `New` copies `problem.Units` as they are: with a repeated unit clause the variable is
    twice on the trail and `trailInv` fails (`init_units_inv_statement_false`); `addFact` has the
    guard `unbound` (as `propagateUnits` and `Assume` do with `litStatus`) and refuses it. -/
example : run empty [.addFact 1, .addFact 1] = none := by decide +kernel

/-- (3) `falsified` asks for pairwise distinct literals because `conflOk` does: on a conflict that
    repeats a false literal of the current level `nbLvl` over-counts and the walk runs off the
    trail (`s.trail[-1]` in Go), although the state meets the invariant. -/
example : (run empty [.decide 1]).map (fun s => (invB s, analyze (s.toSt [-1, -1, -1]))) =
    some (true, .stuck) := by decide +kernel

/-- (4) guards are needed: a decision on a bound variable, a propagation by a clause that is
    not unit, a backjump above the current level are refused. -/
example : run empty [.decide 1, .decide (-1)] = none := by decide +kernel
example : run empty [.decide 1, .propagate 3 [-1, 2, 3]] = none := by decide +kernel
example : run empty [.decide 1, .backjump 3] = none := by decide +kernel

end GS.Trail

#print axioms GS.Trail.step_preserves_inv
#print axioms GS.Trail.init_inv
#print axioms GS.Trail.init_units_inv_partial
#print axioms GS.Trail.init_units_inv_statement_false
#print axioms GS.Trail.reachable_inv
#print axioms GS.Trail.reachable_inv_partial
#print axioms GS.Trail.invB_iff
#print axioms GS.Trail.conflict_ok
#print axioms GS.Trail.reachable_analyze_sound
#print axioms GS.Trail.reachable_analyze_sound_partial
#print axioms GS.Trail.reachable_entailed
#print axioms GS.Trail.reachable_entailed_db
#print axioms GS.Trail.assertLearned_enabled
#print axioms GS.Trail.learnedUnit_enabled
#print axioms GS.Trail.mem_backjump
#print axioms GS.Trail.level1_no_learned
#print axioms GS.Trail.reachable_decisions
