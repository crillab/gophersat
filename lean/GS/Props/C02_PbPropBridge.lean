import GS.Props.C02_PbProp
import GS.Props.C02_TrailPb
/-!
# C02 (support) — the literals propagated by the constraint-propagation mirror pass the guard of the abstract trail machine

Every literal the mirrors `simplifyCard` (of `simplifyCardConstr`) and `simplifyPB` (of
`simplifyPseudoBool`) hand to `propagateUnit` is an enabled `propagatePb` step of `GS.TrailPb` (guard
`forcedPb`), in order, starting from any abstract state whose entries agree with the solver's assignment at
the call (`Agree`), each step taken in the state that already contains the literals propagated earlier in
the call: `simplifyCard_enabled`, `simplifyPB_enabled` (the analogue of `GS.Watch.forced_propagate_guard`).
The constraint recorded as antecedent is the constraint itself (`Lin.ofCard lits card`, resp.
`⟨weights.zip lits, card⟩`), as `propagateUnit` stores `c` in `s.reason[v]`.
-/
namespace GS.PbProp
open GS GS.Analyze GS.TrailPb

/-- The signed-level array `m` and the trail entries `es` describe the same partial assignment. -/
structure Agree (m : Nat → Int) (es : List Entry) : Prop where
  bound : ∀ v, m v ≠ 0 → ∃ e ∈ es, e.lit.natAbs = v
  sign : ∀ e ∈ es, e.lit ≠ 0 ∧ m e.lit.natAbs ≠ 0 ∧ (m e.lit.natAbs > 0 ↔ e.lit > 0)

theorem agree_nil : Agree (fun _ => 0) [] :=
  ⟨fun _ h => absurd rfl h, fun _ h => by cases h⟩

theorem agree_unbound {m : Nat → Int} {es : List Entry} (h : Agree m es) {l : Int}
    (hu : m l.natAbs = 0) : GS.Trail.unbound es l = true := by
  unfold GS.Trail.unbound
  rw [List.all_eq_true]
  intro e he
  have := (h.sign e he).2.1
  simp only [Entry.var, bne_iff_ne, ne_eq]
  intro heq
  rw [heq] at this
  exact this hu

theorem agree_isFalse {m : Nat → Int} {es : List Entry} (h : Agree m es) {l : Int}
    (hs : litStatus m l = .unsat) : Analyze.isFalse es l = true := by
  have h0 : m l.natAbs ≠ 0 := fun e => by rw [status_indet_iff.2 e] at hs; cases hs
  rw [status_of_bound h0] at hs
  have hne : ¬ (m l.natAbs > 0 ↔ l > 0) := fun h' => by rw [if_pos (decide_eq_decide.2 h')] at hs; cases hs
  -- the entry that binds the variable of `l` has the sign of `m`, which is not that of `l`
  obtain ⟨e, he, hv⟩ := h.bound _ h0
  obtain ⟨_, _, hsg⟩ := h.sign e he
  rw [hv] at hsg
  exact List.any_eq_true.2 ⟨e, he, beq_iff_eq.2 (by omega)⟩

theorem agree_push {m : Nat → Int} {es : List Entry} (h : Agree m es) {l lvl : Int}
    (hu : m l.natAbs = 0) (hl0 : l ≠ 0) (hlvl : 0 < lvl) (e : Entry) (hel : e.lit = l) :
    Agree (bind m l lvl) (es ++ [e]) := by
  constructor
  · intro v hv
    unfold bind at hv
    by_cases hvl : v = l.natAbs
    · exact ⟨e, by simp, by rw [hel, hvl]⟩
    · simp only [hvl, if_false] at hv
      obtain ⟨e', he', h'⟩ := h.bound v hv
      exact ⟨e', by simp [he'], h'⟩
  · intro e' he'
    rcases List.mem_append.1 he' with he' | he'
    · have := h.sign e' he'
      have hne : e'.lit.natAbs ≠ l.natAbs := fun heq => this.2.1 (by rw [heq]; exact hu)
      unfold bind
      simp only [hne, if_false]
      exact this
    · simp only [List.mem_singleton] at he'
      subst he'
      rw [hel]
      unfold bind signedLvl
      simp only [if_true]
      refine ⟨hl0, ?_, ?_⟩
      · split <;> omega
      · split <;> omega

theorem slack_le_nf {m : Nat → Int} {es : List Entry} (h : Agree m es) {ts : List (Int × Int)}
    (hnn : ∀ t ∈ ts, 0 ≤ t.1) : slack (Analyze.isFalse es) [] ts ≤ litSum (nfFlag m) ts := by
  rw [slack_eq_litSum]
  refine litSum_mono hnn fun t _ ht => ?_
  cases hn : nfFlag m t.2
  · rw [agree_isFalse h (nfFlag_eq_false.1 hn)] at ht; cases ht
  · rfl

/-- One step: the test under which the mirrors call `propagateUnit` (`w > B − card` where `B` bounds the
    weight that is not false) enables `propagatePb`. -/
theorem enabled_step {st : St} {s : GS.TrailPb.State} {ts : List (Int × Int)} {card lvl B w l : Int}
    (hA : Agree st.m s.ents) (hnn : ∀ t ∈ ts, 0 ≤ t.1) (hB : litSum (nfFlag st.m) ts ≤ B) (hw : w > B - card)
    (hm : (w, l) ∈ ts) (hu : st.m l.natAbs = 0) (hl0 : l ≠ 0) (hlvl : 0 < lvl) :
    ∃ s', GS.TrailPb.step s (.propagatePb l ⟨ts, card⟩) = some s' ∧ Agree (propagateUnit st lvl l).m s'.ents ∧
      litSum (nfFlag (propagateUnit st lvl l).m) ts ≤ B := by
  have hunb := agree_unbound hA hu
  have hforced : forcedPb s.ents l ⟨ts, card⟩ = true := by
    rw [forcedPb_iff]
    refine ⟨List.mem_map.2 ⟨(w, l), hm, rfl⟩, ?_⟩
    unfold pbExplains
    simp only [Bool.and_eq_true, List.all_eq_true, decide_eq_true_eq]
    refine ⟨hnn, ?_⟩
    have h1 := slack_remove (Analyze.isFalse s.ents) l w (isFalse_of_unbound hunb) ts hnn hm
    have h2 := slack_le_nf hA hnn
    omega
  refine ⟨push s l s.lvl false (some ⟨ts, card⟩), ?_, ?_, ?_⟩
  · simp only [GS.TrailPb.step, propagatePbOp]
    simp [hl0, hunb, hforced]
  · simp only [push, State.ents, List.map_append, List.map_cons, List.map_nil, propagateUnit]
    exact agree_push hA hu hl0 hlvl _ rfl
  · exact Int.le_trans (litSum_mono hnn fun _ _ => nfFlag_of_ext (bind_of_bound hu)) hB

theorem run_cons_some {s s1 : GS.TrailPb.State} {o : Op} {os : List Op} (h : GS.TrailPb.step s o = some s1) :
    run s (o :: os) = run s1 os := by
  simp [run, h]

theorem Steps.enabled {lvl card : Int} {ts : List (Int × Int)} {st st' : St} {ps : List Int}
    (h : Steps lvl (Short ts card) st ps st') (hlvl : 0 < lvl) (hnn : ∀ t ∈ ts, 0 ≤ t.1)
    (hl0 : ∀ t ∈ ts, t.2 ≠ 0) : ∀ s : GS.TrailPb.State, Agree st.m s.ents →
      ∃ s', run s (ps.map fun l => Op.propagatePb l ⟨ts, card⟩) = some s' ∧ Agree st'.m s'.ents := by
  induction h with
  | nil => exact fun s hA => ⟨s, rfl, hA⟩
  | @cons st _ l _ hu hg _ ih =>
    intro s hA
    obtain ⟨w, hm, hw⟩ := hg.lt hnn
    obtain ⟨s1, h1, h2, _⟩ := enabled_step (card := card) (lvl := lvl) (B := litSum (nfFlag st.m) ts) hA hnn
      (Int.le_refl _) (by omega) hm hu (hl0 _ hm) hlvl
    obtain ⟨s', e1, e2⟩ := ih s1 h2
    exact ⟨s', by rw [List.map_cons, run_cons_some h1]; exact e1, e2⟩

theorem simplifyCard_enabled {lvl card : Int} (hlvl : 0 < lvl) {st st' : St} {b : Bool}
    (h : simplifyCard lvl card st = .ok (b, st')) (hp : st.props = [])
    (hl0 : ∀ l ∈ st.lits, l ≠ 0) (s : GS.TrailPb.State) (hA : Agree st.m s.ents) :
    ∃ s', run s (st'.props.map (fun l => Op.propagatePb l (Lin.ofCard st.lits card))) = some s' ∧
      Agree st'.m s'.ents := by
  cases simplifyCard_run h with
  | sat => rw [hp]; exact ⟨s, rfl, hA⟩
  | confl => rw [hp]; exact ⟨s, rfl, hA⟩
  | tight _ hs =>
    dsimp only
    rw [hp, List.nil_append]
    exact hs.enabled hlvl (ones_nonneg _) (fun t ht => hl0 _ (lit_mem_of_mem_ones ht)) s hA
  | swap _ hq =>
    have hf := swapFalse_effect hq
    rw [hf.2.1, hp, hf.1]; exact ⟨s, rfl, hA⟩

theorem simplifyPB_enabled {lvl card : Int} (hlvl : 0 < lvl) {st st' : St} {b : Bool}
    (hpos : ∀ w ∈ st.weights, 0 < w) (hlen : st.weights.length = st.lits.length)
    (h : simplifyPB lvl card st = .ok (b, st')) (hp : st.props = [])
    (hl0 : ∀ l ∈ st.lits, l ≠ 0) (s : GS.TrailPb.State) (hA : Agree st.m s.ents) :
    ∃ s', run s (st'.props.map (fun l => Op.propagatePb l ⟨st.weights.zip st.lits, card⟩)) = some s' ∧
      Agree st'.m s'.ents := by
  have hnn : ∀ w ∈ st.weights, 0 ≤ w := fun w hw => Int.le_of_lt (hpos w hw)
  obtain ⟨ps, m1, hs, he⟩ := pbLoop_run h
  have key : ∀ {ps : List Int} {st' : St}, Steps lvl (Short (st.weights.zip st.lits) card) st ps st' →
      ∃ s', run s (st'.props.map (fun l => Op.propagatePb l ⟨st.weights.zip st.lits, card⟩)) = some s' ∧
        Agree st'.m s'.ents := fun hs => by
    obtain ⟨_, rfl⟩ := hs.after
    dsimp only
    rw [hp, List.nil_append]
    exact hs.enabled hlvl (zip_nonneg hnn) (fun t ht => hl0 _ (List.of_mem_zip ht).2) s hA
  cases he with
  | sat => exact key hs
  | confl => exact key hs
  | all hc =>
    obtain ⟨ps', hs', _⟩ := propagateAll_steps (lvl := lvl) (sk := st.after m1 ps) hpos hlen hc
    exact key (hs.trans hs')
  | upd _ hu =>
    have hf := updateWatchPB_frame hu
    rw [hf.1, hf.2.1]; exact key hs

/-- Non-vacuity: `3x1 + 2x2 + x3 ≥ 3` with `¬x1` on the trail: the run `propagatePb 2`, `propagatePb 3`
    is accepted by the trail machine. -/
example : (run ⟨2, [⟨-1, 2, false, none⟩]⟩
    ([2, 3].map (fun l => Op.propagatePb l ⟨[(3, 1), (2, 2), (1, 3)], 3⟩))).isSome = true := by decide
example : Agree (fun v => if v = 1 then -2 else 0) (State.ents ⟨2, [⟨-1, 2, false, none⟩]⟩) := by
  constructor
  · intro v hv
    refine ⟨⟨-1, 2, false, none⟩, by simp [State.ents, PEntry.toEntry], ?_⟩
    by_cases h : v = 1
    · simp [h]
    · simp [h] at hv
  · intro e he
    simp [State.ents, PEntry.toEntry] at he
    subst he
    simp

end GS.PbProp

#print axioms GS.PbProp.simplifyCard_enabled
#print axioms GS.PbProp.simplifyPB_enabled
#print axioms GS.PbProp.enabled_step
