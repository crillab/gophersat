import GS.Model.Constr
import GS.Spec.LitSum
/-!
# C02 (constructor layer) — constraints built through the public constructors mean what
integer arithmetic says

The theorems about the constructors (`gtEq_sem`, `ltEq_sem`, `eq_sem`, …) are for all literal lists, all integer
weights (negative, zero, positive; as many as literals) and all right-hand sides. Literals are only assumed
non-zero; "each variable occurs at most once" is not needed: a repeated literal, or a literal together with its
negation, is counted once per occurrence, on both sides of every equivalence. The case analysis of the parsers
(`frontPB_sound`) needs `PBC.normal`, `saturate_sem` non-negative weights and degree: the examples at the end of
the file show why.
-/
namespace GS.Constr
open GS

/-- `Σ wsᵢ·[litsᵢ]_a` (`GS.Simplify.wsum` is another thing: the total weight of a term list) -/
def wsum (a : Asg) (lits ws : List Int) : Int := lhs a (ws.zip lits)

/-- number of occurrences of true literals (`GS.Simplify.cnt` is the same number as an `Int`) -/
def count (a : Asg) (lits : List Int) : Nat := lits.countP (litTrue a)

/-- A constraint in the normal form produced by the constructors: non-zero literals and, when the
    weights are explicit, as many weights as literals, all of them strictly positive. -/
def PBC.normal (c : PBC) : Bool :=
  c.lits.all (fun l => l != 0) &&
  match c.weights with
  | none => true
  | some ws => ws.length == c.lits.length && ws.all (fun w => decide (0 < w))

theorem termVal_neg_neg (a : Asg) (w l : Int) (h : l ≠ 0) :
    termVal a (-w, -l) = termVal a (w, l) - w := by
  simp only [termVal, litTrue_neg a l h]
  cases litTrue a l <;> simp

theorem count_nil (a : Asg) : count a [] = 0 := rfl

theorem count_cons (a : Asg) (l : Int) (ls : List Int) :
    count a (l :: ls) = count a ls + (if litTrue a l = true then 1 else 0) := by
  simp [count, List.countP_cons]

theorem wsum_cons (a : Asg) (l w : Int) (ls ws : List Int) :
    wsum a (l :: ls) (w :: ws) = termVal a (w, l) + wsum a ls ws := rfl

theorem count_le_length (a : Asg) (lits : List Int) : count a lits ≤ lits.length :=
  List.countP_le_length

theorem count_neg (a : Asg) (lits : List Int) (hz : ∀ l ∈ lits, l ≠ 0) :
    count a (lits.map (fun l => -l)) + count a lits = lits.length := by
  induction lits with
  | nil => rfl
  | cons l ls ih =>
    rw [List.forall_mem_cons] at hz
    have := ih hz.2
    rw [List.map_cons, count_cons, count_cons, litTrue_neg a l hz.1, List.length_cons]
    cases litTrue a l <;> simp <;> omega

theorem wsum_neg (a : Asg) (lits ws : List Int) (hlen : lits.length = ws.length)
    (hz : ∀ l ∈ lits, l ≠ 0) : wsum a (lits.map (fun l => -l)) ws = ws.sum - wsum a lits ws := by
  induction lits generalizing ws with
  | nil => cases ws with
    | nil => rfl
    | cons _ _ => cases hlen
  | cons l ls ih => cases ws with
    | nil => cases hlen
    | cons w ws =>
      rw [List.forall_mem_cons] at hz
      rw [List.map_cons, wsum_cons, wsum_cons, List.sum_cons, termVal_neg a (w, l) hz.1,
        ih ws (Nat.succ.inj hlen) hz.2]
      omega

theorem sum_eq_litSum {lits ws : List Int} (hlen : lits.length = ws.length) :
    ws.sum = litSum (fun _ => true) (ws.zip lits) := by
  rw [litSum_true, List.map_fst_zip (Nat.le_of_eq hlen.symm)]

theorem wsum_bounds (a : Asg) (lits ws : List Int) (hlen : lits.length = ws.length)
    (hp : ∀ w ∈ ws, 0 ≤ w) : 0 ≤ wsum a lits ws ∧ wsum a lits ws ≤ ws.sum := by
  have hnn : ∀ t ∈ ws.zip lits, 0 ≤ t.1 := fun t ht => hp _ (List.of_mem_zip ht).1
  rw [wsum, lhs_eq_litSum, sum_eq_litSum hlen]
  exact ⟨litSum_nonneg _ hnn, litSum_mono hnn fun _ _ _ => rfl⟩

theorem wsum_eq_sum_iff (a : Asg) (lits ws : List Int) (hlen : lits.length = ws.length)
    (hp : ∀ w ∈ ws, 0 < w) : wsum a lits ws = ws.sum ↔ ∀ l ∈ lits, litTrue a l = true := by
  have hb := (wsum_bounds a lits ws hlen fun w hw => Int.le_of_lt (hp w hw)).2
  have hm := List.forall_mem_map (P := fun l => litTrue a l = true) (f := Prod.snd) (l := ws.zip lits)
  rw [List.map_snd_zip (Nat.le_of_eq hlen)] at hm
  rw [wsum] at hb ⊢
  rw [hm, ← litSum_full fun t ht => hp _ (List.of_mem_zip ht).1, ← sum_eq_litSum hlen, ← lhs_eq_litSum]
  omega

theorem count_eq_length_iff (a : Asg) (lits : List Int) :
    count a lits = lits.length ↔ ∀ l ∈ lits, litTrue a l = true := by
  simp [count, List.countP_eq_length]

theorem count_pos_iff (a : Asg) (lits : List Int) :
    0 < count a lits ↔ clauseTrue a lits = true := by
  simp [count, clauseTrue, List.countP_pos_iff]

theorem sem_none (a : Asg) (lits : List Int) (n : Int) :
    (PBC.sem a ⟨lits, none, n⟩ = true ↔ n ≤ (count a lits : Int)) := by
  simp [PBC.sem, PBC.terms, lhs_ones, count]

theorem sem_some (a : Asg) (lits ws : List Int) (n : Int) :
    (PBC.sem a ⟨lits, some ws, n⟩ = true ↔ n ≤ wsum a lits ws) := by
  unfold PBC.sem PBC.terms wsum
  exact decide_eq_true_iff

theorem cardSem_eq (a : Asg) (c : CardC) : c.sem a = PBC.sem a ⟨c.lits, none, c.atLeast⟩ := rfl

theorem normal_none (lits : List Int) (n : Int) :
    (PBC.normal ⟨lits, none, n⟩ = true ↔ ∀ l ∈ lits, l ≠ 0) := by
  simp [PBC.normal]

theorem normal_some (lits ws : List Int) (n : Int) :
    (PBC.normal ⟨lits, some ws, n⟩ = true ↔
      (∀ l ∈ lits, l ≠ 0) ∧ ws.length = lits.length ∧ ∀ w ∈ ws, 0 < w) := by
  simp [PBC.normal]

theorem normal_lits_ne (k : PBC) (hn : k.normal = true) : ∀ l ∈ k.lits, l ≠ 0 := by
  rcases k with ⟨lits, _ | ws, n⟩
  · exact (normal_none _ _).mp hn
  · exact ((normal_some _ _ _).mp hn).1

/-- `PropClause(lits...)` is the clause. No hypothesis at all. -/
theorem propClause_sem (a : Asg) (lits : List Int) :
    (propClause lits).sem a = clauseTrue a lits := by
  rw [Bool.eq_iff_iff, propClause, sem_none, ← count_pos_iff]; omega

example : (propClause [1, -2, 1]).sem (asgOf [false, false]) = true := by decide +kernel

/-- `AtLeast(lits, n)`: at least `n` occurrences of true literals. No hypothesis at all. -/
theorem atLeast_sem (a : Asg) (lits : List Int) (n : Int) :
    ((atLeast lits n).sem a = true ↔ n ≤ (count a lits : Int)) := sem_none a lits n

example : (atLeast [1, -2, 3, 1] 3).sem (asgOf [true, false, false]) = true := by decide +kernel

/-- `AtMost(lits, n)`: at most `n` occurrences of true literals (non-zero literals). -/
theorem atMost_sem (a : Asg) (lits : List Int) (n : Int) (hz : ∀ l ∈ lits, l ≠ 0) :
    ((atMost lits n).sem a = true ↔ (count a lits : Int) ≤ n) := by
  have h := count_neg a lits hz
  simp only [atMost, sem_none, List.length_map]
  omega

example : (∀ l ∈ [1, -2, 3, -1], l ≠ 0) ∧
    (atMost [1, -2, 3, -1] 2).sem (asgOf [true, true, true]) = true := by decide +kernel

theorem atLeast1_sem (a : Asg) (lits : List Int) :
    (atLeast1 lits).sem a = clauseTrue a lits := propClause_sem a lits

theorem atMost1_sem (a : Asg) (lits : List Int) (hz : ∀ l ∈ lits, l ≠ 0) :
    ((atMost1 lits).sem a = true ↔ count a lits ≤ 1) := by
  have h := count_neg a lits hz
  simp only [atMost1, cardSem_eq, sem_none]
  omega

example : (∀ l ∈ [1, 2, -3], l ≠ 0) ∧ (atMost1 [1, 2, -3]).sem (asgOf [false, true, true]) = true := by
  decide +kernel

/-- `Exactly1(lits...)`: exactly one occurrence of a true literal. -/
theorem exactly1_sem (a : Asg) (lits : List Int) (hz : ∀ l ∈ lits, l ≠ 0) :
    ((exactly1 lits).all (fun c => c.sem a) = true ↔ count a lits = 1) := by
  have h1 := atMost1_sem a lits hz
  have h2 : ((atLeast1 lits).sem a = true ↔ 0 < count a lits) := by
    rw [atLeast1_sem, count_pos_iff]
  simp only [exactly1, List.all_cons, List.all_nil, Bool.and_true, Bool.and_eq_true, h1, h2]
  omega

example : (∀ l ∈ [1, 2, -3], l ≠ 0) ∧
    (exactly1 [1, 2, -3]).all (fun c => c.sem (asgOf [false, true, true])) = true := by decide +kernel

theorem gtEqLoop_lhs (a : Asg) (lits ws : List Int) (n : Int) (hz : ∀ l ∈ lits, l ≠ 0) :
    wsum a (gtEqLoop lits ws n).1 (gtEqLoop lits ws n).2.1 - (gtEqLoop lits ws n).2.2
      = wsum a lits ws - n := by
  fun_induction gtEqLoop lits ws n with
  | case1 l ls w ws n _ w' r ih =>
    rw [List.forall_mem_cons] at hz
    have := ih hz.2
    simp only [r, w', wsum_cons, termVal_neg_neg a w l hz.1] at this ⊢
    omega
  | case2 l ls ws n _ ih =>
    rw [List.forall_mem_cons] at hz
    rw [ih hz.2, wsum_cons, termVal_zero a (0, l) rfl, Int.zero_add]
  | case3 l ls w ws n _ _ r ih =>
    rw [List.forall_mem_cons] at hz
    have := ih hz.2
    simp only [r, wsum_cons]
    omega
  | case4 lits ws n h =>
    cases lits with
    | nil => simp [wsum, lhs]
    | cons l ls => cases ws with
      | nil => rfl
      | cons w ws => exact absurd rfl (h l ls w ws rfl)

theorem gtEqLoop_weights (lits ws : List Int) (n : Int) :
    (gtEqLoop lits ws n).2.1.length = (gtEqLoop lits ws n).1.length ∧
    ∀ w ∈ (gtEqLoop lits ws n).2.1, 0 < w := by
  fun_induction gtEqLoop lits ws n with
  | case1 l ls w ws n hw w' r ih =>
    exact ⟨congrArg Nat.succ ih.1, List.forall_mem_cons.2 ⟨by omega, ih.2⟩⟩
  | case2 l ls ws n _ ih => exact ih
  | case3 l ls w ws n _ _ r ih =>
    exact ⟨congrArg Nat.succ ih.1, List.forall_mem_cons.2 ⟨by omega, ih.2⟩⟩
  | case4 lits ws n h => exact ⟨rfl, fun _ h => nomatch h⟩

theorem gtEqLoop_lits (lits ws : List Int) (n : Int) :
    ∀ l ∈ (gtEqLoop lits ws n).1, ∃ l' ∈ lits, l.natAbs = l'.natAbs := by
  fun_induction gtEqLoop lits ws n with
  | case1 l ls w ws n hw w' r ih =>
    exact List.forall_mem_cons.2 ⟨⟨l, List.mem_cons_self, Int.natAbs_neg l⟩,
      fun x hx => (ih x hx).imp fun _ h => ⟨List.mem_cons_of_mem _ h.1, h.2⟩⟩
  | case2 l ls ws n _ ih =>
    exact fun x hx => (ih x hx).imp fun _ h => ⟨List.mem_cons_of_mem _ h.1, h.2⟩
  | case3 l ls w ws n _ _ r ih =>
    exact List.forall_mem_cons.2 ⟨⟨l, List.mem_cons_self, rfl⟩,
      fun x hx => (ih x hx).imp fun _ h => ⟨List.mem_cons_of_mem _ h.1, h.2⟩⟩
  | case4 lits ws n h => exact fun _ h => nomatch h

/-- Closed form of the `GtEq` loop: zero-weight entries are deleted, the others keep their order;
    a negative weight is replaced by its absolute value and its literal negated; the degree grows
    by the sum of the absolute values of the negative weights. -/
theorem gtEqLoop_closed : ∀ (lits ws : List Int) (n : Int), lits.length = ws.length →
    gtEqLoop lits ws n =
      (((lits.zip ws).filter (fun p => p.2 != 0)).map (fun p => if p.2 < 0 then -p.1 else p.1),
       (ws.filter (fun w => w != 0)).map (fun w => if w < 0 then -w else w),
       n + ((ws.filter (fun w => decide (w < 0))).map (fun w => -w)).sum) := by
  intro lits ws n hlen
  fun_induction gtEqLoop lits ws n with
  | case1 l ls w ws n hw w' r ih =>
    have h0 : w ≠ 0 := by omega
    simp only [r, w', ih (Nat.succ.inj hlen), List.zip_cons_cons]
    simp [h0, hw]; omega
  | case2 l ls ws n _ ih => simp [ih (Nat.succ.inj hlen)]
  | case3 l ls w ws n h1 h2 r ih =>
    simp only [r, ih (Nat.succ.inj hlen), List.zip_cons_cons]
    simp [h1, h2]
  | case4 lits ws n h =>
    cases lits with
    | nil => cases ws with
      | nil => simp
      | cons _ _ => cases hlen
    | cons l ls => cases ws with
      | nil => cases hlen
      | cons w ws => exact absurd rfl (h l ls w ws rfl)

example : gtEqLoop [1, 2, 3, 4] [0, -2, 0, 3] 1 = ([-2, 4], [2, 3], 3) := by decide +kernel

/-- When does `GtEq` panic: exactly when the weights are non-empty and not as many as the
    literals. (The doc comment says "will panic if len(weights) != len(lits)".) -/
theorem gtEq_eq_none (lits : List Int) (ws : Option (List Int)) (n : Int) :
    gtEq lits ws n = none ↔ (slen ws ≠ 0 ∧ lits.length ≠ slen ws) := by
  unfold gtEq
  split
  · rename_i h; simpa using h
  · rename_i h
    constructor
    · intro h'; split at h' <;> simp at h'
    · intro h'; simp at h; omega

/-- `GtEq(lits, nil, n)`: all weights are 1. -/
theorem gtEq_nil (a : Asg) (lits : List Int) (n : Int) :
    gtEq lits none n = some ⟨lits, none, n⟩ ∧
    (PBC.sem a ⟨lits, none, n⟩ = true ↔ n ≤ (count a lits : Int)) := by
  refine ⟨by simp [gtEq, slen], sem_none a lits n⟩

theorem gtEq_some (lits ws : List Int) (n : Int) (hlen : lits.length = ws.length) :
    gtEq lits (some ws) n =
      some ⟨(gtEqLoop lits ws n).1, some (gtEqLoop lits ws n).2.1, (gtEqLoop lits ws n).2.2⟩ := by
  cases ws with
  | nil =>
    cases lits with
    | nil => rfl
    | cons _ _ => cases hlen
  | cons w ws => simp [gtEq, slen, hlen]

/-- **`GtEq`**: for as many (non-nil) weights as literals, any signs, zeros allowed, the result
    means `n ≤ Σ wsᵢ·[litsᵢ]` and is in normal form (all weights > 0, non-zero literals). -/
theorem gtEq_sem (a : Asg) (lits ws : List Int) (n : Int) (c : PBC)
    (hlen : lits.length = ws.length) (hz : ∀ l ∈ lits, l ≠ 0)
    (h : gtEq lits (some ws) n = some c) :
    (c.sem a = true ↔ n ≤ wsum a lits ws) ∧ c.normal = true := by
  rw [gtEq_some lits ws n hlen, Option.some.injEq] at h
  subst h
  have h1 := gtEqLoop_lhs a lits ws n hz
  rw [sem_some, normal_some]
  refine ⟨by omega, fun l hl => ?_, gtEqLoop_weights lits ws n⟩
  obtain ⟨l', hl', e⟩ := gtEqLoop_lits lits ws n l hl
  have := hz l' hl'
  omega

example : gtEq [1, 2, -3, 4, 2] (some [2, -3, 0, 5, -1]) 4 = some ⟨[1, -2, 4, -2], some [2, 3, 5, 1], 8⟩ := by
  decide +kernel

/-- `LtEq` panics exactly when there are not as many weights as literals (`nil` = 0 weights). -/
theorem ltEq_eq_none (lits : List Int) (ws : Option (List Int)) (n : Int) :
    ltEq lits ws n = none ↔ lits.length ≠ slen ws := by
  unfold ltEq
  split
  · simp; omega
  · rw [gtEq_eq_none]; simp; omega

theorem ltEq_some (lits ws : List Int) (n : Int) (hlen : lits.length = ws.length) :
    ltEq lits (some ws) n = gtEq (lits.map (fun l => -l)) (some ws) (ws.sum - n) := by
  simp [ltEq, slen, hlen]

/-- **`LtEq`**: the result means `Σ wsᵢ·[litsᵢ] ≤ n` and is in normal form. -/
theorem ltEq_sem (a : Asg) (lits ws : List Int) (n : Int) (c : PBC)
    (hlen : lits.length = ws.length) (hz : ∀ l ∈ lits, l ≠ 0)
    (h : ltEq lits (some ws) n = some c) :
    (c.sem a = true ↔ wsum a lits ws ≤ n) ∧ c.normal = true := by
  have hz' : ∀ l ∈ lits.map (fun l => -l), l ≠ 0 := by
    intro l hl
    obtain ⟨x, hx, rfl⟩ := List.mem_map.1 hl
    have := hz x hx
    omega
  rw [ltEq_some lits ws n hlen] at h
  have hg := gtEq_sem a (lits.map (fun l => -l)) ws _ c (by simpa using hlen) hz' h
  have hs := wsum_neg a lits ws hlen hz
  exact ⟨by rw [hg.1]; omega, hg.2⟩

example : ltEq [1, 2, -3] (some [1, -2, 0]) 2 = some ⟨[-1, 2], some [1, 2], -1⟩ := by decide +kernel

/-- `LtEq(nil, nil, n)` is the only non-panicking call with `nil` weights; it returns the
    empty constraint `0 ≥ -n`, which indeed means `0 ≤ n`. -/
theorem ltEq_nil (a : Asg) (n : Int) :
    ltEq [] none n = some ⟨[], none, -n⟩ ∧ (PBC.sem a ⟨[], none, -n⟩ = true ↔ 0 ≤ n) := by
  refine ⟨by simp [ltEq, gtEq, slen], ?_⟩
  rw [sem_none, count_nil]; omega

/-- `card <= 0`: "trivially SAT, ignore" is right for a constraint in normal form. -/
theorem sem_of_atLeast_nonpos (a : Asg) (c : PBC) (hn : c.normal = true) (h : c.atLeast ≤ 0) :
    c.sem a = true := by
  rcases c with ⟨lits, _ | ws, n⟩
  · rw [sem_none]; simp only at h; omega
  · rw [normal_some] at hn
    have := wsum_bounds a lits ws hn.2.1.symm (fun w hw => Int.le_of_lt (hn.2.2 w hw))
    rw [sem_some]; simp only at h; omega

/-- `sumW < card`: "cannot be satisfied" is right. -/
theorem sem_of_weightSum_lt (a : Asg) (c : PBC) (hn : c.normal = true)
    (h : c.weightSum < c.atLeast) : c.sem a = false := by
  rcases c with ⟨lits, _ | ws, n⟩
  · have := count_le_length a lits
    rw [Bool.eq_false_iff, Ne, sem_none]; simp only [PBC.weightSum] at h; omega
  · rw [normal_some] at hn
    have := wsum_bounds a lits ws hn.2.1.symm (fun w hw => Int.le_of_lt (hn.2.2 w hw))
    rw [Bool.eq_false_iff, Ne, sem_some]; simp only [PBC.weightSum] at h; omega

/-- `sumW == card`: "all lits must be true" is right. -/
theorem sem_of_weightSum_eq (a : Asg) (c : PBC) (hn : c.normal = true)
    (h : c.weightSum = c.atLeast) : (c.sem a = true ↔ ∀ l ∈ c.lits, litTrue a l = true) := by
  rcases c with ⟨lits, _ | ws, n⟩
  · have := count_le_length a lits
    dsimp only
    rw [sem_none, ← count_eq_length_iff]; simp only [PBC.weightSum] at h; omega
  · rw [normal_some] at hn
    have hb := wsum_bounds a lits ws hn.2.1.symm (fun w hw => Int.le_of_lt (hn.2.2 w hw))
    rw [sem_some, ← wsum_eq_sum_iff a lits ws hn.2.1.symm hn.2.2]
    simp only [PBC.weightSum] at h; omega

example : PBC.normal ⟨[1, -2, 3], some [2, 3, 1], 6⟩ = true ∧
    PBC.weightSum ⟨[1, -2, 3], some [2, 3, 1], 6⟩ = 6 := by decide +kernel

/-- The case analysis `frontCard` and `frontPB` make on the bound `k`, `s` being the most the
    left-hand side can reach. -/
theorem front_cases (k s : Int) (ls : List Int) :
    let f : Front := if k ≤ 0 then .dropped else if s < k then .unsat else if s = k then .units ls else .kept
    (f = .dropped ∧ k ≤ 0) ∨ (f = .unsat ∧ 1 ≤ k ∧ s < k) ∨ (f = .units ls ∧ 1 ≤ k ∧ s = k) ∨
    (f = .kept ∧ 1 ≤ k ∧ k < s) := by
  by_cases h1 : k ≤ 0
  · left; simp [h1]
  · by_cases h2 : s < k
    · right; left; simp [h1, h2]; omega
    · by_cases h3 : s = k
      · right; right; left; simp [h1, h3]; omega
      · right; right; right; simp [h1, h2, h3]; omega

theorem frontPB_cases (c : PBC) :
    (frontPB c = .dropped ∧ c.atLeast ≤ 0) ∨
    (frontPB c = .unsat ∧ 1 ≤ c.atLeast ∧ c.weightSum < c.atLeast) ∨
    (frontPB c = .units c.lits ∧ 1 ≤ c.atLeast ∧ c.weightSum = c.atLeast) ∨
    (frontPB c = .kept ∧ 1 ≤ c.atLeast ∧ c.atLeast < c.weightSum) :=
  front_cases c.atLeast c.weightSum c.lits

theorem frontPB_units {c : PBC} {ls : List Int} (h : frontPB c = .units ls) : ls = c.lits := by
  rcases frontPB_cases c with ⟨hf, _⟩ | ⟨hf, _⟩ | ⟨hf, _⟩ | ⟨hf, _⟩ <;> rw [hf] at h <;> cases h
  rfl

theorem frontPB_kept {c : PBC} (h : frontPB c = .kept) : 1 ≤ c.atLeast := by
  rcases frontPB_cases c with ⟨hf, _⟩ | ⟨hf, _⟩ | ⟨hf, _⟩ | ⟨hf, h1, _⟩ <;> rw [hf] at h <;> cases h
  exact h1

/-- The case analysis of `ParsePBConstrs` / `parsePBConstrLine`, all four branches. -/
theorem frontPB_sound (a : Asg) (c : PBC) (hn : c.normal = true) :
    match frontPB c with
    | .dropped => c.sem a = true
    | .unsat => c.sem a = false
    | .units ls => (c.sem a = true ↔ ∀ l ∈ ls, litTrue a l = true)
    | .kept => True := by
  rcases frontPB_cases c with ⟨hf, h⟩ | ⟨hf, _, h⟩ | ⟨hf, _, h⟩ | ⟨hf, _⟩ <;> rw [hf]
  · exact sem_of_atLeast_nonpos a c hn h
  · exact sem_of_weightSum_lt a c hn h
  · exact sem_of_weightSum_eq a c hn h
  · trivial

/-- The case analysis of `ParseCardConstrs`, all four branches; a null literal is counted like any other. -/
theorem frontCard_sem (a : Asg) (c : CardC) :
    match frontCard c with
    | .dropped => c.sem a = true
    | .unsat => c.sem a = false
    | .units ls => (c.sem a = true ↔ ∀ l ∈ ls, litTrue a l = true)
    | .kept => True := by
  have hb := count_le_length a c.lits
  rcases front_cases c.atLeast c.lits.length c.lits with ⟨hf, h⟩ | ⟨hf, _, h⟩ | ⟨hf, _, h⟩ | ⟨hf, _⟩ <;>
    rw [show frontCard c = _ from hf, cardSem_eq] <;> dsimp only
  · rw [sem_none]; omega
  · rw [Bool.eq_false_iff, Ne, sem_none]; omega
  · rw [sem_none, ← count_eq_length_iff]; omega

set_option linter.unusedVariables false in
/-- The case analysis of `ParseCardConstrs` (the code panics on a zero literal in the last
    two branches, hence the hypothesis costs nothing there). -/
theorem frontCard_sound (a : Asg) (c : CardC) (hz : ∀ l ∈ c.lits, l ≠ 0) :
    match frontCard c with
    | .dropped => c.sem a = true
    | .unsat => c.sem a = false
    | .units ls => (c.sem a = true ↔ ∀ l ∈ ls, litTrue a l = true)
    | .kept => True :=
  frontCard_sem a c

/-- `Eq` panics exactly when there are not as many weights as literals. -/
theorem eq_eq_none (lits : List Int) (ws : Option (List Int)) (n : Int) :
    eq lits ws n = none ↔ lits.length ≠ slen ws := by
  have h : eq lits ws n = none ↔ gtEq lits (some (ws.getD [])) n = none ∨ ltEq lits ws n = none := by
    unfold eq
    split
    · simp [*]
    · split <;> simp [*]
  rw [h, gtEq_eq_none, ltEq_eq_none]
  exact ⟨fun h => h.elim (·.2) id, Or.inr⟩

theorem eq_some (lits : List Int) (ws : Option (List Int)) (n : Int) (cs : List PBC)
    (h : eq lits ws n = some cs) :
    ∃ ge le, gtEq lits (some (ws.getD [])) n = some ge ∧ ltEq lits ws n = some le ∧
      cs = (if ge.atLeast > 0 then [ge] else []) ++ (if le.atLeast > 0 then [le] else []) := by
  unfold eq at h
  split at h
  · cases h
  · rename_i ge hge
    split at h
    · cases h
    · rename_i le hle
      exact ⟨ge, le, hge, hle, (Option.some.inj h).symm⟩

theorem mem_optional {c c' : PBC} (h : c' ∈ (if c.atLeast > 0 then [c] else [])) :
    c' = c ∧ 0 < c.atLeast := by
  split at h
  · rename_i h0; exact ⟨List.mem_singleton.1 h, h0⟩
  · cases h

theorem all_optional (a : Asg) (c : PBC) (hn : c.normal = true) :
    (if c.atLeast > 0 then [c] else []).all (fun c => c.sem a) = c.sem a := by
  split
  · simp
  · rename_i h; exact (sem_of_atLeast_nonpos a c hn (by omega)).symm

/-- Weights as `GtEq` leaves them: explicit, as many as literals, all positive. -/
def WOk (k : PBC) : Prop := ∃ ws, k.weights = some ws ∧ ws.length = k.lits.length ∧ ∀ w ∈ ws, 0 < w

theorem wok_normal (k : PBC) (hw : WOk k) (hz : ∀ l ∈ k.lits, l ≠ 0) : k.normal = true := by
  obtain ⟨ws, h1, h2, h3⟩ := hw
  rcases k with ⟨lits, wts, n⟩
  simp only at h1 h2 hz
  subst h1
  exact (normal_some _ _ _).mpr ⟨hz, h2, h3⟩

/-- What `GtEq` returns, zero literals or not: weights in the form `WOk`, literals of the input up to sign. -/
theorem gtEq_out (lits ws : List Int) (n : Int) (p : PBC) (hl : lits.length = ws.length)
    (h : gtEq lits (some ws) n = some p) :
    WOk p ∧ ∀ l ∈ p.lits, ∃ l' ∈ lits, l.natAbs = l'.natAbs := by
  rw [gtEq_some lits ws n hl, Option.some.injEq] at h
  subst h
  exact ⟨⟨_, rfl, gtEqLoop_weights lits ws n⟩, gtEqLoop_lits lits ws n⟩

theorem eq_out (lits ws : List Int) (n : Int) (ps : List PBC) (hl : lits.length = ws.length)
    (h : eq lits (some ws) n = some ps) :
    ∀ p ∈ ps, WOk p ∧ ∀ l ∈ p.lits, ∃ l' ∈ lits, l.natAbs = l'.natAbs := by
  obtain ⟨ge, le, hge, hle, rfl⟩ := eq_some lits (some ws) n ps h
  rw [ltEq_some lits ws n hl] at hle
  obtain ⟨L1, L2⟩ := gtEq_out _ ws _ le (by simpa using hl) hle
  intro p hp
  rcases List.mem_append.1 hp with hp | hp
  · rw [(mem_optional hp).1]; exact gtEq_out lits ws n ge hl hge
  · rw [(mem_optional hp).1]
    refine ⟨L1, fun l hl => ?_⟩
    obtain ⟨l', h1, h2⟩ := L2 l hl
    obtain ⟨x, hx, rfl⟩ := List.mem_map.1 h1
    exact ⟨x, hx, by omega⟩

/-- **`Eq`**: the conjunction of the returned constraints means `Σ wsᵢ·[litsᵢ] = n`; each returned
    constraint is in normal form and has `AtLeast > 0`. The constraints with `AtLeast ≤ 0` that
    the code leaves out are true under every assignment (`sem_of_atLeast_nonpos`). -/
theorem eq_sem (a : Asg) (lits ws : List Int) (n : Int) (cs : List PBC)
    (hlen : lits.length = ws.length) (hz : ∀ l ∈ lits, l ≠ 0)
    (h : eq lits (some ws) n = some cs) :
    (cs.all (fun c => c.sem a) = true ↔ wsum a lits ws = n) ∧
    (∀ c ∈ cs, c.normal = true ∧ 0 < c.atLeast) := by
  obtain ⟨ge, le, hge, hle, rfl⟩ := eq_some lits (some ws) n cs h
  obtain ⟨hg, hgn⟩ := gtEq_sem a lits ws n ge hlen hz hge
  obtain ⟨hl, hln⟩ := ltEq_sem a lits ws n le hlen hz hle
  refine ⟨?_, fun c hc => ?_⟩
  · rw [List.all_append, Bool.and_eq_true, all_optional a ge hgn, all_optional a le hln, hg, hl]
    omega
  · rcases List.mem_append.1 hc with hc | hc
    · obtain ⟨rfl, h0⟩ := mem_optional hc; exact ⟨hgn, h0⟩
    · obtain ⟨rfl, h0⟩ := mem_optional hc; exact ⟨hln, h0⟩

example : eq [1, 2, 3] (some [1, -2, 3]) 2 =
    some [⟨[1, -2, 3], some [1, 2, 3], 4⟩, ⟨[-1, 2, -3], some [1, 2, 3], 2⟩] := by decide +kernel
example : eq [1, 2] (some [0, 0]) 0 = some [] := by decide +kernel

/-- Capping the weights at `d` leaves the sum as it is, or leaves at least `d` (one capped weight whose
    literal is true gives `d` by itself): the capped sum reaches `d` iff the sum does. -/
theorem saturate_lhs (a : Asg) (d : Int) (hd : 0 ≤ d) (lits ws : List Int) (hp : ∀ w ∈ ws, 0 ≤ w) :
    0 ≤ wsum a lits (ws.map (fun w => if w > d then d else w)) ∧
    wsum a lits (ws.map (fun w => if w > d then d else w)) ≤ wsum a lits ws ∧
    (wsum a lits (ws.map (fun w => if w > d then d else w)) = wsum a lits ws ∨
      d ≤ wsum a lits (ws.map (fun w => if w > d then d else w))) := by
  induction lits generalizing ws with
  | nil => simp [wsum, lhs]
  | cons l ls ih => cases ws with
    | nil => exact ⟨Int.le_refl _, Int.le_refl _, Or.inl rfl⟩
    | cons w ws =>
      rw [List.forall_mem_cons] at hp
      have ih := ih ws hp.2
      have hw := hp.1
      simp only [List.map_cons, wsum_cons, termVal]
      cases litTrue a l
      · simpa using ih
      · simp only [if_true]; split <;> omega

/-- **Saturation** keeps the meaning, for non-negative weights and `AtLeast ≥ 0` (in
    particular for positive weights and `AtLeast ≥ 1`). No hypothesis on lengths or literals. -/
theorem saturate_sem (a : Asg) (c : PBC) (hw : ∀ ws, c.weights = some ws → ∀ w ∈ ws, 0 ≤ w)
    (hd : 0 ≤ c.atLeast) : (saturate c).sem a = c.sem a := by
  rcases c with ⟨lits, _ | ws, n⟩
  · rfl
  · have h := saturate_lhs a n hd lits ws (hw ws rfl)
    rw [Bool.eq_iff_iff]
    simp only [saturate, Option.map_some, sem_some]
    omega

theorem saturate_normal (c : PBC) (hn : c.normal = true) (hd : 1 ≤ c.atLeast) :
    (saturate c).normal = true := by
  rcases c with ⟨lits, _ | ws, n⟩
  · exact hn
  · rw [normal_some] at hn
    simp only [saturate, Option.map_some, normal_some, List.length_map, List.mem_map]
    refine ⟨hn.1, hn.2.1, ?_⟩
    rintro w ⟨x, hx, rfl⟩
    have := hn.2.2 x hx
    simp only at hd
    split <;> omega

example : saturate ⟨[1, -2, 3], some [7, 3, 1], 4⟩ = ⟨[1, -2, 3], some [4, 3, 1], 4⟩ := by decide +kernel

/-! ## Why the hypotheses are there (machine-checked witnesses)

* `hlen` in `gtEq_sem`: `GtEq([1,2], []int{}, 1)` (empty, non-nil weights) does not panic and
  returns a constraint with two literals and zero weights, whose `WeightSum` is 0: -/
example : gtEq [1, 2] (some []) 1 = some ⟨[1, 2], some [], 1⟩ ∧
    frontPB ⟨[1, 2], some [], 1⟩ = .unsat ∧ frontPB ⟨[1, 2], none, 1⟩ = .kept := by decide +kernel

/-- * `normal` in the front-end lemmas: a `PBConstr` literal built by hand with a zero weight is
  turned into units although `1·x1 + 0·x2 ≥ 1` does not force `x2`: -/
example : frontPB ⟨[1, 2], some [1, 0], 1⟩ = .units [1, 2] ∧
    PBC.sem (asgOf [true, false]) ⟨[1, 2], some [1, 0], 1⟩ = true := by decide +kernel

/-- * … and one with a negative weight is dropped although `-1·x1 ≥ 0` means `¬x1`: -/
example : frontPB ⟨[1], some [-1], 0⟩ = .dropped ∧
    PBC.sem (asgOf [true]) ⟨[1], some [-1], 0⟩ = false := by decide +kernel

/-- * non-zero literals: with the literal `0`, `AtMost` is not "at most n true"
  (`-0 = 0`, so negating does nothing). -/
example : (atMost [0] 0).sem (asgOf []) = true ∧ count (asgOf []) [0] = 1 := by decide +kernel

/-- * `0 ≤ atLeast` in `saturate_sem`: with a negative degree the cap makes weights negative
  (in Go, `Clause()` then calls `NewPBClause`, which panics for a degree < 1). -/
example : PBC.sem (asgOf [true, true]) ⟨[1, 2], some [5, 5], -1⟩ = true ∧
    PBC.sem (asgOf [true, true]) (saturate ⟨[1, 2], some [5, 5], -1⟩) = false := by decide +kernel

end GS.Constr
