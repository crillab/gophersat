import GS.Model.Optim
/-!
# C03 — the optimisation loop of `Optimal` / `Minimize` returns the true minimum

Model: `GS/Model/Optim.lean`, the Go loop before the fix cd6dcdb for negative cost weights; on
weights `≥ 0` it is the loop of /repo (`OptimS.loopS_eq_loop_of_nonneg`). The loop is reasoned about
once, as `loopG`: the loop over an abstract bound constraint `bound c` meaning `cost ≤ c − 1`,
leaving early at cost `lo` and panicking above `hi`; `loop` and the repaired `OptimS.loopS`
(`C03_OptimSigned.lean`) are instances.

The appended constraint means `cost < current cost` for **all** integer weights, repeated variables
allowed, literals non-zero (`bound_sem`; Go's sorting and zero-stripping are irrelevant:
`goBound_holds`), so `loop_result` and `stream_strictly_decreasing` need no sign hypothesis. With
non-negative weights, an oracle meeting `Contract` and fuel `≥ Σw + 2` the loop returns an optimum
(`minimize_optimal`); with a negative weight the `cost == 0` exit returns a non-optimum
(`negative_weight_counterexample`) or `NewPBClause` panics (`negative_weight_panic`).
-/
namespace GS.Optim
open GS

/-- Always true of Go `Lit`s built from DIMACS ints. -/
def LitsNZ (f : List (Int × Int)) : Prop := ∀ t ∈ f, t.2 ≠ 0

def NonNeg (f : List (Int × Int)) : Prop := ∀ t ∈ f, 0 ≤ t.1

instance (f : List (Int × Int)) : Decidable (LitsNZ f) := by unfold LitsNZ; infer_instance
instance (f : List (Int × Int)) : Decidable (NonNeg f) := by unfold NonNeg; infer_instance

/-- What is assumed of the solving oracle, on the problems satisfying `Q`. -/
structure Contract (Q : Problem → Prop) (solveFn : Problem → Option Asg) : Prop where
  sound : ∀ q a, Q q → solveFn q = some a → Problem.holds a q = true
  complete : ∀ q, Q q → solveFn q = none → ¬ Satisfiable q

theorem LitsNZ.tail {t : Int × Int} {ts : List (Int × Int)} (h : LitsNZ (t :: ts)) : LitsNZ ts :=
  fun u hu => h u (List.mem_cons_of_mem t hu)

theorem NonNeg.tail {t : Int × Int} {ts : List (Int × Int)} (h : NonNeg (t :: ts)) : NonNeg ts :=
  fun u hu => h u (List.mem_cons_of_mem t hu)

theorem lhs_negTerms (a : Asg) : ∀ f : List (Int × Int), LitsNZ f →
    lhs a (negTerms f) = sumW f - cost f a
  | [], _ => rfl
  | t :: ts, h => by
    have ih := lhs_negTerms a ts h.tail
    unfold cost at ih ⊢
    simp only [negTerms, List.map_cons, lhs, sumW] at ih ⊢
    rw [ih, termVal_neg a t (h t List.mem_cons_self)]
    omega

theorem bound_sem (f : List (Int × Int)) (c : Int) (a : Asg) (hnz : LitsNZ f) :
    (boundConstr f c).holds a = true ↔ cost f a ≤ c - 1 := by
  unfold Lin.holds boundConstr
  simp only [decide_eq_true_eq, lhs_negTerms a f hnz]
  omega

example : LitsNZ [(3, 1), (-2, -1), (0, 2), (5, 2)] := by decide

/-- The non-zero-literal hypothesis is needed: for the "literal" `0`, `[¬0] = [0]`. -/
example : ¬ ((boundConstr [(1, 0)] 1).holds (fun _ => true) = true ↔
    cost [(1, 0)] (fun _ => true) ≤ 1 - 1) := by decide

theorem insertDesc_perm (t : Int × Int) (l : List (Int × Int)) : (insertDesc t l).Perm (t :: l) := by
  fun_induction insertDesc t l with
  | case1 => exact .refl _
  | case2 u us h ih => exact (ih.cons u).trans (.swap t u us)
  | case3 u us h => exact .refl _

theorem sortDesc_perm : ∀ l, (sortDesc l).Perm l := by
  intro l
  induction l with
  | nil => exact List.Perm.refl _
  | cons t ts ih => exact (insertDesc_perm t _).trans (ih.cons t)

theorem mem_sortDesc (x : Int × Int) (l : List (Int × Int)) : x ∈ sortDesc l → x ∈ l :=
  fun h => (sortDesc_perm l).subset h

theorem lhs_sortDesc (a : Asg) (l : List (Int × Int)) : lhs a (sortDesc l) = lhs a l :=
  lhs_perm a (sortDesc_perm l)

theorem stripZeros_cons (t : Int × Int) (ts : List (Int × Int)) :
    stripZeros (t :: ts) = if stripZeros ts = [] ∧ t.1 = 0 then [] else t :: stripZeros ts := by
  simp only [stripZeros]
  split
  · rename_i h
    simp only [h, true_and]
  · rename_i r rs h
    simp [h]

theorem stripZeros_sublist : ∀ l : List (Int × Int), (stripZeros l).Sublist l := by
  intro l
  induction l with
  | nil => exact List.Sublist.slnil
  | cons t ts ih =>
    rw [stripZeros_cons]
    split
    · exact List.nil_sublist _
    · exact List.Sublist.cons_cons t ih

theorem lhs_stripZeros (a : Asg) : ∀ l, lhs a (stripZeros l) = lhs a l := by
  intro l
  induction l with
  | nil => rfl
  | cons t ts ih =>
    rw [stripZeros_cons]
    split
    · rename_i h
      rw [h.1] at ih
      simp only [lhs, ← ih, termVal_zero a t h.2]
      rfl
    · simp only [lhs, ih]

theorem lhs_filter_nonzero (a : Asg) : ∀ l : List (Int × Int),
    lhs a (l.filter (fun t => t.1 != 0)) = lhs a l := by
  intro l
  induction l with
  | nil => rfl
  | cons t ts ih =>
    by_cases h : t.1 = 0
    · simp only [List.filter, h, bne_self_eq_false, lhs, termVal_zero a t h, ih]
      omega
    · have : (t.1 != 0) = true := by simp [h]
      simp only [List.filter, this, lhs, ih]

theorem goBound_holds (f : List (Int × Int)) (c : Int) (a : Asg) :
    (goBound f c).holds a = (boundConstr f c).holds a := by
  unfold Lin.holds goBound boundConstr hypothesis
  simp only [lhs_stripZeros, lhs_sortDesc]

theorem goBound_sem (f : List (Int × Int)) (hnz : LitsNZ f) (c : Int) (a : Asg) :
    (goBound f c).holds a = true ↔ cost f a ≤ c - 1 := by
  rw [goBound_holds, bound_sem f c a hnz]

theorem cost_bounds (f : List (Int × Int)) (a : Asg) (h : NonNeg f) :
    0 ≤ cost f a ∧ cost f a ≤ sumW f := by
  unfold cost
  induction f with
  | nil => exact ⟨Int.le_refl 0, Int.le_refl 0⟩
  | cons t ts ih =>
    have h1 := h t List.mem_cons_self
    have h2 := ih h.tail
    simp only [lhs, termVal, sumW]
    split <;> omega

/-- The `if cost == 0 { break }` exit is correct for non-negative weights. -/
theorem minimize_early_exit (p : Problem) (f : List (Int × Int)) (a : Asg) (hnn : NonNeg f)
    (ha : Problem.holds a p = true) (h0 : cost f a = 0) : IsOptimum p f a :=
  ⟨ha, fun b _ => by have := (cost_bounds f b hnn).1; omega⟩

example : NonNeg [(3, 1), (0, -2), (2, 2)] := by decide

/-! ### the loop over an abstract bound constraint

`loop` and the repaired `OptimS.loopS` differ only in the cost `lo` at which they leave early, in
the constant `hi` of the degree `hi − cost + 1` and in the constraint `bound cost` they append. -/

def loopG (solveFn : Problem → Option Asg) (f : List (Int × Int)) (lo hi : Int) (bound : Int → Lin) :
    Nat → Problem → Asg → Run
  | 0, _, a => ⟨[], (a, cost f a), .fuel⟩
  | k + 1, p, a =>
    let c := cost f a
    if c = lo then ⟨[(a, c)], (a, c), .exit0⟩
    else if hi - c + 1 < 1 then ⟨[(a, c)], (a, c), .panic⟩
    else
      match solveFn (p ++ [bound c]) with
      | none => ⟨[(a, c)], (a, c), .unsat⟩
      | some b =>
        let r := loopG solveFn f lo hi bound k (p ++ [bound c]) b
        ⟨(a, c) :: r.stream, r.last, r.stop⟩

/-- `optimal` / `OptimS.optimalS` over `loopG`. -/
def optimalG (solveFn : Problem → Option Asg) (f : List (Int × Int)) (lo hi : Int) (bound : Int → Lin)
    (p : Problem) (fuel : Nat) : Outcome :=
  match solveFn p with
  | none => .unsat
  | some a =>
    let r := loopG solveFn f lo hi bound fuel p a
    match r.stop with
    | .fuel => .fuel r.stream
    | .panic => .panic r.stream
    | _ => .ok r.last.1 r.last.2 r.stream

theorem loop_eq_loopG (solveFn : Problem → Option Asg) (f : List (Int × Int)) :
    ∀ k p a, loop solveFn f k p a = loopG solveFn f 0 (sumW f) (goBound f) k p a := by
  intro k
  induction k with
  | zero => intro p a; rfl
  | succ k ih => intro p a; simp only [loop, loopG, ih]; rfl

theorem optimal_eq_optimalG (solveFn : Problem → Option Asg) (p : Problem) (f : List (Int × Int))
    (fuel : Nat) : optimal solveFn p f fuel = optimalG solveFn f 0 (sumW f) (goBound f) p fuel := by
  simp only [optimal, optimalG, loop_eq_loopG]
  rfl

section
variable (solveFn : Problem → Option Asg) (f : List (Int × Int)) (lo hi : Int) (bound : Int → Lin)

/-- Induction over a run `r` of the loop: out of fuel; a run that ends with the model it started
    from (`s` says why); one more round in front of a run. -/
theorem loopG_induct {P : Nat → Problem → Asg → Run → Prop}
    (zero : ∀ p a, P 0 p a ⟨[], (a, cost f a), .fuel⟩)
    (leaf : ∀ k p a s, s ≠ .fuel → (s = .exit0 → cost f a = lo) → (s = .panic → hi < cost f a) →
      (s = .unsat → solveFn (p ++ [bound (cost f a)]) = none) →
      P (k + 1) p a ⟨[(a, cost f a)], (a, cost f a), s⟩)
    (step : ∀ k p a b, solveFn (p ++ [bound (cost f a)]) = some b →
      ∀ r, P k (p ++ [bound (cost f a)]) b r →
      P (k + 1) p a ⟨(a, cost f a) :: r.stream, r.last, r.stop⟩) :
    ∀ k p a r, loopG solveFn f lo hi bound k p a = r → P k p a r := by
  intro k p a r hr
  subst hr
  fun_induction loopG solveFn f lo hi bound k p a with
  | case1 p a => exact zero p a
  | case2 k p a c h => exact leaf k p a .exit0 nofun (fun _ => h) nofun nofun
  | case3 k p a c _ h => exact leaf k p a .panic nofun nofun (fun _ => by omega) nofun
  | case4 k p a c _ _ h => exact leaf k p a .unsat nofun nofun nofun (fun _ => h)
  | case5 k p a c _ _ b h r ih => exact step k p a b h _ ih

/-- What holds of every run, whatever the oracle. -/
theorem loopG_shape : ∀ k q a r, loopG solveFn f lo hi bound k q a = r →
    r.last.2 = cost f r.last.1 ∧ (r.stop = .exit0 → r.last.2 = lo) ∧ (r.stop = .panic → hi < r.last.2) ∧
    (r.stop ≠ .fuel → r.stream.getLast? = some r.last) := by
  apply loopG_induct
  · intro p a; exact ⟨rfl, nofun, nofun, fun h => absurd rfl h⟩
  · intro k p a s _ h0 hp _; exact ⟨rfl, h0, hp, fun _ => rfl⟩
  · intro k p a b _ r ⟨h1, h2, h3, h4⟩
    refine ⟨h1, h2, h3, fun h => ?_⟩
    have := h4 h
    cases hr : r.stream with
    | nil => rw [hr] at this; cases this
    | cons x xs => rw [hr] at this; simp only [List.getLast?_cons_cons, this]

variable (Q : Problem → Prop) (hQ : ∀ q c, Q q → Q (q ++ [bound c]))
  (hb : ∀ c a, (bound c).holds a = true ↔ cost f a ≤ c - 1)

include hb in
theorem holds_step (q : Problem) (c : Int) (b : Asg) :
    Problem.holds b (q ++ [bound c]) = true ↔ Problem.holds b q = true ∧ cost f b ≤ c - 1 := by
  rw [Problem.holds_snoc, Bool.and_eq_true, hb]

include hQ hb

/-- A run from a model `a` of `q`, for an oracle that is merely sound; completeness is asked for in
    the Unsat clause only (the exit at `cost == lo` is as good as `lo` is a lower bound of the
    cost: `optimalG_spec`). Fuel: the cost strictly decreases and stays `≥ lo`, so `cost − lo + 1`
    rounds are enough. -/
theorem loopG_spec (hs : ∀ q a, Q q → solveFn q = some a → Problem.holds a q = true) :
    ∀ k q a r, loopG solveFn f lo hi bound k q a = r → Q q → Problem.holds a q = true →
    (∀ x ∈ r.stream, Problem.holds x.1 q = true ∧ x.2 = cost f x.1) ∧
    (r.stream.map (·.2)).Pairwise (· > ·) ∧
    Problem.holds r.last.1 q = true ∧
    (r.stop = .unsat → (∀ q, Q q → solveFn q = none → ¬ Satisfiable q) → IsOptimum q f r.last.1) ∧
    ((∀ b, lo ≤ cost f b) → (cost f a - lo).toNat < k → r.stop ≠ .fuel) := by
  apply loopG_induct
  · intro p a _ ha; exact ⟨nofun, List.Pairwise.nil, ha, nofun, fun _ h => nomatch h⟩
  · intro k p a s hsf _ _ hu hq ha
    refine ⟨fun x hx => ?_, List.pairwise_singleton _ _, ha, fun h hc => ⟨ha, fun x hx => ?_⟩,
      fun _ _ => hsf⟩
    · rw [List.mem_singleton.1 hx]; exact ⟨ha, rfl⟩
    · -- a cheaper model would satisfy the problem the oracle has just refuted
      by_cases hlt : cost f x ≤ cost f a - 1
      · exact absurd ⟨x, (holds_step f bound hb p _ x).2 ⟨hx, hlt⟩⟩ (hc _ (hQ p _ hq) (hu h))
      · show cost f a ≤ cost f x
        omega
  · intro k p a b hb' r ih hq ha
    have hq' := hQ p (cost f a) hq
    have hbm := hs _ b hq' hb'
    obtain ⟨h1, h2, h3, h4, h5⟩ := ih hq' hbm
    -- every later model satisfies the appended bound
    have hlt : ∀ x, Problem.holds x (p ++ [bound (cost f a)]) = true →
        Problem.holds x p = true ∧ cost f x ≤ cost f a - 1 := fun x => (holds_step f bound hb p _ x).1
    refine ⟨fun x hx => ?_, List.pairwise_cons.2 ⟨fun c' hc' => ?_, h2⟩, (hlt _ h3).1,
      fun hu hc => ⟨(hlt _ h3).1, fun x hx => ?_⟩, fun hlo hk => h5 hlo ?_⟩
    · rcases List.mem_cons.1 hx with rfl | hx
      · exact ⟨ha, rfl⟩
      · exact ⟨(hlt _ (h1 x hx).1).1, (h1 x hx).2⟩
    · obtain ⟨x, hx, rfl⟩ := List.mem_map.1 hc'
      have := (hlt _ (h1 x hx).1).2
      show cost f a > x.2
      rw [(h1 x hx).2]; omega
    · -- an optimum of the strengthened problem is an optimum of `p`: the other models cost more
      by_cases hx' : cost f x ≤ cost f a - 1
      · exact (h4 hu hc).2 x ((holds_step f bound hb p _ x).2 ⟨hx, hx'⟩)
      · have := (hlt _ h3).2
        show cost f r.last.1 ≤ cost f x
        omega
    · have := (hlt b hbm).2
      have := hlo b
      omega

theorem optimalG_spec (hc : Contract Q solveFn) (hlo : ∀ a, lo ≤ cost f a) (hhi : ∀ a, cost f a ≤ hi)
    (p : Problem) (hp : Q p) (fuel : Nat) (hfuel : (hi - lo).toNat + 2 ≤ fuel) (hsat : Satisfiable p) :
    ∃ a c s, optimalG solveFn f lo hi bound p fuel = .ok a c s ∧ IsOptimum p f a ∧ c = cost f a ∧
      s.getLast? = some (a, c) ∧ (s.map (·.2)).Pairwise (· > ·) ∧
      ∀ x ∈ s, Problem.holds x.1 p = true ∧ x.2 = cost f x.1 := by
  unfold optimalG
  cases hsol : solveFn p with
  | none => exact absurd hsat (hc.complete p hp hsol)
  | some a0 =>
    dsimp only
    generalize hr : loopG solveFn f lo hi bound fuel p a0 = r
    obtain ⟨hs1, hs2, h1, h3, hfu⟩ := loopG_spec solveFn f lo hi bound Q hQ hb hc.sound fuel p a0 r hr hp
      (hc.sound p a0 hp hsol)
    have hfu := hfu hlo (by have := hhi a0; omega)
    obtain ⟨h2, h4, h5, hl⟩ := loopG_shape solveFn f lo hi bound fuel p a0 r hr
    obtain ⟨s, ⟨m, c⟩, st⟩ := r
    simp only at *
    cases st with
    | fuel => exact absurd rfl hfu
    | panic => have := h5 rfl; have := hhi m; omega
    | unsat => exact ⟨m, c, s, rfl, h3 rfl hc.complete, h2, hl hfu, hs2, hs1⟩
    | exit0 =>
      refine ⟨m, c, s, rfl, ⟨h1, fun b _ => ?_⟩, h2, hl hfu, hs2, hs1⟩
      have := h4 rfl
      have := hlo b
      omega

omit hQ hb in
theorem optimalG_unsat_iff (hc : Contract Q solveFn) (p : Problem) (hp : Q p) (fuel : Nat) :
    optimalG solveFn f lo hi bound p fuel = .unsat ↔ ¬ Satisfiable p := by
  unfold optimalG
  cases hsol : solveFn p with
  | none => exact ⟨fun _ => hc.complete p hp hsol, fun _ => rfl⟩
  | some a0 =>
    refine ⟨fun h => ?_, fun hun => absurd ⟨a0, hc.sound p a0 hp hsol⟩ hun⟩
    simp only at h
    split at h <;> cases h

theorem optimalG_costs (hs : ∀ q a, Q q → solveFn q = some a → Problem.holds a q = true)
    (p : Problem) (hp : Q p) (fuel : Nat) :
    (optimalG solveFn f lo hi bound p fuel).costs.Pairwise (· > ·) := by
  unfold optimalG
  cases hsol : solveFn p with
  | none => exact List.Pairwise.nil
  | some a0 =>
    have := (loopG_spec solveFn f lo hi bound Q hQ hb hs fuel p a0 _ rfl hp (hs p a0 hp hsol)).2.1
    simp only
    split <;> exact this

end

section
variable (solveFn : Problem → Option Asg) (f : List (Int × Int)) (Q : Problem → Prop)
variable (hQ : ∀ q c, Q q → Q (q ++ [goBound f c]))
include hQ

theorem loop_stream (hs : ∀ q a, Q q → solveFn q = some a → Problem.holds a q = true)
    (hnz : LitsNZ f) : ∀ (k : Nat) (q : Problem) (a : Asg), Q q → Problem.holds a q = true →
    (∀ x ∈ (loop solveFn f k q a).stream, Problem.holds x.1 q = true ∧ x.2 = cost f x.1) ∧
    ((loop solveFn f k q a).stream.map (·.2)).Pairwise (· > ·) := fun k q a hq ha =>
  have h := loopG_spec solveFn f 0 (sumW f) (goBound f) Q hQ (goBound_sem f hnz) hs k q a _
    (loop_eq_loopG solveFn f k q a).symm hq ha
  ⟨h.1, h.2.1⟩

omit hQ in
theorem loop_last : ∀ (k : Nat) (q : Problem) (a : Asg),
    (loop solveFn f k q a).stop ≠ .fuel →
    (loop solveFn f k q a).stream.getLast? = some (loop solveFn f k q a).last := fun k q a =>
  (loopG_shape solveFn f 0 (sumW f) (goBound f) k q a _ (loop_eq_loopG solveFn f k q a).symm).2.2.2

/-- For arbitrary integer weights: the Unsat exit yields a true optimum, the exit at `cost == 0`
    only cost 0, and `NewPBClause` panics only when the current cost exceeds `Σ w`. -/
theorem loop_result (hc : Contract Q solveFn) (hnz : LitsNZ f) :
    ∀ (k : Nat) (q : Problem) (a : Asg), Q q → Problem.holds a q = true →
    Problem.holds (loop solveFn f k q a).last.1 q = true ∧
    (loop solveFn f k q a).last.2 = cost f (loop solveFn f k q a).last.1 ∧
    ((loop solveFn f k q a).stop = .unsat → IsOptimum q f (loop solveFn f k q a).last.1) ∧
    ((loop solveFn f k q a).stop = .exit0 → (loop solveFn f k q a).last.2 = 0) ∧
    ((loop solveFn f k q a).stop = .panic → sumW f < (loop solveFn f k q a).last.2) := fun k q a hq ha =>
  have e := (loop_eq_loopG solveFn f k q a).symm
  have ⟨_, _, h1, h3, _⟩ :=
    loopG_spec solveFn f 0 (sumW f) (goBound f) Q hQ (goBound_sem f hnz) hc.sound k q a _ e hq ha
  have ⟨h2, h4, h5, _⟩ := loopG_shape solveFn f 0 (sumW f) (goBound f) k q a _ e
  ⟨h1, h2, fun hu => h3 hu hc.complete, h4, h5⟩

theorem loop_fuel (hs : ∀ q a, Q q → solveFn q = some a → Problem.holds a q = true)
    (hnz : LitsNZ f) (hnn : NonNeg f) :
    ∀ (k : Nat) (q : Problem) (a : Asg), Q q → Problem.holds a q = true →
    (cost f a).toNat < k → (loop solveFn f k q a).stop ≠ .fuel := fun k q a hq ha hk =>
  have ⟨_, _, _, _, h⟩ := loopG_spec solveFn f 0 (sumW f) (goBound f) Q hQ (goBound_sem f hnz) hs k q a _
    (loop_eq_loopG solveFn f k q a).symm hq ha
  h (fun a => (cost_bounds f a hnn).1) (by omega)

end

theorem optimal_unsat_iff (solveFn : Problem → Option Asg) (f : List (Int × Int)) (Q : Problem → Prop)
    (hc : Contract Q solveFn) (p : Problem) (hp : Q p) (fuel : Nat) :
    optimal solveFn p f fuel = .unsat ↔ ¬ Satisfiable p :=
  optimal_eq_optimalG solveFn p f fuel ▸ optimalG_unsat_iff solveFn f _ _ _ Q hc p hp fuel

/-- C03 for weights `≥ 0`: with an oracle meeting `Contract` on every problem and fuel `≥ Σ w + 2`,
    `Optimal` on a satisfiable problem returns an optimum with its cost, and that pair is the last
    one sent on `results`. -/
theorem minimize_optimal (solveFn : Problem → Option Asg) (p : Problem) (f : List (Int × Int))
    (fuel : Nat) (hc : Contract (fun _ => True) solveFn) (hnz : LitsNZ f) (hnn : NonNeg f)
    (hfuel : enoughFuel f ≤ fuel) (hsat : Satisfiable p) :
    ∃ a c s, optimal solveFn p f fuel = .ok a c s ∧ IsOptimum p f a ∧ c = cost f a ∧
      s.getLast? = some (a, c) ∧ (s.map (·.2)).Pairwise (· > ·) ∧
      ∀ x ∈ s, Problem.holds x.1 p = true ∧ x.2 = cost f x.1 := by
  rw [optimal_eq_optimalG]
  exact optimalG_spec solveFn f 0 (sumW f) (goBound f) (fun _ => True) (fun _ _ _ => trivial)
    (goBound_sem f hnz) hc (fun a => (cost_bounds f a hnn).1) (fun a => (cost_bounds f a hnn).2)
    p trivial fuel (by unfold enoughFuel at hfuel; omega) hsat

theorem minimize_optimal' (solveFn : Problem → Option Asg) (p : Problem) (f : List (Int × Int))
    (fuel : Nat) (hc : Contract (fun _ => True) solveFn) (hnz : LitsNZ f) (hnn : NonNeg f)
    (hfuel : enoughFuel f ≤ fuel) (hsat : Satisfiable p) :
    ∃ a c, minimize solveFn p f fuel = some (a, c) ∧ Problem.holds a p = true ∧ c = cost f a ∧
      (∀ b, Problem.holds b p = true → c ≤ cost f b) ∧ IsOptimum p f a := by
  obtain ⟨a, c, s, h, hopt, hcost, _⟩ := minimize_optimal solveFn p f fuel hc hnz hnn hfuel hsat
  refine ⟨a, c, ?_, hopt.1, hcost, ?_, hopt⟩
  · unfold minimize; rw [h]
  · intro b hb; rw [hcost]; exact hopt.2 b hb

/-- On an unsatisfiable problem `Minimize` returns -1. -/
theorem minimize_unsat (solveFn : Problem → Option Asg) (p : Problem) (f : List (Int × Int))
    (fuel : Nat) (hc : Contract (fun _ => True) solveFn) (hun : ¬ Satisfiable p) :
    optimal solveFn p f fuel = .unsat ∧ minimize solveFn p f fuel = none ∧
      (optimal solveFn p f fuel).minimizeResult = some (-1) := by
  have h := (optimal_unsat_iff solveFn f _ hc p trivial fuel).2 hun
  refine ⟨h, ?_, ?_⟩
  · unfold minimize; rw [h]
  · rw [h]; rfl

theorem optimal_unsat_only (solveFn : Problem → Option Asg) (p : Problem) (f : List (Int × Int))
    (fuel : Nat) (hc : Contract (fun _ => True) solveFn)
    (h : optimal solveFn p f fuel = .unsat) : ¬ Satisfiable p :=
  (optimal_unsat_iff solveFn f _ hc p trivial fuel).1 h

/-- **C20.** The costs sent on the `results` channel are strictly decreasing — for arbitrary
    integer weights, any fuel, and an oracle that is merely sound. -/
theorem stream_strictly_decreasing (solveFn : Problem → Option Asg) (p : Problem)
    (f : List (Int × Int)) (fuel : Nat)
    (hs : ∀ q a, solveFn q = some a → Problem.holds a q = true) (hnz : LitsNZ f) :
    (optimal solveFn p f fuel).costs.Pairwise (· > ·) := by
  rw [optimal_eq_optimalG]
  exact optimalG_costs solveFn f _ _ _ (fun _ => True) (fun _ _ _ => trivial) (goBound_sem f hnz)
    (fun q a _ => hs q a) p trivial fuel

/-- No cost function (`s.minLits == nil`, or an empty one): the first model, cost 0. -/
theorem loop_nil (solveFn : Problem → Option Asg) (k : Nat) (p : Problem) (a : Asg) :
    (loop solveFn [] (k + 1) p a).last = (a, 0) ∧ (loop solveFn [] (k + 1) p a).stop = .exit0 := by
  simp [loop, cost, lhs]


theorem goBound_wf (n : Nat) (f : List (Int × Int)) (c : Int) (hf : termsWf n f = true) :
    (goBound f c).wf n = true := by
  refine List.all_eq_true.2 fun x hx => ?_
  obtain ⟨t, ht, rfl⟩ := List.mem_map.1 (mem_sortDesc x _ ((stripZeros_sublist _).subset hx))
  rw [litOk_neg]
  exact (termsWf_iff n f).1 hf t ht

theorem bruteSolve_contract (n : Nat) : Contract (fun q => q.wf n = true) (bruteSolve n) := by
  constructor
  · intro q a _ h
    obtain ⟨bs, hbs, rfl⟩ := Option.map_eq_some_iff.1 h
    have := List.find?_some (show (leaves n).find? _ = some bs from hbs)
    exact this
  · intro q hq h hsat
    unfold bruteSolve bruteWitness at h
    simp only [Option.map_eq_none_iff, List.find?_eq_none] at h
    have := (bruteSat_iff n q hq).2 hsat
    unfold bruteSat at this
    rw [List.any_eq_true] at this
    obtain ⟨bs, hbs, hh⟩ := this
    exact h bs hbs hh

/-- The contract is not vacuous: the exhaustive oracle meets it on the problems over `1..n`. -/
example : Contract (fun q => q.wf 3 = true) (bruteSolve 3) := bruteSolve_contract 3

theorem litsNZ_of_wf (n : Nat) (f : List (Int × Int)) (hf : termsWf n f = true) : LitsNZ f :=
  fun t ht => ((litOk_iff n t.2).1 ((termsWf_iff n f).1 hf t ht)).1

theorem eq_bruteOpt (n : Nat) (p : Problem) (f : List (Int × Int)) (hp : p.wf n = true)
    (hf : termsWf n f = true) (r : Option Int)
    (hsat : Satisfiable p → ∃ a, IsOptimum p f a ∧ r = some (cost f a))
    (hun : ¬ Satisfiable p → r = none) : r = bruteOpt n p f := by
  by_cases h : Satisfiable p
  · obtain ⟨a, hopt, hr⟩ := hsat h
    cases hb : bruteOpt n p f with
    | none => exact absurd h ((bruteOpt_none n p f hp).1 hb)
    | some m => rw [hr, bruteOpt_unique n p f m hp hf hb a hopt]
  · rw [hun h, (bruteOpt_none n p f hp).2 h]

/-- The loop as the driver runs it (exhaustive oracle over `1..n`) agrees with the verified oracle
    `bruteOpt` on all well-formed inputs with non-negative weights. -/
theorem minimizeBrute_eq_bruteOpt (n : Nat) (p : Problem) (f : List (Int × Int))
    (hp : p.wf n = true) (hf : termsWf n f = true) (hnn : NonNeg f) :
    minimizeBruteCost n p f = bruteOpt n p f := by
  refine eq_bruteOpt n p f hp hf _ (fun hsat => ?_) (fun hun => ?_)
  · obtain ⟨a, c, s, h, hopt, hc, _⟩ :=
      optimalG_spec (bruteSolve n) f 0 (sumW f) (goBound f) (fun q => q.wf n = true)
        (fun q c hq => Problem.wf_append_one n q _ hq (goBound_wf n f c hf)) (goBound_sem f (litsNZ_of_wf n f hf))
        (bruteSolve_contract n) (fun a => (cost_bounds f a hnn).1) (fun a => (cost_bounds f a hnn).2)
        p hp (enoughFuel f) (by unfold enoughFuel; omega) hsat
    refine ⟨a, hopt, ?_⟩
    unfold minimizeBruteCost minimizeBrute minimize
    rw [optimal_eq_optimalG, h, hc]; rfl
  · unfold minimizeBruteCost minimizeBrute minimize
    rw [(optimal_unsat_iff (bruteSolve n) f _ (bruteSolve_contract n) p hp _).2 hun]
    rfl

/-! ### shape of what Go appends

`NewPBClause` / the PB propagation code expect weights sorted in decreasing order, strictly
positive, and a degree `≥ 1`. For non-negative cost weights the loop always provides that. -/

theorem insertDesc_sorted (t : Int × Int) (l : List (Int × Int)) :
    l.Pairwise (fun x y => x.1 ≥ y.1) → (insertDesc t l).Pairwise (fun x y => x.1 ≥ y.1) := by
  fun_induction insertDesc t l with
  | case1 => exact fun _ => List.pairwise_singleton _ _
  | case2 u us hgt ih =>
    intro h
    rw [List.pairwise_cons] at h
    refine List.pairwise_cons.2 ⟨fun x hx => ?_, ih h.2⟩
    rcases List.mem_cons.1 ((insertDesc_perm t us).subset hx) with rfl | hx
    · omega
    · exact h.1 x hx
  | case3 u us hle =>
    intro h
    refine List.pairwise_cons.2 ⟨fun x hx => ?_, h⟩
    rcases List.mem_cons.1 hx with rfl | hx
    · omega
    · have := (List.pairwise_cons.1 h).1 x hx; omega

theorem sortDesc_sorted : ∀ l : List (Int × Int), (sortDesc l).Pairwise (fun x y => x.1 ≥ y.1) := by
  intro l
  induction l with
  | nil => exact List.Pairwise.nil
  | cons t ts ih => exact insertDesc_sorted t _ ih

theorem hypothesis_sorted (f : List (Int × Int)) :
    (hypothesis f).Pairwise (fun x y => x.1 ≥ y.1) :=
  List.Pairwise.sublist (stripZeros_sublist _) (sortDesc_sorted _)

/-- On a list sorted by decreasing weight with weights `≥ 0` the zero weights are all at the end,
    so `stripZeros` removes every one of them. -/
theorem stripZeros_pos : ∀ l : List (Int × Int), l.Pairwise (fun x y => x.1 ≥ y.1) →
    (∀ t ∈ l, 0 ≤ t.1) → ∀ x ∈ stripZeros l, 0 < x.1 := by
  intro l
  induction l with
  | nil => intro _ _ x hx; cases hx
  | cons t ts ih =>
    intro hs hnn
    rw [List.pairwise_cons] at hs
    have ih' := ih hs.2 (fun u hu => hnn u (List.mem_cons_of_mem t hu))
    have ht := hnn t List.mem_cons_self
    rw [stripZeros_cons]
    split
    · intro x hx; cases hx
    · rename_i hne
      intro x hx
      rcases List.mem_cons.1 hx with rfl | hx
      · -- the head is kept: either its weight is not 0, or a positive weight follows it
        cases hr : stripZeros ts with
        | nil => simp only [hr, true_and] at hne; omega
        | cons r rs =>
          have hr0 : 0 < r.1 := ih' r (hr ▸ List.mem_cons_self)
          have := hs.1 r ((stripZeros_sublist ts).subset (hr ▸ List.mem_cons_self))
          omega
      · exact ih' x hx

theorem hypothesis_pos (f : List (Int × Int)) (hnn : NonNeg f) : ∀ x ∈ hypothesis f, 0 < x.1 := by
  apply stripZeros_pos _ (sortDesc_sorted _)
  intro t ht
  obtain ⟨u, hu, rfl⟩ := List.mem_map.1 (mem_sortDesc t _ ht)
  exact hnn u hu

/-- So `NewPBClause` cannot panic when the cost weights are `≥ 0`. -/
theorem goBound_degree_pos (f : List (Int × Int)) (a : Asg) (hnn : NonNeg f) :
    1 ≤ (goBound f (cost f a)).degree := by
  have := (cost_bounds f a hnn).2
  unfold goBound
  simp only
  omega

/-- hypotheses of `minimize_optimal` / `minimizeBrute_eq_bruteOpt` on a non-trivial input:
    `x1 ∨ x2`, `¬x1 ∨ x3`, cost `3·x1 + 2·x2 + 0·x3 + 2·¬x3`. -/
example : Problem.wf 3 [Lin.ofClause [1, 2], Lin.ofClause [-1, 3]] = true ∧
    termsWf 3 [(3, 1), (2, 2), (0, 3), (2, -3)] = true ∧ NonNeg [(3, 1), (2, 2), (0, 3), (2, -3)] ∧
    LitsNZ [(3, 1), (2, 2), (0, 3), (2, -3)] := by decide +kernel

example : minimizeBruteCost 3 [Lin.ofClause [1, 2], Lin.ofClause [-1, 3]]
      [(3, 1), (2, 2), (0, 3), (2, -3)] = some 2 ∧
    (optimalBrute 3 [Lin.ofClause [1, 2], Lin.ofClause [-1, 3]]
      [(3, 1), (2, 2), (0, 3), (2, -3)]).costs = [4, 2] ∧
    bruteOpt 3 [Lin.ofClause [1, 2], Lin.ofClause [-1, 3]] [(3, 1), (2, 2), (0, 3), (2, -3)] = some 2 := by
  decide +kernel

/-- What Go appends for that cost function at cost 4: sorted, zero weight dropped, degree 7-4+1. -/
example : goBound [(3, 1), (2, 2), (0, 3), (2, -3)] 4 = ⟨[(3, -1), (2, -2), (2, 3)], 4⟩ := by decide

/-- Cost function `−1·x1`, no constraint, one variable.
    The first model found by the exhaustive oracle is `x1 = false`, of cost 0: the loop leaves
    through `cost == 0` and reports 0, whereas the minimum is −1 (`x1 = true`).
    The oracle used satisfies the contract (`bruteSolve_contract`), so this is a defect of the
    loop, not of the oracle. Observed on the Go code before the fix cd6dcdb:
    `ParsePBConstrs([PropClause(1,-1)])`, `SetCostFunc([x1], [-1])`, `Minimize()` returned 0. -/
theorem negative_weight_counterexample :
    minimizeBruteCost 1 [] [(-1, 1)] = some 0 ∧ bruteOpt 1 [] [(-1, 1)] = some (-1) ∧
    minimizeBruteCost 1 [] [(-1, 1)] ≠ bruteOpt 1 [] [(-1, 1)] := by decide

/-- Second defect with negative weights: cost `−1·x1 + 1·x2` under the clause `x2`.
    `maxCost = 0`, the first model `x1 = false, x2 = true` costs 1, so the degree passed to
    `NewPBClause` is `0 − 1 + 1 = 0 < 1`: panic ("Invalid cardinality value"). -/
theorem negative_weight_panic :
    (optimalBrute 2 [Lin.ofClause [2]] [(-1, 1), (1, 2)]).minimizeResult = none ∧
    (optimalBrute 2 [Lin.ofClause [2]] [(-1, 1), (1, 2)]).costs = [1] ∧
    (goBound [(-1, 1), (1, 2)] 1).degree = 0 ∧
    bruteOpt 2 [Lin.ofClause [2]] [(-1, 1), (1, 2)] = some 0 := by decide +kernel

/-- With negative weights the zero-stripping does not remove all zero weights (after sorting they
    are not at the end) — harmless for the semantics (`goBound_holds`); since cd6dcdb it removes
    them all (`OptimS.hypothesisS_pos`). -/
example : hypothesis [(0, 1), (-1, 2)] = [(0, -1), (-1, -2)] := by decide

end GS.Optim
