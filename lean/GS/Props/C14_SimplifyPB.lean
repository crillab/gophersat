import GS.Model.SimplifyPB
import GS.Spec.LitSum
/-!
# C14 (last step) — `(*Clause).SimplifyPB` is sound

`cuttingPlanes` ends with `pb.clause().SimplifyPB()`. For the mirror `simplifyTerms`
(`GS.Model.SimplifyPB`) and every term list with non-negative weights (no sortedness is needed
for soundness, and literals may repeat): `ok = false` only for unsatisfiable constraints, the saturation
loop never indexes an empty slice (no hypothesis), and the constraint is equivalent to units ∧ remainder
(`simplify_equiv`), also for every set of literals counted in place of the true ones
(`simplify_equiv_sel`). All are read off `simplifyTerms_spec`, which says what the answer is in terms
of the place where the unit loop stops (`SimpSpec`).
-/
namespace GS

/-! `SimplifyPB` compares the degree with the weight of the literals that count: the true ones when
the constraint is evaluated (`lhs a`), the ones not falsified when it is asked whether the
constraint propagates. What it does is right for every test `p` of the literals (`litSum p`). -/

theorem weightSum_eq_litSum : ∀ ts, weightSum ts = litSum (fun _ => true) ts
  | [] => rfl
  | t :: ts => congrArg (t.1 + ·) (weightSum_eq_litSum ts)

theorem takeUnits_nil (th c : Int) : takeUnits th [] c = ([], c, []) := rfl

theorem takeUnits_cons (th c : Int) (t : Int × Int) (ts : List (Int × Int)) :
    takeUnits th (t :: ts) c =
      if t.1 > th then
        (t.2 :: (takeUnits th ts (c - t.1)).1, (takeUnits th ts (c - t.1)).2.1,
          (takeUnits th ts (c - t.1)).2.2)
      else ([], c, t :: ts) := rfl

/-- the unit loop splits the list at the first term that is not heavier than `th`: the units are the
    literals of the prefix, and the weights of the prefix have been taken off the degree -/
theorem takeUnits_split (th c : Int) (ts : List (Int × Int)) : ∃ pre post, ts = pre ++ post ∧
    takeUnits th ts c = (pre.map (·.2), c - weightSum pre, post) ∧ (∀ t ∈ pre, th < t.1) ∧
      ∀ t ∈ post.head?, t.1 ≤ th := by
  induction ts generalizing c with
  | nil => exact ⟨[], [], rfl, by rw [takeUnits_nil, weightSum, Int.sub_zero]; rfl, nofun, nofun⟩
  | cons t ts ih =>
    rw [takeUnits_cons]
    by_cases h : t.1 > th
    · obtain ⟨pre, post, hts, htu, hgt, hle⟩ := ih (c - t.1)
      rw [if_pos h, htu]
      exact ⟨t :: pre, post, congrArg (t :: ·) hts, by rw [List.map_cons, weightSum, Int.sub_sub],
        List.forall_mem_cons.mpr ⟨h, hgt⟩, hle⟩
    · rw [if_neg h]
      exact ⟨[], t :: ts, rfl, by rw [weightSum, Int.sub_zero]; rfl, nofun,
        fun s hs => by cases hs; exact Int.not_lt.mp h⟩

/-- what an answer of `SimplifyPB` says of its input. `ok = false`: the weights do not reach the degree.
    Otherwise the terms split into those heavier than the threshold `weightSum ts - card`, whose literals
    are the units, and the rest; the rest is dropped when the units use up the degree, else returned with
    what is left of the degree, the weight at index 0 cut down to it. There is no panic: when some
    degree is left, so is a term. -/
def SimpSpec (ts : List (Int × Int)) (card : Int) : SimpOut → Prop
  | .unsat => weightSum ts < card
  | .panic => False
  | .done units rest => ∃ pre post, ts = pre ++ post ∧ units = pre.map (·.2) ∧ card ≤ weightSum ts ∧
      (∀ t ∈ pre, weightSum ts - card < t.1) ∧ (∀ t ∈ post.head?, t.1 ≤ weightSum ts - card) ∧
      (card ≤ weightSum pre ∧ rest = none ∨
       weightSum pre < card ∧ ∃ t r, post = t :: r ∧
         rest = some ((if t.1 > card - weightSum pre then (card - weightSum pre, t.2) else t) :: r,
           card - weightSum pre))

theorem simplifyTerms_spec (ts : List (Int × Int)) (card : Int) :
    SimpSpec ts card (simplifyTerms ts card) := by
  unfold simplifyTerms
  by_cases h1 : weightSum ts - card < 0
  · simp only [if_pos h1]; exact (by omega : weightSum ts < card)
  obtain ⟨pre, post, hts, htu, hgt, hle⟩ := takeUnits_split (weightSum ts - card) card ts
  simp only [if_neg h1, htu]
  by_cases h2 : card - weightSum pre ≤ 0
  · rw [if_pos h2]; exact ⟨pre, post, hts, rfl, by omega, hgt, hle, Or.inl ⟨by omega, rfl⟩⟩
  rw [if_neg h2]
  cases post with
  | nil =>
    -- all of `ts` went into the units: their weight is at least the degree
    rw [List.append_nil] at hts; subst hts; omega
  | cons t r => exact ⟨pre, t :: r, hts, rfl, by omega, hgt, hle, Or.inr ⟨by omega, t, r, rfl, rfl⟩⟩

theorem simplify_done {ts : List (Int × Int)} {card : Int} {units : List Int}
    {rest : Option (List (Int × Int) × Int)} (h : simplifyTerms ts card = .done units rest) :
    SimpSpec ts card (.done units rest) :=
  h ▸ simplifyTerms_spec ts card

theorem simplify_unsat (ts : List (Int × Int)) (card : Int) (hw : ∀ t ∈ ts, 0 ≤ t.1)
    (h : simplifyTerms ts card = .unsat) (a : Asg) : Lin.holds a ⟨ts, card⟩ = false := by
  have h1 : weightSum ts < card := (h ▸ simplifyTerms_spec ts card : SimpSpec ts card .unsat)
  have := litSum_mono (p := litTrue a) (q := fun _ => true) hw fun _ _ _ => rfl
  rw [← weightSum_eq_litSum] at this
  rw [Lin.holds, lhs_eq_litSum]
  exact decide_eq_false (show ¬ card ≤ litSum _ ts by omega)

theorem simplify_no_panic (ts : List (Int × Int)) (card : Int) : simplifyTerms ts card ≠ .panic :=
  fun h => (h ▸ simplifyTerms_spec ts card : SimpSpec ts card .panic)

section
variable (p : Int → Bool)

theorem saturate_equiv (c : Int) (t : Int × Int) (ts : List (Int × Int))
    (hw : ∀ s ∈ ts, 0 ≤ s.1) :
    c ≤ litSum p ((if t.1 > c then (c, t.2) else t) :: ts) ↔ c ≤ litSum p (t :: ts) := by
  have := litSum_nonneg p hw
  by_cases h : t.1 > c
  · rw [if_pos h]
    simp only [litSum]
    split <;> omega
  · rw [if_neg h]

theorem simplify_units_sel (ts : List (Int × Int)) (card : Int) (hw : ∀ t ∈ ts, 0 ≤ t.1)
    (units : List Int) (rest : Option (List (Int × Int) × Int))
    (h : simplifyTerms ts card = .done units rest) (ha : card ≤ litSum p ts) : ∀ u ∈ units, p u = true := by
  obtain ⟨pre, post, hts, rfl, _, hgt, _⟩ := simplify_done h
  intro u hmem
  obtain ⟨t, hpre, rfl⟩ := List.mem_map.mp hmem
  have hlt := hgt t hpre
  cases hf : p t.2
  · -- without `t` the weight that passes is below the degree
    have := litSum_mono_lt (q := fun _ => true) hw (fun _ _ _ => rfl)
      (hts ▸ List.mem_append_left _ hpre) hf rfl
    rw [← weightSum_eq_litSum] at this
    omega
  · rfl

/-- **`SimplifyPB` for every way of counting**: the degree is reached by the literals that pass `p` iff
    every unit passes and the remainder reaches its degree. -/
theorem simplify_equiv_sel (ts : List (Int × Int)) (card : Int) (hw : ∀ t ∈ ts, 0 ≤ t.1)
    (units : List Int) (rest : Option (List (Int × Int) × Int))
    (h : simplifyTerms ts card = .done units rest) :
    card ≤ litSum p ts ↔
      (∀ u ∈ units, p u = true) ∧ (∀ r, rest = some r → r.2 ≤ litSum p r.1) := by
  have hunits := simplify_units_sel p ts card hw units rest h
  obtain ⟨pre, post, hts, rfl, _, _, _, hcase⟩ := simplify_done h
  have hwp : ∀ t ∈ post, 0 ≤ t.1 := fun t ht => hw t (hts ▸ List.mem_append_right _ ht)
  have hnn := litSum_nonneg p hwp
  -- units that pass contribute their whole weight
  have hsum : (∀ u ∈ pre.map (·.2), p u = true) → litSum p ts = weightSum pre + litSum p post := fun hu => by
    rw [hts, litSum_append, weightSum_eq_litSum pre, litSum_congr (q := fun _ => true) fun t ht => hu _ (List.mem_map_of_mem ht)]
  rcases hcase with ⟨hle, rfl⟩ | ⟨hlt, t, r, rfl, rfl⟩
  · exact ⟨fun ha => ⟨hunits ha, nofun⟩, fun ⟨hu, _⟩ => by rw [hsum hu]; omega⟩
  · have hsat := saturate_equiv p (card - weightSum pre) t r fun s hs => hwp s (List.mem_cons_of_mem _ hs)
    refine ⟨fun ha => ⟨hunits ha, fun _ hr => ?_⟩, fun ⟨hu, hrest⟩ => ?_⟩
    · cases hr
      have := hsum (hunits ha)
      exact hsat.mpr (by omega)
    · have := hsat.mp (hrest _ rfl)
      rw [hsum hu]; omega

end

theorem simplify_units (ts : List (Int × Int)) (card : Int) (hw : ∀ t ∈ ts, 0 ≤ t.1)
    (units : List Int) (rest : Option (List (Int × Int) × Int))
    (h : simplifyTerms ts card = .done units rest) (a : Asg)
    (ha : Lin.holds a ⟨ts, card⟩ = true) : ∀ u ∈ units, litTrue a u = true := by
  rw [Lin.holds_iff, lhs_eq_litSum] at ha
  exact simplify_units_sel _ ts card hw units rest h ha

theorem simplify_equiv (ts : List (Int × Int)) (card : Int) (hw : ∀ t ∈ ts, 0 ≤ t.1)
    (units : List Int) (rest : Option (List (Int × Int) × Int))
    (h : simplifyTerms ts card = .done units rest) (a : Asg) :
    Lin.holds a ⟨ts, card⟩ = true ↔
      (∀ u ∈ units, litTrue a u = true) ∧ (∀ r, rest = some r → Lin.holds a ⟨r.1, r.2⟩ = true) := by
  simp only [Lin.holds_iff, lhs_eq_litSum]
  exact simplify_equiv_sel _ ts card hw units rest h

/-- the remainder handed to `NewPBClause` has cardinality `≥ 1` (no "Invalid cardinality" panic) -/
theorem simplify_rest_card (ts : List (Int × Int)) (card : Int) (units : List Int)
    (r : List (Int × Int) × Int) (h : simplifyTerms ts card = .done units (some r)) : 0 < r.2 := by
  obtain ⟨pre, _, _, _, _, _, _, ⟨_, h⟩ | ⟨hlt, _, _, _, h⟩⟩ := simplify_done h
  · cases h
  · cases h; exact (by omega : 0 < card - weightSum pre)

/-- `5 x1 + 2 x2 + x3 ≥ 6`: threshold `2`, `x1` is unit, remainder `2 x2 + x3 ≥ 1`, saturated at
    index 0 to `x2 + x3 ≥ 1`. -/
example : simplifyPB [1, 2, 3] [5, 2, 1] 6 = .done [1] (some ([(1, 2), (1, 3)], 1)) := by decide
example : ∀ t ∈ List.zip [(5:Int), 2, 1] [(1:Int), 2, 3], 0 ≤ t.1 := by decide
/-- only index 0 is saturated: `3 x1 + 3 x2 + x3 ≥ 2` keeps the second weight `3 > 2`. -/
example : simplifyPB [1, 2, 3] [3, 3, 1] 2 = .done [] (some ([(2, 1), (3, 2), (1, 3)], 2)) := by decide
example : simplifyPB [1, 2] [2, 1] 4 = .unsat := by decide
example : simplifyPB [1, 2] [2, 1] 3 = .done [1, 2] none := by decide

end GS
