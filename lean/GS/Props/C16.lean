import GS.Props.Facts
/-!
# C16 — independent solver instances do not interfere; calls are race free

The regenerated structural premises. `GS.Facts.no_package_level_state` says
that no function of the library packages writes a package-level variable (`bufLits`, the scratch
buffer that made independent solvers interfere, is a field of `Solver`), so two solvers that share
no data have disjoint footprints; `GS.Facts.chan_ops` says who sends, closes, drains and
receives on each channel the library creates, which is what the protocol model
(`GS.Model.Chan`, C20) is instantiated with. The search for a failing schedule is the
race-detector run of the harness.
-/
namespace GS
theorem C16_no_shared_package_state : GS.Generated.pkgVarWrites = [] := GS.Facts.no_package_level_state
end GS
