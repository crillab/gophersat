import GS.Model.WatchLevels
import GS.Props.C01_WatchPropagate
/-!
# C01 (support) — the watch invariant with decision levels survives a backjump

`WatchInvL st ptr` = `WatchInv st ptr` + levels non-decreasing along the trail + every excusing true
literal of the semantic part is bound at a level `≤` the level of the processed trail literal whose
watcher it excuses.  `cleanup_preserves`: `cleanupBindings(lvl)` (`GS.Search.cleanup`) keeps it, from a state
with everything processed; `bindSt_invL`: so does binding at the highest level.  That `propagate` keeps it is
stated, not proved (`propagate_specL_statement`), and `backjump_then_propagate` is relative to that statement.
-/
namespace GS.Watch
open GS.Search (lvlAbs keepLen cleanup)

/-- the semantic condition of one watcher, with the level bound `L` of the processed literal -/
def SemWL (cl : List (List Int)) (m : List Int) (L : Int) (w : Watcher) : Prop :=
  trueLe m L w.other = true ∨ ∃ c, cl[w.cid]? = some c ∧
    ((∃ a, c[0]? = some a ∧ trueLe m L a = true) ∨ (∃ b, c[1]? = some b ∧ trueLe m L b = true))

structure WatchInvL (st : State) (ptr : Nat) : Prop where
  inv : WatchInv st ptr
  mono : st.trail.Pairwise (fun a b => lvlAbs st.model a ≤ lvlAbs st.model b)
  semBinL : ∀ i ws, st.wbin[i]? = some ws → idxLit i ∈ st.trail.take ptr →
    ∀ w ∈ ws, trueLe st.model (lvlAbs st.model (idxLit i)) w.other = true
  semLongL : ∀ i ws, st.wlong[i]? = some ws → idxLit i ∈ st.trail.take ptr →
    ∀ w ∈ ws, SemWL st.clauses st.model (lvlAbs st.model (idxLit i)) w

theorem trueLe_iff {m : List Int} {L e : Int} :
    trueLe m L e = true ↔ litTrueB m e = true ∧ lvlAbs m e ≤ L := by
  simp [trueLe]

theorem SemWL.toSemW {cl : List (List Int)} {m : List Int} {L : Int} {w : Watcher}
    (h : SemWL cl m L w) : SemW cl m w :=
  SemP_mono (T := fun x => trueLe m L x = true) (fun _ hx => (trueLe_iff.mp hx).1) h

theorem SemWL_mono {cl : List (List Int)} {m m' : List Int} {L L' : Int}
    (hm : ∀ x, trueLe m L x = true → trueLe m' L' x = true) {w : Watcher} (h : SemWL cl m L w) :
    SemWL cl m' L' w :=
  SemP_mono (T := fun x => trueLe m L x = true) hm h

theorem semBinLOk_iff (st : State) (ptr : Nat) : semBinLOk st ptr = true ↔
    ∀ i ws, st.wbin[i]? = some ws → idxLit i ∈ st.trail.take ptr →
      ∀ w ∈ ws, trueLe st.model (lvlAbs st.model (idxLit i)) w.other = true :=
  procAll_iff (p := fun i w => trueLe st.model (lvlAbs st.model (idxLit i)) w.other) st.wbin _
    (fun _ _ => Iff.rfl)

theorem semLongLOk_iff (st : State) (ptr : Nat) : semLongLOk st ptr = true ↔
    ∀ i ws, st.wlong[i]? = some ws → idxLit i ∈ st.trail.take ptr →
      ∀ w ∈ ws, SemWL st.clauses st.model (lvlAbs st.model (idxLit i)) w :=
  procAll_iff st.wlong _
    (fun i w => semP_iff (trueLe st.model (lvlAbs st.model (idxLit i))) st.clauses w)

theorem watchInvL_iff (st : State) (ptr : Nat) : watchInvL st ptr = true ↔ WatchInvL st ptr := by
  unfold watchInvL levelsMonoB
  simp only [Bool.and_eq_true, decide_eq_true_eq]
  rw [watchInv_iff, semBinLOk_iff, semLongLOk_iff]
  constructor
  · rintro ⟨⟨⟨h1, h2⟩, h3⟩, h4⟩
    exact ⟨h1, h2, h3, h4⟩
  · intro h
    exact ⟨⟨⟨h.inv, h.mono⟩, h.semBinL⟩, h.semLongL⟩

theorem WatchInvL.mono_index {st : State} {ptr : Nat} (h : WatchInvL st ptr) {i j : Nat} {a b : Int}
    (hij : i ≤ j) (hi : st.trail[i]? = some a) (hj : st.trail[j]? = some b) :
    lvlAbs st.model a ≤ lvlAbs st.model b := by
  rcases Nat.lt_or_ge i j with hlt | hge
  · obtain ⟨hi', rfl⟩ := List.getElem?_eq_some_iff.mp hi
    obtain ⟨hj', rfl⟩ := List.getElem?_eq_some_iff.mp hj
    exact List.pairwise_iff_getElem.mp h.mono i j hi' hj' hlt
  · have : i = j := by omega
    subst this
    rw [hi] at hj; cases hj
    exact Int.le_refl _

theorem unset_length {α} (z : α) (ls : List Int) (r : List α) : (unset z ls r).length = r.length :=
  List.foldlRecOn (motive := fun r' : List α => r'.length = r.length) ls _ rfl fun r' h l _ => by rw [List.length_set, h]

theorem unset_get_notin {α} (z : α) {v : Nat} (ls : List Int) (r : List α)
    (h : ∀ l ∈ ls, l.natAbs - 1 ≠ v) : (unset z ls r)[v]? = r[v]? :=
  List.foldlRecOn (motive := fun r' : List α => r'[v]? = r[v]?) ls _ rfl fun r' hr l hl => by
    rw [List.getElem?_set_ne (h l hl), hr]

theorem unset_get_in {α} (z : α) {v : Nat} : ∀ (ls : List Int) (r : List α),
    (∃ l ∈ ls, l.natAbs - 1 = v) → v < r.length → (unset z ls r)[v]? = some z := by
  intro ls
  induction ls with
  | nil => intro r h; obtain ⟨_, hl, _⟩ := h; cases hl
  | cons l ls ih =>
    intro r h hv
    show (unset z ls (r.set (l.natAbs - 1) z))[v]? = some z
    by_cases hin : ∃ l' ∈ ls, l'.natAbs - 1 = v
    · exact ih _ hin (by simpa using hv)
    · have hnot : ∀ l' ∈ ls, l'.natAbs - 1 ≠ v := fun l' hl' he => hin ⟨l', hl', he⟩
      rw [unset_get_notin z ls _ hnot]
      obtain ⟨l', hl', he⟩ := h
      rcases List.mem_cons.mp hl' with rfl | hl'
      · rw [he, List.getElem?_set_self hv]
      · exact absurd he (hnot l' hl')

theorem keepLen_le (m : List Int) (lvl : Int) : ∀ tr : List Int, keepLen m lvl tr ≤ tr.length := by
  intro tr
  fun_induction keepLen m lvl tr
  · exact Nat.le_refl _
  · exact Nat.succ_le_succ ‹_›
  · exact Nat.zero_le _

theorem keepLen_take (m : List Int) (lvl : Int) (tr : List Int) :
    ∀ l ∈ tr.take (keepLen m lvl tr), lvlAbs m l ≤ lvl := by
  fun_induction keepLen m lvl tr <;> intro l hl
  · cases hl
  · rename_i ha ih
    rw [List.take_succ_cons] at hl
    exact (List.mem_cons.mp hl).elim (fun e => e ▸ ha) (ih l)
  · cases hl

theorem keepLen_drop {m : List Int} {lvl : Int} {tr : List Int} :
    tr.Pairwise (fun a b => lvlAbs m a ≤ lvlAbs m b) →
    ∀ l ∈ tr.drop (keepLen m lvl tr), lvl < lvlAbs m l := by
  fun_induction keepLen m lvl tr <;> intro hp l hl
  · cases hl
  · rename_i ih
    exact ih (List.Pairwise.of_cons hp) l hl
  · rename_i ha
    rcases List.mem_cons.mp hl with rfl | hl
    · omega
    · have := List.rel_of_pairwise_cons hp hl
      omega

theorem cleanup_clauses (lvl : Int) (st : State) : (cleanup lvl st).clauses = st.clauses := rfl
theorem cleanup_wbin (lvl : Int) (st : State) : (cleanup lvl st).wbin = st.wbin := rfl
theorem cleanup_wlong (lvl : Int) (st : State) : (cleanup lvl st).wlong = st.wlong := rfl
theorem cleanup_trail (lvl : Int) (st : State) :
    (cleanup lvl st).trail = st.trail.take (keepLen st.model lvl st.trail) := rfl
theorem cleanup_model (lvl : Int) (st : State) :
    (cleanup lvl st).model = unset 0 (st.trail.drop (keepLen st.model lvl st.trail)) st.model := rfl
theorem cleanup_reasons (lvl : Int) (st : State) :
    (cleanup lvl st).reasons = unset none (st.trail.drop (keepLen st.model lvl st.trail)) st.reasons := rfl

/-- **`cleanup` cuts the trail to a prefix, unbinds exactly the dropped variables** (binding and
    reason) and leaves the clauses and the watch lists untouched. -/
theorem cleanup_shape (lvl : Int) (st : State) :
    (cleanup lvl st).clauses = st.clauses ∧ (cleanup lvl st).wbin = st.wbin ∧
    (cleanup lvl st).wlong = st.wlong ∧
    (cleanup lvl st).model.length = st.model.length ∧
    (cleanup lvl st).reasons.length = st.reasons.length ∧
    ∃ d, st.trail = (cleanup lvl st).trail ++ d ∧
      (∀ l ∈ (cleanup lvl st).trail, lvlAbs st.model l ≤ lvl) ∧
      (∀ l ∈ d, (l.natAbs - 1 < st.model.length → (cleanup lvl st).model[l.natAbs - 1]? = some 0) ∧
        (l.natAbs - 1 < st.reasons.length → (cleanup lvl st).reasons[l.natAbs - 1]? = some none)) ∧
      (∀ v, (∀ l ∈ d, l.natAbs - 1 ≠ v) → (cleanup lvl st).model[v]? = st.model[v]? ∧
        (cleanup lvl st).reasons[v]? = st.reasons[v]?) := by
  refine ⟨rfl, rfl, rfl, ?_, ?_, st.trail.drop (keepLen st.model lvl st.trail), ?_, ?_, ?_, ?_⟩
  · rw [cleanup_model, unset_length]
  · rw [cleanup_reasons, unset_length]
  · rw [cleanup_trail, List.take_append_drop]
  · rw [cleanup_trail]; exact keepLen_take _ _ _
  · intro l hl
    constructor
    · intro hlt
      rw [cleanup_model]; exact unset_get_in 0 _ _ ⟨l, hl, rfl⟩ hlt
    · intro hlt
      rw [cleanup_reasons]; exact unset_get_in none _ _ ⟨l, hl, rfl⟩ hlt
  · intro v hv
    constructor
    · rw [cleanup_model]; exact unset_get_notin 0 _ _ hv
    · rw [cleanup_reasons]; exact unset_get_notin none _ _ hv

theorem lvlAbs_congr {m m' : List Int} {l : Int} (h : m'[l.natAbs - 1]? = m[l.natAbs - 1]?) :
    lvlAbs m' l = lvlAbs m l := by
  unfold lvlAbs; rw [h]

theorem trueLe_congr {m m' : List Int} {t e : Int} (kt : m'[t.natAbs - 1]? = m[t.natAbs - 1]?)
    (ke : m'[e.natAbs - 1]? = m[e.natAbs - 1]?) :
    trueLe m' (lvlAbs m' t) e = trueLe m (lvlAbs m t) e := by
  unfold trueLe
  rw [litTrueB_congr ke, lvlAbs_congr ke, lvlAbs_congr kt]

theorem cleanup_keeps {st : State} {lvl : Int}
    (hm : st.trail.Pairwise (fun a b => lvlAbs st.model a ≤ lvlAbs st.model b)) {e : Int}
    (hle : lvlAbs st.model e ≤ lvl) :
    (cleanup lvl st).model[e.natAbs - 1]? = st.model[e.natAbs - 1]? := by
  rw [cleanup_model]
  apply unset_get_notin
  intro l hl heq
  have hgt := keepLen_drop (lvl := lvl) hm l hl
  unfold lvlAbs at hgt hle
  rw [heq] at hgt
  omega

theorem mem_cleanup_trail {st : State} {lvl t : Int} (ht : t ∈ (cleanup lvl st).trail) :
    t ∈ st.trail ∧ lvlAbs st.model t ≤ lvl := by
  rw [cleanup_trail] at ht
  exact ⟨List.mem_of_mem_take ht, keepLen_take _ _ _ t ht⟩

theorem cleanup_keeps_trail {st : State} {lvl : Int}
    (hm : st.trail.Pairwise (fun a b => lvlAbs st.model a ≤ lvlAbs st.model b)) {t : Int}
    (ht : t ∈ (cleanup lvl st).trail) :
    (cleanup lvl st).model[t.natAbs - 1]? = st.model[t.natAbs - 1]? :=
  cleanup_keeps hm (mem_cleanup_trail ht).2

theorem trueLe_cleanup {st : State} {lvl : Int}
    (hm : st.trail.Pairwise (fun a b => lvlAbs st.model a ≤ lvlAbs st.model b)) {t e : Int}
    (ht : t ∈ (cleanup lvl st).trail)
    (hte : trueLe st.model (lvlAbs st.model t) e = true) :
    trueLe (cleanup lvl st).model (lvlAbs (cleanup lvl st).model t) e = true := by
  obtain ⟨het, hel⟩ := trueLe_iff.mp hte
  have htl := (mem_cleanup_trail ht).2
  rw [trueLe_congr (cleanup_keeps_trail hm ht) (cleanup_keeps (lvl := lvl) hm (by omega))]
  exact hte

/-- **`cleanupBindings(lvl)` preserves the watch invariant with levels** (everything processed before,
    everything that remains is processed after).  A state with everything processed is what a `propagate`
    without conflict leaves, so this is the backjump of `restart`; a state in which `propagate` has found a
    conflict satisfies `WatchInv` at some earlier position only (`watch_complete`: with everything processed
    no clause has all its literals false), and the backjump from there is not covered. -/
theorem cleanup_preserves {st : State} (lvl : Int) (h : WatchInvL st st.trail.length) :
    WatchInvL (cleanup lvl st) (cleanup lvl st).trail.length := by
  have hI := h.inv
  obtain ⟨_, _, _, hlenm, hlenr, d, hd, _, hdrop, hkeep⟩ := cleanup_shape lvl st
  have hsub : (cleanup lvl st).trail.Sublist st.trail := by
    rw [cleanup_trail]; exact List.take_sublist _ _
  have hkeepT : ∀ t ∈ (cleanup lvl st).trail,
      (cleanup lvl st).model[t.natAbs - 1]? = st.model[t.natAbs - 1]? ∧ t ∈ st.trail :=
    fun t ht => ⟨cleanup_keeps_trail h.mono ht, (mem_cleanup_trail ht).1⟩
  have hproc : ∀ i, idxLit i ∈ (cleanup lvl st).trail.take (cleanup lvl st).trail.length →
      idxLit i ∈ (cleanup lvl st).trail ∧ idxLit i ∈ st.trail.take st.trail.length := by
    intro i hi
    rw [List.take_length] at hi ⊢
    exact ⟨hi, (hkeepT _ hi).2⟩
  have hsemB : ∀ i ws, (cleanup lvl st).wbin[i]? = some ws →
      idxLit i ∈ (cleanup lvl st).trail.take (cleanup lvl st).trail.length →
      ∀ w ∈ ws, trueLe (cleanup lvl st).model (lvlAbs (cleanup lvl st).model (idxLit i)) w.other = true := by
    intro i ws hws hin w hw
    obtain ⟨h1, h2⟩ := hproc i hin
    exact trueLe_cleanup h.mono h1 (h.semBinL i ws hws h2 w hw)
  have hsemL : ∀ i ws, (cleanup lvl st).wlong[i]? = some ws →
      idxLit i ∈ (cleanup lvl st).trail.take (cleanup lvl st).trail.length →
      ∀ w ∈ ws, SemWL (cleanup lvl st).clauses (cleanup lvl st).model
        (lvlAbs (cleanup lvl st).model (idxLit i)) w := by
    intro i ws hws hin w hw
    obtain ⟨h1, h2⟩ := hproc i hin
    exact SemWL_mono (fun _ hx => trueLe_cleanup h.mono h1 hx) (h.semLongL i ws hws h2 w hw)
  refine ⟨⟨?_, ?_, Nat.le_refl _, ?_, ?_, ?_, hI.wbin, hI.wlong, hI.count, ?_, ?_⟩, ?_, hsemB, hsemL⟩
  · rw [hlenm, hlenr]; exact hI.shape
  · intro c hc
    rw [hlenm]; exact hI.clauses c hc
  · intro l hl
    obtain ⟨hk, hm⟩ := hkeepT l hl
    rw [litTrueB_congr hk]; exact hI.trail_true l hm
  · exact (hsub.map _).nodup hI.trail_nodup
  · -- a variable of a dropped literal is unbound; any other keeps its binding, and if it is on the
    -- trail it is on what remains of it
    intro v hv
    rw [hlenm] at hv
    by_cases hin : ∃ l ∈ d, l.natAbs - 1 = v
    · obtain ⟨l, hl, rfl⟩ := hin
      exact Or.inl ((hdrop l hl).1 hv)
    · have hnot : ∀ l ∈ d, l.natAbs - 1 ≠ v := fun l hl he => hin ⟨l, hl, he⟩
      rw [(hkeep v hnot).1]
      refine (hI.bound_on_trail v hv).imp_right fun hb => ?_
      rw [hd, List.map_append, List.mem_append] at hb
      refine hb.resolve_right fun hb => ?_
      obtain ⟨l, hl, hlv⟩ := List.mem_map.mp hb
      exact hnot l hl (by omega)
  · intro i ws hws hin w hw
    exact (trueLe_iff.mp (hsemB i ws hws hin w hw)).1
  · intro i ws hws hin w hw
    exact (hsemL i ws hws hin w hw).toSemW
  · refine List.Pairwise.imp_of_mem ?_ (h.mono.sublist hsub)
    intro a b ha hb hab
    rw [lvlAbs_congr (hkeepT a ha).1, lvlAbs_congr (hkeepT b hb).1]; exact hab

theorem cleanup_preserves_bool {st : State} (lvl : Int) (h : watchInvL st st.trail.length = true) :
    watchInvL (cleanup lvl st) (cleanup lvl st).trail.length = true :=
  (watchInvL_iff _ _).mpr (cleanup_preserves lvl ((watchInvL_iff _ _).mp h))

theorem SemWL_swap {cl : List (List Int)} {m : List Int} {L : Int} {cid : Nat} {a b : Int} {r : List Int}
    (hc : cl[cid]? = some (a :: b :: r)) {w : Watcher} (h : SemWL cl m L w) :
    SemWL (cl.set cid (b :: a :: r)) m L w :=
  SemP_swap (T := fun x => trueLe m L x = true) hc h

theorem SemWL_move {cl : List (List Int)} {m : List Int} {L : Int} {cid : Nat} {first nl x : Int}
    {r r' : List Int} (hc : cl[cid]? = some (first :: nl :: r)) (hnl : litTrueB m nl = false)
    {w : Watcher} (h : SemWL cl m L w) : SemWL (cl.set cid (first :: x :: r')) m L w :=
  SemP_move (T := fun x => trueLe m L x = true) hc
    (fun ht => by rw [(trueLe_iff.mp ht).1] at hnl; cases hnl) h

/-- watchers of a literal bound at the highest level: the level condition adds nothing -/
theorem SemWL_of_top {cl : List (List Int)} {m : List Int} {L : Int} {w : Watcher}
    (hmax : ∀ x, lvlAbs m x ≤ L) (h : SemW cl m w) : SemWL cl m L w :=
  SemP_mono (T := fun x => litTrueB m x = true) (fun x hx => trueLe_iff.mpr ⟨hx, hmax x⟩) h

theorem bind_keeps {m : List Int} {l x v : Int} (hu : litUnboundB m l = true)
    (hx : litTrueB m x = true) : (m.set (l.natAbs - 1) v)[x.natAbs - 1]? = m[x.natAbs - 1]? := by
  obtain ⟨_, a, ha, ha0, _⟩ := litTrueB_iff.mp hx
  exact getElem?_set_unbound v hu ha ha0

theorem lvlAbs_bind_self {m : List Int} {l lvl : Int} (hlt : l.natAbs - 1 < m.length) (hlvl : 0 < lvl) :
    lvlAbs (m.set (l.natAbs - 1) (signedLvl l lvl)) l = lvl := by
  unfold lvlAbs signedLvl
  rw [List.getElem?_set_self hlt]
  simp only [Option.getD_some]
  split <;> omega

/-- **Binding at the current (highest) level preserves the invariant with levels** (binary branch of
    `propagate`, `propagateUnit`, and `unifyLiteral` of a literal whose reason is set). -/
theorem bindSt_invL {st : State} {ptr : Nat} {l lvl : Int} (cid : Nat) (h : WatchInvL st ptr)
    (hu : litUnboundB st.model l = true) (hlvl : 0 < lvl)
    (hmax : ∀ t ∈ st.trail, lvlAbs st.model t ≤ lvl) : WatchInvL (bindSt st l lvl cid) ptr := by
  have hI := h.inv
  obtain ⟨hl0, hm0⟩ := litUnboundB_iff.mp hu
  have hlt : l.natAbs - 1 < st.model.length := (List.getElem?_eq_some_iff.mp hm0).1
  have hkT : ∀ t ∈ st.trail,
      (bindSt st l lvl cid).model[t.natAbs - 1]? = st.model[t.natAbs - 1]? :=
    fun t ht => bind_keeps hu (hI.trail_true t ht)
  have htake : (bindSt st l lvl cid).trail.take ptr = st.trail.take ptr := by
    show (st.trail ++ [l]).take ptr = _
    rw [List.take_append_of_le_length hI.ptr_le]
  have hTL : ∀ t e, t ∈ st.trail → trueLe st.model (lvlAbs st.model t) e = true →
      trueLe (bindSt st l lvl cid).model (lvlAbs (bindSt st l lvl cid).model t) e = true := by
    intro t e ht hte
    rw [trueLe_congr (hkT t ht) (bind_keeps hu (trueLe_iff.mp hte).1)]; exact hte
  refine ⟨bindSt_inv cid hI hu hlvl, ?_, ?_, ?_⟩
  · show (st.trail ++ [l]).Pairwise _
    rw [List.pairwise_append]
    refine ⟨?_, List.pairwise_singleton _ _, ?_⟩
    · refine List.Pairwise.imp_of_mem ?_ h.mono
      intro a b ha hb hab
      rw [lvlAbs_congr (hkT a ha), lvlAbs_congr (hkT b hb)]; exact hab
    · intro a ha b hb
      rw [List.mem_singleton] at hb
      subst hb
      rw [lvlAbs_congr (hkT a ha)]
      have : lvlAbs (bindSt st b lvl cid).model b = lvl := lvlAbs_bind_self hlt hlvl
      rw [this]; exact hmax a ha
  · intro i ws hws hin w hw
    rw [htake] at hin
    exact hTL _ _ (List.mem_of_mem_take hin) (h.semBinL i ws hws hin w hw)
  · intro i ws hws hin w hw
    rw [htake] at hin
    exact SemWL_mono (fun x hx => hTL _ x (List.mem_of_mem_take hin) hx) (h.semLongL i ws hws hin w hw)

/-- The full statement about `propagate` (NOT proved here: see `bindSt_invL`, `SemWL_swap`,
    `SemWL_move`, `SemWL_mono`, `SemWL_of_top` for the steps that are). -/
def propagate_specL_statement : Prop :=
  ∀ (st : State) (ptr : Nat) (lvl : Int), WatchInvL st ptr → 0 < lvl →
    (∀ t ∈ st.trail, lvlAbs st.model t ≤ lvl) →
    (∀ t ∈ st.trail.drop ptr, lvlAbs st.model t = lvl) →
    ∀ st', propagate ptr lvl st = .ok (none, st') → WatchInvL st' st'.trail.length

/-- **Backjump, assert, propagate** (relative to `propagate_specL_statement`, which is not proved): from a
    state with every trail literal processed, after `cleanupBindings(lvl)`, binding the (unbound) literal
    `a` at level `lvl` with a reason (`s.reason[v] = learnt` + `unifyLiteral`) and propagating ends in the
    invariant with levels.  As for `cleanup_preserves`, the hypothesis on `st` rules out the state in which
    a conflict has just been found (there the invariant holds at an earlier position only), so the
    conflict → learn → backjump path of `search` is not an instance of this statement. -/
theorem backjump_then_propagate (H : propagate_specL_statement) {st : State} {lvl a : Int} {cid : Nat}
    (h : WatchInvL st st.trail.length) (hlvl : 0 < lvl)
    (hu : litUnboundB (cleanup lvl st).model a = true) {st' : State}
    (hp : propagate (cleanup lvl st).trail.length lvl (bindSt (cleanup lvl st) a lvl cid) = .ok (none, st')) :
    WatchInvL st' st'.trail.length := by
  have hc := cleanup_preserves lvl h
  have hI := hc.inv
  obtain ⟨_, hm0⟩ := litUnboundB_iff.mp hu
  have hlt : a.natAbs - 1 < (cleanup lvl st).model.length := (List.getElem?_eq_some_iff.mp hm0).1
  have hmax : ∀ t ∈ (cleanup lvl st).trail, lvlAbs (cleanup lvl st).model t ≤ lvl := by
    intro t ht
    rw [lvlAbs_congr (cleanup_keeps_trail h.mono ht)]
    exact (mem_cleanup_trail ht).2
  have hb := bindSt_invL cid hc hu hlvl hmax
  have hself : lvlAbs (bindSt (cleanup lvl st) a lvl cid).model a = lvl := lvlAbs_bind_self hlt hlvl
  refine H _ _ lvl hb hlvl ?_ ?_ st' hp
  · intro t ht
    change t ∈ (cleanup lvl st).trail ++ [a] at ht
    rcases List.mem_append.mp ht with ht | ht
    · have hk : (bindSt (cleanup lvl st) a lvl cid).model[t.natAbs - 1]? =
          (cleanup lvl st).model[t.natAbs - 1]? := bind_keeps hu (hI.trail_true t ht)
      rw [lvlAbs_congr hk]; exact hmax t ht
    · rw [List.mem_singleton] at ht; subst ht; omega
  · intro t ht
    change t ∈ ((cleanup lvl st).trail ++ [a]).drop (cleanup lvl st).trail.length at ht
    rw [List.drop_left] at ht
    rw [List.mem_singleton] at ht; subst ht; exact hself

/-- `exState` after `unifyLiteral(3, 2)` (the watch of clause 2 moves from `¬3` to `1`) and
    `unifyLiteral(2, 3)` (clause 2 becomes unit: `1` at level 3 with reason 2). -/
def exLevels : State :=
  { clauses := [[1, 2, 3], [-1, 2], [1, -2, -3]],
    wbin := [[⟨1, 2⟩], [], [], [⟨1, -1⟩], [], []],
    wlong := [[], [⟨0, 2⟩, ⟨2, -2⟩], [⟨2, 1⟩], [⟨0, 1⟩], [], []],
    model := [3, 3, 2], trail := [3, 2, 1], reasons := [some 2, none, none] }

example : (match unifyLiteral 3 2 exState with
    | .ok (none, s) => (unifyLiteral 2 3 s).toOption | _ => none) = some (none, exLevels) := by decide +kernel
example : watchInvL exLevels exLevels.trail.length = true := by decide +kernel
/-- the backjump to level 2 drops `2` and `1` -/
example : (cleanup 2 exLevels).model = [0, 0, 2] ∧ (cleanup 2 exLevels).trail = [3] ∧
    (cleanup 2 exLevels).reasons = [none, none, none] := by decide +kernel
example : watchInvL (cleanup 2 exLevels) (cleanup 2 exLevels).trail.length = true := by decide +kernel
/-- hypotheses of `backjump_then_propagate` / `bindSt_invL`: `¬1` is unbound after the backjump -/
example : litUnboundB (cleanup 2 exLevels).model (-1) = true := by decide +kernel
example : (match propagate 1 2 (bindSt (cleanup 2 exLevels) (-1) 2 1) with
    | .ok (none, s) => watchInvL s s.trail.length | _ => false) = true := by decide +kernel

/-- **The level conditions are needed**: a state that satisfies `watchInv` (the watcher of clause 0
    in the list of `2`, bound at level 1, is excused by `1`, bound at level 2) but not `watchInvL`;
    `cleanupBindings(1)` unbinds `1` and leaves the watcher of the processed literal `2` without any
    true literal: `watchInv` is lost.  (Not reachable: `propagate` at level 1 would have moved the
    watch to `3`.) -/
def exNoLevels : State :=
  { clauses := [[1, -2, 3]], wbin := [[], [], [], [], [], []],
    wlong := [[], [⟨0, -2⟩], [⟨0, 1⟩], [], [], []],
    model := [2, 1, 0], trail := [2, 1], reasons := [none, none, none] }

example : watchInv exNoLevels 2 = true ∧ watchInvL exNoLevels 2 = false ∧
    (cleanup 1 exNoLevels).trail = [2] ∧ watchInv (cleanup 1 exNoLevels) 1 = false := by decide +kernel

#print axioms watchInvL_iff
#print axioms cleanup_shape
#print axioms cleanup_preserves
#print axioms bindSt_invL
#print axioms backjump_then_propagate

end GS.Watch
