import GS.Props.C01_Watch
/-!
# C01 (support) — the two-watched-literal invariant is preserved by `propagate` (dynamic part)

The elementary state changes of `simplifyPropClauses` / `propagate` each preserve `WatchInv`: binding a
literal and pushing it (`bind_inv`), `c.swap(0, 1)` (`swap01_inv`), `wl[j] = w2` (`replaceW_inv`), and
`c.swap(1, k)` with `wlist[neg] = append(…)` (`moveW_inv`).
-/
namespace GS.Watch

/-- What `bind st l lvl cid` returns when it returns a state (`bind_unbound`): `propagateUnit`, and the
    binary branch of `propagate`. -/
def bindSt (st : State) (l : Int) (lvl : Int) (cid : Nat) : State :=
  { st with
    reasons := st.reasons.set (l.natAbs - 1) (some cid)
    model := st.model.set (l.natAbs - 1) (signedLvl l lvl)
    trail := st.trail ++ [l] }

theorem signedLvl_ne_zero {l lvl : Int} (h : lvl ≠ 0) : signedLvl l lvl ≠ 0 := by
  unfold signedLvl; split <;> omega

theorem signedLvl_pos_iff {l lvl : Int} (h : 0 < lvl) : (signedLvl l lvl > 0 ↔ l > 0) := by
  unfold signedLvl; split <;> omega

theorem getElem?_set_unbound {m : List Int} {l x a : Int} (v : Int) (hu : litUnboundB m l = true)
    (hx : m[x.natAbs - 1]? = some a) (ha : a ≠ 0) :
    (m.set (l.natAbs - 1) v)[x.natAbs - 1]? = m[x.natAbs - 1]? := by
  apply List.getElem?_set_ne
  intro heq
  rw [← heq, (litUnboundB_iff.mp hu).2] at hx
  exact ha (Option.some.inj hx).symm

theorem litTrueB_set_mono {m : List Int} {l x : Int} {v : Int}
    (hu : litUnboundB m l = true) (h : litTrueB m x = true) :
    litTrueB (m.set (l.natAbs - 1) v) x = true := by
  obtain ⟨_, a, ha, ha0, _⟩ := litTrueB_iff.mp h
  rw [litTrueB_congr (getElem?_set_unbound v hu ha ha0)]; exact h

theorem litFalseB_set_mono {m : List Int} {l x : Int} {v : Int}
    (hu : litUnboundB m l = true) (h : litFalseB m x = true) :
    litFalseB (m.set (l.natAbs - 1) v) x = true := by
  obtain ⟨_, a, ha, ha0, _⟩ := litFalseB_iff.mp h
  rw [litFalseB_congr (getElem?_set_unbound v hu ha ha0)]; exact h

theorem litTrueB_set_self {m : List Int} {l lvl : Int} (hu : litUnboundB m l = true) (hlvl : 0 < lvl) :
    litTrueB (m.set (l.natAbs - 1) (signedLvl l lvl)) l = true := by
  obtain ⟨hl0, hm0⟩ := litUnboundB_iff.mp hu
  have hlt : l.natAbs - 1 < m.length := (List.getElem?_eq_some_iff.mp hm0).1
  apply litTrueB_iff.mpr
  refine ⟨hl0, signedLvl l lvl, ?_, signedLvl_ne_zero (by omega), signedLvl_pos_iff hlvl⟩
  rw [List.getElem?_set_self hlt]

theorem bind_unbound {st : State} {l : Int} (hs : st.reasons.length = st.model.length)
    (hu : litUnboundB st.model l = true) (lvl : Int) (cid : Nat) :
    bind st l lvl cid = some (bindSt st l lvl cid) := by
  obtain ⟨hl, hm0⟩ := litUnboundB_iff.mp hu
  have hlt := (List.getElem?_eq_some_iff.mp hm0).1
  unfold bind bindSt
  simp [hl, hlt, hs]

theorem zeros_set {v : Int} (hv : v ≠ 0) : ∀ {m : List Int} {i : Nat}, m[i]? = some 0 →
    zeros (m.set i v) + 1 = zeros m := by
  intro m
  induction m with
  | nil => intro _ h; simp at h
  | cons a m ih' =>
    intro i h
    cases i with
    | zero =>
      simp only [List.getElem?_cons_zero, Option.some.injEq] at h
      subst h
      simp [zeros, hv]
    | succ i =>
      simp only [List.getElem?_cons_succ] at h
      have ih := ih' h
      simp only [zeros, List.set_cons_succ, List.countP_cons] at ih ⊢
      omega

/-- What bounds the iterations of `propagate` (the last conjunct of `Grows` in `C01_WatchPropagate`,
    read by `loop_spec`). -/
theorem bindSt_meas {st : State} {l lvl : Int} (hu : litUnboundB st.model l = true) (hlvl : lvl ≠ 0)
    (cid : Nat) : (bindSt st l lvl cid).trail.length + zeros (bindSt st l lvl cid).model =
      st.trail.length + zeros st.model := by
  have := zeros_set (signedLvl_ne_zero (l := l) hlvl) (litUnboundB_iff.mp hu).2
  show (st.trail ++ [l]).length + zeros (st.model.set _ _) = _
  rw [List.length_append, List.length_singleton]; omega

theorem bindSt_trail_get {st : State} {l lvl : Int} {cid p : Nat} {x : Int}
    (h : st.trail[p]? = some x) : (bindSt st l lvl cid).trail[p]? = some x := by
  show (st.trail ++ [l])[p]? = some x
  rw [List.getElem?_append_left (List.getElem?_eq_some_iff.mp h).1]; exact h

theorem natAbs_notMem_trail {st : State} {ptr : Nat} (h : WatchInv st ptr) {l : Int}
    (hu : litUnboundB st.model l = true) : l.natAbs ∉ st.trail.map Int.natAbs := by
  intro hmem
  obtain ⟨t, ht, htv⟩ := List.mem_map.mp hmem
  obtain ⟨_, a, ha, ha0, _⟩ := litTrueB_iff.mp (h.trail_true t ht)
  obtain ⟨_, hm0⟩ := litUnboundB_iff.mp hu
  rw [htv, hm0] at ha
  cases ha
  exact ha0 rfl

/-- An unbound literal is bound and pushed (the binary branch of `propagate`, `propagateUnit`,
    `unifyLiteral`); the invariant reads the antecedents `rs` by their number only. -/
theorem bind_inv {st : State} {ptr : Nat} {l lvl : Int} {rs : List (Option Nat)}
    (hrs : rs.length = st.reasons.length) (h : WatchInv st ptr)
    (hu : litUnboundB st.model l = true) (hlvl : 0 < lvl) :
    WatchInv { st with reasons := rs, model := st.model.set (l.natAbs - 1) (signedLvl l lvl),
                       trail := st.trail ++ [l] } ptr := by
  obtain ⟨hl0, hm0⟩ := litUnboundB_iff.mp hu
  have hlt : l.natAbs - 1 < st.model.length := (List.getElem?_eq_some_iff.mp hm0).1
  have hpos : 0 < l.natAbs := Int.natAbs_pos.mpr hl0
  have htake : (st.trail ++ [l]).take ptr = st.trail.take ptr :=
    List.take_append_of_le_length h.ptr_le
  have hmono : ∀ x, litTrueB st.model x = true →
      litTrueB (st.model.set (l.natAbs - 1) (signedLvl l lvl)) x = true :=
    fun x hx => litTrueB_set_mono hu hx
  refine ⟨?_, ?_, Nat.le_trans h.ptr_le (by simp), ?_, ?_, ?_, h.wbin, h.wlong, h.count,
    fun i ws hws hin w hw => hmono _ (h.semBin i ws hws (htake ▸ hin) w hw),
    fun i ws hws hin w hw => SemW_mono hmono (h.semLong i ws hws (htake ▸ hin) w hw)⟩
  · simpa [hrs] using h.shape
  · simpa using h.clauses
  · intro x hx
    rcases List.mem_append.mp hx with hx | hx
    · exact hmono x (h.trail_true x hx)
    · rw [List.mem_singleton.mp hx]
      exact litTrueB_set_self hu hlvl
  · show ((st.trail ++ [l]).map Int.natAbs).Nodup
    rw [List.map_append, List.nodup_append]
    refine ⟨h.trail_nodup, by simp, fun a ha b hb heq => ?_⟩
    rw [heq, List.mem_singleton.mp hb] at ha
    exact natAbs_notMem_trail h hu ha
  · intro v hv
    simp only [List.length_set] at hv
    simp only [List.map_append, List.mem_append]
    by_cases hvl : v = l.natAbs - 1
    · right; right
      subst hvl
      have : l.natAbs - 1 + 1 = l.natAbs := by omega
      simp [this]
    · rw [List.getElem?_set_ne (Ne.symm hvl)]
      rcases h.bound_on_trail v hv with h1 | h1
      · exact Or.inl h1
      · exact Or.inr (Or.inl h1)

theorem bindSt_inv {st : State} {ptr : Nat} {l lvl : Int} (cid : Nat) (h : WatchInv st ptr)
    (hu : litUnboundB st.model l = true) (hlvl : 0 < lvl) :
    WatchInv (bindSt st l lvl cid) ptr :=
  bind_inv (List.length_set ..) h hu hlvl

theorem clauses_set_perm {st : State} {ptr cid : Nat} {c c' : List Int} (h : WatchInv st ptr)
    (hc : st.clauses[cid]? = some c) (hp : c'.Perm c) :
    ∀ c1 ∈ st.clauses.set cid c', ClauseOk st.model.length c1 := by
  intro c1 hcm
  rcases List.mem_or_eq_of_mem_set hcm with hcm | hcm
  · exact h.clauses c1 hcm
  · subst hcm
    obtain ⟨hlen, hlits, hnd⟩ := h.clauses _ (List.mem_of_getElem? hc)
    exact ⟨by rw [hp.length_eq]; exact hlen, fun l hl => hlits l (hp.mem_iff.mp hl),
      ((hp.map Int.natAbs).nodup_iff).mpr hnd⟩

theorem wbin_set_long {st : State} {ptr cid : Nat} {c : List Int} (c' : List Int) (h : WatchInv st ptr)
    (hc : st.clauses[cid]? = some c) (h3 : 3 ≤ c.length) :
    ∀ i ws, st.wbin[i]? = some ws → ∀ w ∈ ws, PBin (st.clauses.set cid c') i w := by
  intro i ws hws w hw
  obtain ⟨c1, hcw, hshape⟩ := h.wbin i ws hws w hw
  refine ⟨c1, ?_, hshape⟩
  rw [set_get _ _ hc]
  by_cases hwc : w.cid = cid
  · rw [hwc, hc] at hcw
    cases hcw
    rcases hshape with hs | hs <;> rw [hs] at h3 <;> simp at h3
  · simp [hwc, hcw]

theorem swap01_inv {st : State} {ptr cid : Nat} {a b : Int} {r : List Int} (h : WatchInv st ptr)
    (hc : st.clauses[cid]? = some (a :: b :: r)) (hr : r ≠ []) :
    WatchInv { st with clauses := st.clauses.set cid (b :: a :: r) } ptr := by
  refine ⟨h.shape, ?_, h.ptr_le, h.trail_true, h.trail_nodup, h.bound_on_trail, ?_, ?_, ?_,
    h.semBin, ?_⟩
  · exact clauses_set_perm h hc (List.Perm.swap a b r)
  · refine wbin_set_long _ h hc ?_
    cases r with
    | nil => exact absurd rfl hr
    | cons y r' => simp
  · intro i ws hws w hw
    exact PLong.reorder hc (List.Perm.swap a b r) (fun _ h01 => h01.symm) (h.wlong i ws hws w hw)
  · refine forall_set _ hc (fun cid' c' _ hc' => h.count cid' c' hc') ?_
    obtain ⟨a', b', h0, h1, la, lb, hla, hca, hlb, hcb⟩ := h.count cid _ hc
    cases h0
    cases h1
    exact ⟨b, a, rfl, rfl, lb, la, hlb, hcb, hla, hca⟩
  · intro i ws hws hin w hw
    exact SemW_swap hc (h.semLong i ws hws hin w hw)

theorem wget_set {ws : List (List Watcher)} {i : Nat} {L : List Watcher} (L' : List Watcher)
    (hi : ws[i]? = some L) (l : Int) :
    wget (ws.set i L') l = if l ≠ 0 ∧ litIdx l = i then some L' else wget ws l := by
  unfold wget
  by_cases hl : l = 0
  · simp [hl]
  · simp only [hl, if_false, ne_eq, not_false_eq_true, true_and]
    rw [set_get _ _ hi]

theorem wpush_eq {ws : List (List Watcher)} {l : Int} {L : List Watcher} (hl : l ≠ 0)
    (hL : ws[litIdx l]? = some L) (w : Watcher) :
    wpush ws l w = some (ws.set (litIdx l) (L ++ [w])) := by
  unfold wpush wget
  rw [if_neg hl, hL]

theorem CountOk.set {F : List (List Watcher)} {i cid : Nat} {L : List Watcher} (L' : List Watcher)
    (hi : F[i]? = some L) (hc : countW L' cid = countW L cid) {a b : Int} (h : CountOk F cid a b) :
    CountOk (F.set i L') cid a b := by
  have key : ∀ (l : Int) (lx : List Watcher), wget F l = some lx → countW lx cid = 1 →
      ∃ lx', wget (F.set i L') l = some lx' ∧ countW lx' cid = 1 := by
    intro l lx hlx hcx
    rw [wget_set _ hi]
    by_cases hl : l ≠ 0 ∧ litIdx l = i
    · rw [if_pos hl]
      refine ⟨_, rfl, ?_⟩
      unfold wget at hlx
      simp only [hl.1, if_false] at hlx
      rw [hl.2, hi] at hlx
      cases hlx
      rw [hc]; exact hcx
    · rw [if_neg hl]
      exact ⟨lx, hlx, hcx⟩
  obtain ⟨la, lb, hla, hca, hlb, hcb⟩ := h
  obtain ⟨la', hla', hca'⟩ := key _ la hla hca
  obtain ⟨lb', hlb', hcb'⟩ := key _ lb hlb hcb
  exact ⟨la', lb', hla', hca', hlb', hcb'⟩

theorem CountOk.set_long {wb F : List (List Watcher)} {i cid : Nat} {L : List Watcher}
    (L' : List Watcher) (hi : F[i]? = some L) (hc : countW L' cid = countW L cid) {c : List Int}
    {a b : Int} (h : CountOk (if c.length = 2 then wb else F) cid a b) :
    CountOk (if c.length = 2 then wb else F.set i L') cid a b := by
  by_cases h2 : c.length = 2
  · rw [if_pos h2] at h ⊢
    exact h
  · rw [if_neg h2] at h ⊢
    exact h.set L' hi hc

/-- `wl[j] = w2`.  The list of index `i` is not processed yet (`hnot`), so `semLong` asks nothing of
    `w2`. -/
theorem replaceW_inv {st : State} {ptr i : Nat} {pre post : List Watcher} {w w2 : Watcher}
    (h : WatchInv st ptr) (hi : st.wlong[i]? = some (pre ++ w :: post)) (hcid : w2.cid = w.cid)
    (hother : ∀ c, st.clauses[w.cid]? = some c → w2.other ∈ c)
    (hnot : idxLit i ∉ st.trail.take ptr) :
    WatchInv { st with wlong := st.wlong.set i (pre ++ w2 :: post) } ptr := by
  refine ⟨?_, h.clauses, h.ptr_le, h.trail_true, h.trail_nodup, h.bound_on_trail, h.wbin, ?_, ?_,
    h.semBin, ?_⟩
  · simpa using h.shape
  · refine forall_set _ hi (fun j ws _ hws => h.wlong j ws hws) fun w' hw' => ?_
    rcases List.mem_append.mp hw' with h1 | h1
    · exact h.wlong i _ hi w' (List.mem_append_left _ h1)
    · rcases List.mem_cons.mp h1 with h1 | h1
      · obtain ⟨c, hcw, hlen, h01, _⟩ := h.wlong i _ hi w (by simp)
        rw [h1]
        exact ⟨c, hcid ▸ hcw, hlen, h01, hother c hcw⟩
      · exact h.wlong i _ hi w' (List.mem_append_right _ (List.mem_cons_of_mem _ h1))
  · intro cid c hc
    obtain ⟨a, b, h0, h1, hcnt⟩ := h.count cid c hc
    exact ⟨a, b, h0, h1, CountOk.set_long _ hi (by simp [countW_append, countW_cons, hcid]) hcnt⟩
  · exact forall_set _ hi (fun j ws _ hws => h.semLong j ws hws) fun hin => absurd hin hnot

theorem set_perm {b x : Int} : ∀ {r : List Int} {j : Nat}, r[j]? = some x →
    (x :: r.set j b).Perm (b :: r) := by
  intro r
  induction r with
  | nil => intro _ h; simp at h
  | cons y r' ih' =>
    intro j h
    cases j with
    | zero =>
      simp only [List.getElem?_cons_zero, Option.some.injEq] at h
      subst h
      simpa using List.Perm.swap b y r'
    | succ j =>
      simp only [List.getElem?_cons_succ] at h
      have ih := ih' h
      simp only [List.set_cons_succ]
      exact (List.Perm.swap y x _).trans ((ih.cons y).trans (List.Perm.swap b y r'))

theorem natAbs_ne_of_nodup_cons {a : Int} {l : List Int} {x : Int}
    (h : ((a :: l).map Int.natAbs).Nodup) (hx : x ∈ l) : x.natAbs ≠ a.natAbs := by
  simp only [List.map_cons, List.nodup_cons, List.mem_map] at h
  intro heq
  exact h.1 ⟨x, hx, heq⟩

/-- The watcher `w` of the clause `first :: ¬lit :: r` leaves the list of `lit` for the list of `¬litK`, and
    the clause becomes `first :: litK :: …`.  Three lists matter (those of `lit`, `¬litK`, `¬first`), pairwise
    distinct because the variables of a clause are.  `count`: `w` is the only watcher of its clause under
    `lit` (`F1`) and there is none under `¬litK` (`F2`).  `semLong` asks nothing new: the list of `lit` is not
    processed yet (`hnot`), nor is that of `¬litK`, which is not true (`hnk`), so the appended watcher owes no
    excuse; everywhere else `SemW_move` applies, `¬lit` being false (`hnl`). -/
theorem moveW_inv {st : State} {ptr : Nat} {lit first litK : Int} {r : List Int} {j : Nat}
    {pre post Lk : List Watcher} {w : Watcher}
    (h : WatchInv st ptr) (hlit : lit ≠ 0)
    (hi : st.wlong[litIdx lit]? = some (pre ++ w :: post))
    (hc : st.clauses[w.cid]? = some (first :: (-lit) :: r))
    (hk : r[j]? = some litK)
    (hLk : st.wlong[litIdx (-litK)]? = some Lk)
    (hnot : lit ∉ st.trail.take ptr)
    (hnk : litTrueB st.model (-litK) = false)
    (hnl : litTrueB st.model (-lit) = false) :
    WatchInv { st with
      clauses := st.clauses.set w.cid (first :: litK :: r.set j (-lit))
      wlong := (st.wlong.set (litIdx (-litK)) (Lk ++ [⟨w.cid, first⟩])).set (litIdx lit) (pre ++ post) }
      ptr := by
  obtain ⟨_, hlits, hnd⟩ := h.clauses _ (List.mem_of_getElem? hc)
  have hKr : litK ∈ r := List.mem_of_getElem? hk
  have hK0 : litK ≠ 0 := (hlits litK (by simp [hKr])).1
  have hf0 : first ≠ 0 := (hlits first (by simp)).1
  have hnK0 : -litK ≠ 0 := by omega
  have hnf0 : -first ≠ 0 := by omega
  have hKf : litK.natAbs ≠ first.natAbs := natAbs_ne_of_nodup_cons hnd (by simp [hKr])
  have hnd' : (((-lit) :: r).map Int.natAbs).Nodup := by
    simp only [List.map_cons, List.nodup_cons] at hnd ⊢; exact hnd.2
  have hKl : litK.natAbs ≠ lit.natAbs := by
    have := natAbs_ne_of_nodup_cons hnd' hKr
    simpa using this
  have hfl : first.natAbs ≠ lit.natAbs := by
    simp only [List.map_cons, List.nodup_cons, List.mem_cons, Int.natAbs_neg] at hnd
    intro heq; exact hnd.1 (Or.inl heq)
  have hik : litIdx (-litK) ≠ litIdx lit := litIdx_ne_of_natAbs_ne hnK0 hlit (by simpa using hKl)
  have hif : litIdx (-first) ≠ litIdx lit := litIdx_ne_of_natAbs_ne hnf0 hlit (by simpa using hfl)
  have hkf : litIdx (-first) ≠ litIdx (-litK) := litIdx_ne_of_natAbs_ne hnf0 hnK0 (by simpa using hKf.symm)
  have hr3 : 3 ≤ (first :: (-lit) :: r).length := by
    cases r with
    | nil => simp at hk
    | cons y r' => simp
  have hperm : (first :: litK :: r.set j (-lit)).Perm (first :: (-lit) :: r) :=
    (set_perm hk).cons first
  have hi' : (st.wlong.set (litIdx (-litK)) (Lk ++ [⟨w.cid, first⟩]))[litIdx lit]? =
      some (pre ++ w :: post) := by
    rw [List.getElem?_set_ne hik]; exact hi
  have hsub : ∀ w' ∈ pre ++ post, w' ∈ pre ++ w :: post := fun w' hw' =>
    (List.mem_append.mp hw').elim (List.mem_append_left _)
      fun h1 => List.mem_append_right _ (List.mem_cons_of_mem _ h1)
  -- the clause has one watcher in the list of `¬first` and one in the list of `lit`, which is `w`
  obtain ⟨a', b', h0', h1', la, lb, hla, hca, hlb, hcb⟩ := h.count w.cid _ hc
  cases h0'
  cases h1'
  have hne2 : ¬ (first :: (-lit) :: r).length = 2 := by omega
  simp only [hne2, if_false, Int.neg_neg, wget, hlit, hnf0] at hla hlb
  rw [hi] at hlb
  cases hlb
  have F1 : ∀ w' ∈ pre ++ post, w'.cid ≠ w.cid := by
    apply countW_eq_zero.mp
    simp only [countW_append, countW_cons, if_true] at hcb ⊢
    omega
  have F2 : ∀ w' ∈ Lk, w'.cid ≠ w.cid := by
    intro w' hw' hcid
    obtain ⟨c, hcw, _, h01, _⟩ := h.wlong _ Lk hLk w' hw'
    rw [hcid, hc] at hcw
    cases hcw
    rw [idxLit_litIdx hnK0] at h01
    simp only [List.getElem?_cons_zero, List.getElem?_cons_succ, Option.some.injEq, Int.neg_neg] at h01
    rcases h01 with h01 | h01
    · exact hKf (by rw [h01])
    · exact hKl (by rw [← h01]; simp)
  -- a watcher outside the list of `lit` does not sit under literal 1 of the clause
  have old : ∀ i ws, i ≠ litIdx lit → st.wlong[i]? = some ws → ∀ w' ∈ ws,
      PLong (st.clauses.set w.cid (first :: litK :: r.set j (-lit))) i w' := by
    intro i ws hii hws w' hw'
    refine PLong.reorder hc hperm (fun _ h01 => ?_) (h.wlong i ws hws w' hw')
    simp only [List.getElem?_cons_zero, List.getElem?_cons_succ, Option.some.injEq] at h01 ⊢
    rcases h01 with h01 | h01
    · exact Or.inl h01
    · have : idxLit i = lit := by omega
      exact absurd (by rw [← this, litIdx_idxLit]) hii
  refine ⟨?_, ?_, h.ptr_le, h.trail_true, h.trail_nodup, h.bound_on_trail, ?_, ?_, ?_,
    h.semBin, ?_⟩
  · simpa using h.shape
  · exact clauses_set_perm h hc hperm
  · exact wbin_set_long _ h hc hr3
  · refine forall_set _ hi' (fun i ws hii hws => forall_set (P := fun i ws => i ≠ litIdx lit →
      ∀ w' ∈ ws, PLong _ i w') _ hLk (fun i ws _ hws hii => old i ws hii hws) ?_ i ws hws hii) ?_
    · intro _ w' hw'
      rcases List.mem_append.mp hw' with hw' | hw'
      · exact old _ Lk hik hLk w' hw'
      · rw [List.mem_singleton.mp hw']
        refine ⟨_, by rw [set_get _ _ hc]; exact if_pos rfl, hperm.length_eq ▸ hr3, Or.inr ?_,
          by simp⟩
        rw [idxLit_litIdx hnK0]
        simp
    · intro w' hw'
      exact PLong.reorder hc hperm (fun hwc => absurd hwc (F1 w' hw')) (h.wlong _ _ hi w' (hsub w' hw'))
  · refine forall_set _ hc (fun cid c hcc hc' => ?_) ?_
    · obtain ⟨a, b, h0, h1, hcnt⟩ := h.count cid c hc'
      have hwc : ¬ w.cid = cid := fun e => hcc e.symm
      exact ⟨a, b, h0, h1, CountOk.set_long _ hi' (by simp [countW_append, countW_cons, hwc])
        (CountOk.set_long _ hLk (by simp [countW_push, hwc]) hcnt)⟩
    · have hne2' : ¬ (first :: litK :: r.set j (-lit)).length = 2 := hperm.length_eq ▸ hne2
      refine ⟨first, litK, rfl, rfl, la, Lk ++ [⟨w.cid, first⟩], ?_, hca, ?_, ?_⟩
      · simp only [hne2', if_false, wget, hnf0]
        rw [List.getElem?_set_ne (Ne.symm hif), List.getElem?_set_ne hkf.symm]
        exact hla
      · simp only [hne2', if_false, wget, hnK0]
        rw [List.getElem?_set_ne (Ne.symm hik), List.getElem?_set_self (List.getElem?_eq_some_iff.mp hLk).1]
      · rw [countW_push, countW_eq_zero.mpr F2, if_pos rfl]
  · refine forall_set _ hi' (fun i ws _ => forall_set (P := fun i ws => idxLit i ∈ st.trail.take ptr →
      ∀ w' ∈ ws, SemW _ st.model w') _ hLk (fun i ws _ hws hin w' hw' =>
      SemW_move hc hnl (h.semLong i ws hws hin w' hw')) (fun hin => ?_) i ws) (fun hin => ?_)
    · rw [idxLit_litIdx hnK0] at hin
      rw [h.trail_true _ (List.mem_of_mem_take hin)] at hnk
      cases hnk
    · rw [idxLit_litIdx hlit] at hin
      exact absurd hin hnot

end GS.Watch
