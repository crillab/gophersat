import GS.Spec.Basic
/-!
# GS.Check.Rup — array-based unit propagation and a RUP checker, with soundness proofs

This is the checker that "shares no code with the solver" (C06): bindings are an
`Array Int` indexed by variable (0 unbound, 1 true, -1 false), clauses are scanned for
conflict / unit until a fix-point (fuel-bounded), a line is RUP when propagating the
negation of its literals reaches a conflict.  The bindings and the literal test `binding*lit == v`
are those of `explain.(*Problem).unsat` in /repo: the checker is independent of the Go text, not of that
design.  The line-by-line mirror of the Go scan is `GS.Explain.scanGo`, which is `scan` from the states
the Go loop reaches (`scanGo_eq_scan`, C08), so what is proved here of one clause visit applies to it.

What a clause visit can do is read off the scan once (`ScanOk`, `scan_start`); a property of the bindings
that every reported unit keeps and that excludes a reported conflict therefore excludes a conflict
of the whole propagation (`pass_inv`, `fix_inv`).  Soundness is the instance "agrees with a model"
(`scan_sound`, `fix_sound`); C08's completeness proof uses another one.
-/
namespace GS

/-- value of a binding array at variable v (1-based); out of range = unbound -/
def bind (u : Array Int) (v : Nat) : Int := (u[v - 1]?).getD 0

def Agrees (u : Array Int) (a : Asg) : Prop :=
  ∀ v, 0 < v → (bind u v = 1 → a v = true) ∧ (bind u v = -1 → a v = false)

inductive Scan | sat | conflict | unit (l : Int) | many
deriving Repr, DecidableEq

/-- scan one clause: `unb` = number of unbound literals met so far (0 or 1), `ul` the first one -/
def scan (u : Array Int) : List Int → Nat → Int → Scan
  | [], 0, _ => .conflict
  | [], _+1, ul => .unit ul
  | l :: rest, unb, ul =>
    let b := bind u l.natAbs
    if b = 0 then
      if unb = 0 then scan u rest 1 l else if l = ul then scan u rest unb ul else .many
    else if b * l = (l.natAbs : Int) then .sat
    else scan u rest unb ul

def setLit (u : Array Int) (l : Int) : Array Int :=
  u.setIfInBounds (l.natAbs - 1) (if l > 0 then 1 else -1)

/-- one pass over all clauses; returns (bindings, conflict?, modified?) -/
def pass (u : Array Int) : List (List Int) → Bool → Array Int × Bool × Bool
  | [], m => (u, false, m)
  | c :: cs, m =>
    match scan u c 0 0 with
    | .conflict => (u, true, m)
    | .unit l => pass (setLit u l) cs true
    | _ => pass u cs m

/-- Passes until one meets a conflict (`true`) or changes nothing.  Out of fuel the answer is `false`, no
    conflict found: the side on which `upRefute` and `rupLine` reject.  They give `n + 2`: a pass that
    modifies binds a new variable, so with literals in `1..n` there are at most `n + 1` passes (not proved,
    and nothing rests on it: every theorem about `fix` holds for any fuel). -/
def fix (f : List (List Int)) : Nat → Array Int → Bool
  | 0, _ => false
  | fuel+1, u =>
    match pass u f false with
    | (_, true, _) => true
    | (u', false, true) => fix f fuel u'
    | (_, false, false) => false

theorem size_setLit (u : Array Int) (l : Int) : (setLit u l).size = u.size := by
  simp [setLit]

theorem bind_setLit_same (u : Array Int) (l : Int) (hb : l.natAbs - 1 < u.size) :
    bind (setLit u l) l.natAbs = (if l > 0 then 1 else -1) := by
  unfold bind setLit
  simp [hb]

theorem bind_setLit_other (u : Array Int) (l : Int) (v : Nat) (hv : 0 < v) (hl : l ≠ 0) (hne : v ≠ l.natAbs) :
    bind (setLit u l) v = bind u v := by
  unfold bind setLit
  have hpos : 0 < l.natAbs := Int.natAbs_pos.mpr hl
  have : l.natAbs - 1 ≠ v - 1 := by omega
  simp [this]

theorem bind_setLit (u : Array Int) (l : Int) (hl : l ≠ 0) (v : Nat) (hv : 0 < v) :
    bind (setLit u l) v = bind u v ∨ (v = l.natAbs ∧ bind (setLit u l) v = (if l > 0 then 1 else -1)) := by
  by_cases hne : v = l.natAbs
  · subst hne
    by_cases hb : l.natAbs - 1 < u.size
    · exact Or.inr ⟨rfl, bind_setLit_same u l hb⟩
    · left
      unfold bind setLit
      simp [hb]
  · exact Or.inl (bind_setLit_other u l v hv hl hne)

theorem bind_ne_zero_lt (u : Array Int) (v : Nat) (h : bind u v ≠ 0) : v - 1 < u.size := by
  apply Classical.byContradiction
  intro hn
  apply h
  unfold bind
  rw [Array.getElem?_eq_none (by omega)]
  rfl

/-- bindings only ever hold 0, 1 or -1 -/
def WF (u : Array Int) : Prop := ∀ v, bind u v = 0 ∨ bind u v = 1 ∨ bind u v = -1

theorem wf_setLit (u : Array Int) (l : Int) (hl : l ≠ 0) (hwf : WF u) : WF (setLit u l) := by
  have pos : ∀ v, 0 < v → bind (setLit u l) v = 0 ∨ bind (setLit u l) v = 1 ∨ bind (setLit u l) v = -1 := by
    intro v hv
    rcases bind_setLit u l hl v hv with h | ⟨_, h⟩
    · rw [h]; exact hwf v
    · rw [h]; split <;> simp
  intro v
  cases v with
  | zero => exact pos 1 Nat.one_pos   -- `bind u 0` reads index `0 - 1 = 0`, as `bind u 1` does
  | succ k => exact pos (k+1) (Nat.succ_pos k)

/-- literal `l` is true under the bindings `u` (the test `binding*lit == v` of `explain.(*Problem).unsat`) -/
def Tr (u : Array Int) (l : Int) : Prop := l ≠ 0 ∧ bind u l.natAbs * l = (l.natAbs : Int)

/-- literal `l` is bound and the test `binding*lit == v` fails -/
def Fl (u : Array Int) (l : Int) : Prop := bind u l.natAbs ≠ 0 ∧ bind u l.natAbs * l ≠ (l.natAbs : Int)

theorem Tr.bound {u : Array Int} {l : Int} (h : Tr u l) : bind u l.natAbs ≠ 0 := by
  intro h0
  have h2 := h.2
  rw [h0] at h2
  have := h.1
  omega

theorem Tr.not_neg {u : Array Int} {l : Int} (h : Tr u l) (h' : Tr u (-l)) : False := by
  have h1 := h.2
  have h2 := h'.2
  rw [Int.natAbs_neg, Int.mul_neg] at h2
  have := h.1
  omega

theorem Tr.unbound_neg {u : Array Int} {x : Int} (h : Tr u (-x)) (hb : bind u x.natAbs = 0) : False := by
  have := h.bound
  rw [Int.natAbs_neg] at this
  exact this hb

theorem Fl.neg {u : Array Int} {x : Int} (h : Fl u x) (hwf : WF u) (hx : x ≠ 0) : Tr u (-x) := by
  refine ⟨by omega, ?_⟩
  rw [Int.natAbs_neg, Int.mul_neg]
  have hs := h.2
  rcases hwf x.natAbs with h0 | h1 | h2
  · exact absurd h0 h.1
  · rw [h1] at hs ⊢; omega
  · rw [h2] at hs ⊢; omega

theorem Tr.sound {u : Array Int} {a : Asg} {l : Int} (h : Tr u l) (hwf : WF u) (hag : Agrees u a) :
    litTrue a l = true := by
  obtain ⟨hl, h2⟩ := h
  have hA := hag l.natAbs (Int.natAbs_pos.mpr hl)
  unfold litTrue
  rcases hwf l.natAbs with h0 | h1 | h1
  · rw [h0] at h2; omega
  · rw [h1] at h2
    rw [if_pos (by omega)]
    exact hA.1 h1
  · rw [h1] at h2
    rw [if_neg (by omega), hA.2 h1]
    rfl

theorem Fl.sound {u : Array Int} {a : Asg} {l : Int} (h : Fl u l) (hwf : WF u) (hag : Agrees u a)
    (hl : l ≠ 0) : litTrue a l = false := by
  have := (h.neg hwf hl).sound hwf hag
  rw [litTrue_neg a l hl] at this
  simpa using this

theorem agrees_setLit (u : Array Int) (a : Asg) (l : Int) (hl : l ≠ 0) (h : Agrees u a)
    (ht : litTrue a l = true) : Agrees (setLit u l) a := by
  intro v hv
  rcases bind_setLit u l hl v hv with hb | ⟨hvl, hb⟩
  · rw [hb]; exact h v hv
  · rw [hb]
    unfold litTrue at ht
    subst hvl
    by_cases hp : l > 0
    · simp [hp] at ht ⊢; exact ht
    · simp [hp] at ht ⊢; exact ht

theorem Tr_setLit_self (u : Array Int) (l : Int) (hl : l ≠ 0) (hr : l.natAbs ≤ u.size) :
    Tr (setLit u l) l := by
  have hpos : 0 < l.natAbs := Int.natAbs_pos.mpr hl
  refine ⟨hl, ?_⟩
  rw [bind_setLit_same u l (by omega)]
  split <;> omega

theorem Tr_setLit_of_ne (u : Array Int) (l x : Int) (hl : l ≠ 0) (hne : x.natAbs ≠ l.natAbs) :
    Tr (setLit u l) x ↔ Tr u x := by
  refine and_congr_right fun hx => ?_
  rw [bind_setLit_other u l x.natAbs (Int.natAbs_pos.mpr hx) hl hne]

theorem Tr_setLit_cases (u : Array Int) (l x : Int) (hl : l ≠ 0) (h : Tr (setLit u l) x) :
    Tr u x ∨ x = l := by
  by_cases hv : x.natAbs = l.natAbs
  · have hpos : 0 < x.natAbs := Int.natAbs_pos.mpr h.1
    rcases bind_setLit u l hl x.natAbs hpos with hb | ⟨_, hb⟩
    · left
      have h2 := h.2
      rw [hb] at h2
      exact ⟨h.1, h2⟩
    · right
      have h2 := h.2
      rw [hb] at h2
      have := h.1
      split at h2 <;> omega
  · exact Or.inl ((Tr_setLit_of_ne u l x hl hv).1 h)

theorem scan_cons (u : Array Int) (x : Int) (xs : List Int) (n : Nat) (ul : Int) :
    scan u (x :: xs) n ul =
      if bind u x.natAbs = 0 then
        if n = 0 then scan u xs 1 x else if x = ul then scan u xs n ul else .many
      else if bind u x.natAbs * x = (x.natAbs : Int) then .sat
      else scan u xs n ul := rfl

/-- what the result `r` of scanning the literals `c` from the start says about them -/
structure ScanOk (u : Array Int) (c : List Int) (r : Scan) : Prop where
  conflict : r = .conflict → ∀ x ∈ c, Fl u x
  unit : ∀ l, r = .unit l → l ∈ c ∧ bind u l.natAbs = 0 ∧ ∀ x ∈ c, x = l ∨ Fl u x
  sat : r = .sat → ∃ x ∈ c, bind u x.natAbs ≠ 0 ∧ bind u x.natAbs * x = (x.natAbs : Int)
  many : r = .many → ∃ x ∈ c, ∃ y ∈ c, x ≠ y ∧ bind u x.natAbs = 0 ∧ bind u y.natAbs = 0

theorem ScanOk.skip {u : Array Int} {p c : List Int} {r : Scan} {l : Int} (h : ScanOk u (p ++ c) r)
    (hl : l ∈ p ∨ Fl u l) : ScanOk u (p ++ l :: c) r := by
  have h1 : ∀ x ∈ p ++ c, x ∈ p ++ l :: c := fun x hx =>
    List.mem_append.2 ((List.mem_append.1 hx).imp_right (List.mem_cons_of_mem l))
  have h2 : ∀ x ∈ p ++ l :: c, x ∈ p ++ c ∨ Fl u x := fun x hx => by
    rcases List.mem_append.1 hx with hp | hc
    · exact Or.inl (List.mem_append_left _ hp)
    · rcases List.mem_cons.1 hc with rfl | hc
      · exact hl.imp_left (List.mem_append_left _)
      · exact Or.inl (List.mem_append_right _ hc)
  exact
    { conflict := fun hr x hx => (h2 x hx).elim (h.conflict hr x) id
      unit := fun l hr => ⟨h1 l (h.unit l hr).1, (h.unit l hr).2.1,
        fun x hx => (h2 x hx).elim ((h.unit l hr).2.2 x) Or.inr⟩
      sat := fun hr => let ⟨x, hx, hh⟩ := h.sat hr; ⟨x, h1 x hx, hh⟩
      many := fun hr => let ⟨x, hx, y, hy, hh⟩ := h.many hr; ⟨x, h1 x hx, y, h1 y hy, hh⟩ }

/-- In a state `unb ≠ 0` the scan has met the unbound literal `ul` before: its result says of `ul :: c`
    what the result of a scan from the start says of the clause scanned. -/
theorem scan_from (u : Array Int) (c : List Int) (unb : Nat) (ul : Int)
    (h : unb ≠ 0 → bind u ul.natAbs = 0) :
    ScanOk u ((if unb = 0 then [] else [ul]) ++ c) (scan u c unb ul) := by
  fun_induction scan u c unb ul with
  | case1 => exact ⟨fun _ => nofun, nofun, nofun, nofun⟩
  | case2 n ul => exact ⟨nofun, fun l hl => by cases hl; simpa using h, nofun, nofun⟩
  | case3 l rest ul b hb ih => exact ih fun _ => hb
  | case4 rest unb ul hu b hb ih => exact (ih h).skip (Or.inl (by simp [hu]))
  | case5 l rest unb ul b hb hu hne =>
    rw [if_neg hu]
    exact ⟨nofun, nofun, nofun, fun _ => ⟨ul, List.mem_cons_self, l,
      List.mem_cons_of_mem _ List.mem_cons_self, fun e => hne e.symm, h hu, hb⟩⟩
  | case6 l rest unb ul b hb hs =>
    exact ⟨nofun, nofun, fun _ => ⟨l, List.mem_append_right _ List.mem_cons_self, hb, hs⟩, nofun⟩
  | case7 l rest unb ul b hb hs ih => exact (ih h).skip (Or.inr ⟨hb, hs⟩)

theorem scan_start (u : Array Int) (c : List Int) (ul : Int) : ScanOk u c (scan u c 0 ul) :=
  scan_from u c 0 ul fun h => absurd rfl h

theorem scan_sound (u : Array Int) (a : Asg) (hwf : WF u) (h : Agrees u a) (c : List Int) (ul : Int)
    (hnz : ∀ l ∈ c, l ≠ 0) (hc : clauseTrue a c = true) :
    scan u c 0 ul ≠ .conflict ∧
    ∀ l, scan u c 0 ul = .unit l → WF (setLit u l) ∧ Agrees (setLit u l) a := by
  obtain ⟨x, hx, hxt⟩ := (clauseTrue_iff a c).1 hc
  have hfl : ¬ Fl u x := fun hf => by rw [hf.sound hwf h (hnz x hx)] at hxt; cases hxt
  have sp := scan_start u c ul
  refine ⟨fun hs => hfl (sp.conflict hs x hx), fun l hs => ?_⟩
  obtain ⟨hl, _, hoth⟩ := sp.unit l hs
  have hxl : x = l := (hoth x hx).resolve_right hfl
  exact ⟨wf_setLit u l (hnz l hl) hwf, agrees_setLit u a l (hnz l hl) h (hxl ▸ hxt)⟩

theorem pass_inv {I : Array Int → Prop} (f : List (List Int))
    (hstep : ∀ u, I u → ∀ c ∈ f, scan u c 0 0 ≠ .conflict ∧ ∀ l, scan u c 0 0 = .unit l → I (setLit u l))
    (u : Array Int) (m : Bool) (hu : I u) : (pass u f m).2.1 = false ∧ I (pass u f m).1 := by
  fun_induction pass u f m with
  | case1 => exact ⟨rfl, hu⟩
  | case2 u c cs m hs => exact absurd hs (hstep u hu c List.mem_cons_self).1
  | case3 u c cs m l hs ih =>
    exact ih (fun u hu c' hc' => hstep u hu c' (List.mem_cons_of_mem _ hc'))
      ((hstep u hu c List.mem_cons_self).2 l hs)
  | case4 u c cs m _ _ ih =>
    exact ih (fun u hu c' hc' => hstep u hu c' (List.mem_cons_of_mem _ hc')) hu

theorem fix_inv {I : Array Int → Prop} {f : List (List Int)}
    (hstep : ∀ u, I u → ∀ c ∈ f, scan u c 0 0 ≠ .conflict ∧ ∀ l, scan u c 0 0 = .unit l → I (setLit u l))
    (fuel : Nat) (u : Array Int) (hu : I u) : fix f fuel u = false := by
  fun_induction fix f fuel u with
  | case1 => rfl
  | case2 fuel u _ _ heq =>
    have hp := pass_inv f hstep u false hu
    rw [heq] at hp
    cases hp.1
  | case3 fuel u u' heq ih =>
    have hp := pass_inv f hstep u false hu
    rw [heq] at hp
    exact ih hp.2
  | case4 => rfl

theorem fix_sound (a : Asg) (f : List (List Int)) (hnz : ∀ c ∈ f, ∀ l ∈ c, l ≠ 0) :
    ∀ (fuel : Nat) (u : Array Int), WF u → Agrees u a → cnfTrue a f = true → fix f fuel u = false :=
  fun fuel u hwf h ht => fix_inv (I := fun u => WF u ∧ Agrees u a)
    (fun u hu c hc => scan_sound u a hu.1 hu.2 c 0 (hnz c hc) ((cnfTrue_iff a f).1 ht c hc)) fuel u ⟨hwf, h⟩

theorem fix_conflict_unsat (f : List (List Int)) (hnz : ∀ c ∈ f, ∀ l ∈ c, l ≠ 0)
    (fuel : Nat) (u : Array Int) (hwf : WF u) (hc : fix f fuel u = true) :
    ¬ ∃ a, Agrees u a ∧ cnfTrue a f = true := by
  rintro ⟨a, ha, hf⟩
  have := fix_sound a f hnz fuel u hwf ha hf
  rw [this] at hc; cases hc

def cnfNz (f : List (List Int)) : Bool := f.all (fun c => c.all (· != 0))

theorem cnfNz_spec (f : List (List Int)) (h : cnfNz f = true) : ∀ c ∈ f, ∀ l ∈ c, l ≠ 0 := by
  simpa only [cnfNz, List.all_eq_true, bne_iff_ne] using h

def emptyBind (n : Nat) : Array Int := Array.replicate n 0

theorem bind_emptyBind (n v : Nat) : bind (emptyBind n) v = 0 := by
  unfold bind emptyBind
  rw [Array.getElem?_replicate]
  split <;> rfl

theorem wf_empty (n : Nat) : WF (emptyBind n) := fun v => Or.inl (bind_emptyBind n v)

theorem agrees_empty (n : Nat) (a : Asg) : Agrees (emptyBind n) a := by
  intro v _
  rw [bind_emptyBind]
  exact ⟨fun h => by omega, fun h => by omega⟩

theorem not_Tr_empty (n : Nat) (l : Int) : ¬ Tr (emptyBind n) l :=
  fun h => h.bound (bind_emptyBind n _)

/-- Unit propagation alone refutes `f` (over bindings for variables `1..n`). -/
def upRefute (n : Nat) (f : List (List Int)) : Bool := cnfNz f && fix f (n + 2) (emptyBind n)

theorem upRefute_sound (n : Nat) (f : List (List Int)) (h : upRefute n f = true) : ¬ CnfSat f := by
  unfold upRefute at h
  simp only [Bool.and_eq_true] at h
  rintro ⟨a, ha⟩
  exact fix_conflict_unsat f (cnfNz_spec f h.1) (n+2) (emptyBind n) (wf_empty n) h.2
    ⟨a, agrees_empty n a, ha⟩

/-- Install the negation of every literal of `c`; `none` when some literal of `c` is already
    true under the bindings (then `c` is trivially implied, e.g. a tautological line). -/
def assumeNeg (u : Array Int) : List Int → Option (Array Int)
  | [] => some u
  | l :: rest =>
    if l = 0 then none
    else if bind u l.natAbs * l = (l.natAbs : Int) then none
    else assumeNeg (setLit u (-l)) rest

theorem setLit_neg_sound (u : Array Int) (a : Asg) (l : Int) (hl : l ≠ 0) (hwf : WF u)
    (hag : Agrees u a) (hf : litTrue a l = false) : WF (setLit u (-l)) ∧ Agrees (setLit u (-l)) a := by
  have hnl : -l ≠ 0 := by omega
  have ht : litTrue a (-l) = true := by rw [litTrue_neg a l hl, hf]; rfl
  exact ⟨wf_setLit u (-l) hnl hwf, agrees_setLit u a (-l) hnl hag ht⟩

theorem assumeNeg_agrees (a : Asg) (c : List Int) (u u' : Array Int) (hwf : WF u) (hag : Agrees u a)
    (hf : clauseTrue a c = false) (hnz : ∀ l ∈ c, l ≠ 0) (h : assumeNeg u c = some u') :
    WF u' ∧ Agrees u' a := by
  fun_induction assumeNeg u c with
  | case1 => cases h; exact ⟨hwf, hag⟩
  | case2 => cases h
  | case3 => cases h
  | case4 u l rest hl _ ih =>
    simp only [clauseTrue, List.any_cons, Bool.or_eq_false_iff] at hf
    have hs := setLit_neg_sound u a l hl hwf hag hf.1
    exact ih hs.1 hs.2 hf.2 (fun x hx => hnz x (List.mem_cons_of_mem _ hx)) h

theorem assumeNeg_none_cases (c : List Int) (u : Array Int) (hnz : ∀ l ∈ c, l ≠ 0)
    (h : assumeNeg u c = none) : (∃ l ∈ c, Tr u l) ∨ (∃ l ∈ c, -l ∈ c) := by
  fun_induction assumeNeg u c with
  | case1 => cases h
  | case2 => exact absurd rfl (hnz 0 List.mem_cons_self)
  | case3 u a rest ha hb => exact Or.inl ⟨a, List.mem_cons_self, ha, hb⟩
  | case4 u a rest ha _ ih =>
    rcases ih (fun y hy => hnz y (List.mem_cons_of_mem _ hy)) h with ⟨l, hl, ht⟩ | ⟨l, hl, hm⟩
    · rcases Tr_setLit_cases u (-a) l (by omega) ht with h2 | h2
      · exact Or.inl ⟨l, List.mem_cons_of_mem _ hl, h2⟩
      · right
        refine ⟨a, List.mem_cons_self, ?_⟩
        rw [← h2]; simp [hl]
    · exact Or.inr ⟨l, List.mem_cons_of_mem _ hl, List.mem_cons_of_mem _ hm⟩

theorem assumeNeg_none (a : Asg) (c : List Int) (u : Array Int) (hwf : WF u) (hag : Agrees u a)
    (hnz : ∀ l ∈ c, l ≠ 0) (h : assumeNeg u c = none) : clauseTrue a c = true := by
  rw [clauseTrue_iff]
  rcases assumeNeg_none_cases c u hnz h with ⟨l, hl, ht⟩ | ⟨l, hl, hl'⟩
  · exact ⟨l, hl, ht.sound hwf hag⟩
  · cases hlt : litTrue a l with
    | true => exact ⟨l, hl, hlt⟩
    | false => exact ⟨-l, hl', by rw [litTrue_neg a l (hnz l hl), hlt]; rfl⟩

/-- `c` follows from `f` by reverse unit propagation. -/
def rupLine (n : Nat) (f : List (List Int)) (c : List Int) : Bool :=
  cnfNz f && c.all (· != 0) &&
    match assumeNeg (emptyBind n) c with
    | none => true
    | some u => fix f (n + 2) u

theorem rupLine_sound (n : Nat) (f : List (List Int)) (c : List Int) (h : rupLine n f c = true) :
    CnfEntails f c := by
  unfold rupLine at h
  simp only [Bool.and_eq_true] at h
  obtain ⟨⟨hf, hc⟩, hm⟩ := h
  have hnzc : ∀ l ∈ c, l ≠ 0 := by simpa only [List.all_eq_true, bne_iff_ne] using hc
  intro a ha
  cases hct : clauseTrue a c with
  | true => rfl
  | false =>
    exfalso
    split at hm
    · rename_i hn
      have := assumeNeg_none a c (emptyBind n) (wf_empty n) (agrees_empty n a) hnzc hn
      rw [this] at hct; cases hct
    · rename_i u hs
      have := assumeNeg_agrees a c (emptyBind n) u (wf_empty n) (agrees_empty n a) hct hnzc hs
      exact fix_conflict_unsat f (cnfNz_spec f hf) (n+2) u this.1 hm ⟨a, this.2, ha⟩

/-- Check a certificate: every line must be RUP w.r.t. the formula plus the earlier lines.
    Returns the index of the first line that is not, or `none` if all are. -/
def rupFirstBad (n : Nat) : List (List Int) → List (List Int) → Nat → Option Nat
  | _, [], _ => none
  | db, c :: rest, i => if rupLine n db c then rupFirstBad n (c :: db) rest (i + 1) else some i

def rupValid (n : Nat) (f : List (List Int)) (lines : List (List Int)) : Bool :=
  (rupFirstBad n f lines 0).isNone

theorem rupValid_iff (n : Nat) (f lines : List (List Int)) :
    rupValid n f lines = true ↔ rupFirstBad n f lines 0 = none := by
  simp only [rupValid, Option.isNone_iff_eq_none]

theorem cnfEntails_cons (f : List (List Int)) (c d : List Int)
    (hc : CnfEntails f c) (hd : CnfEntails (c :: f) d) : CnfEntails f d := by
  intro a ha
  apply hd a
  simp only [cnfTrue, List.all_cons, Bool.and_eq_true]
  exact ⟨hc a ha, ha⟩

theorem rupFirstBad_sound (n : Nat) (f : List (List Int)) (lines db : List (List Int)) (i : Nat)
    (hdb : ∀ d ∈ db, CnfEntails f d) (h : rupFirstBad n db lines i = none) :
    ∀ c ∈ lines, CnfEntails f c := by
  fun_induction rupFirstBad n db lines i with
  | case1 => nofun
  | case2 db c rest i hr ih =>
    have hc : CnfEntails f c := fun a ha =>
      rupLine_sound n db c hr a ((cnfTrue_iff a db).2 fun d hd => hdb d hd a ha)
    exact List.forall_mem_cons.2 ⟨hc, ih (List.forall_mem_cons.2 ⟨hc, hdb⟩) h⟩
  | case3 => cases h

theorem rupValid_sound (n : Nat) (f : List (List Int)) (lines : List (List Int))
    (h : rupValid n f lines = true) : ∀ c ∈ lines, CnfEntails f c :=
  rupFirstBad_sound n f lines f 0 (fun d hd a ha => (cnfTrue_iff a f).1 ha d hd)
    ((rupValid_iff n f lines).1 h)

/-- A certificate refutes `f`: all lines RUP in order and the empty clause derivable by
    unit propagation at the end. -/
def rupRefutes (n : Nat) (f : List (List Int)) (lines : List (List Int)) : Bool :=
  rupValid n f lines && upRefute n (lines.reverse ++ f)

theorem rupRefutes_sound (n : Nat) (f : List (List Int)) (lines : List (List Int))
    (h : rupRefutes n f lines = true) : ¬ CnfSat f := by
  unfold rupRefutes at h
  simp only [Bool.and_eq_true] at h
  have hl := rupValid_sound n f lines h.1
  rintro ⟨a, ha⟩
  refine upRefute_sound n _ h.2 ⟨a, (cnfTrue_iff a _).2 fun c hc => ?_⟩
  rcases List.mem_append.1 hc with hc | hc
  · exact hl c (List.mem_reverse.1 hc) a ha
  · exact (cnfTrue_iff a f).1 ha c hc

end GS
