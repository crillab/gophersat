import GS.Spec.MaxSat
import GS.Check.Brute
/-! # Exhaustive MaxSAT oracle, proved equal to the spec on inputs with literals in `1..n` -/
namespace GS

theorem violated_agree (a b : Asg) (ss : List Soft) (h : ∀ s ∈ ss, s.c.holds a = s.c.holds b) :
    violated a ss = violated b ss := by
  induction ss with
  | nil => rfl
  | cons s ss ih =>
    rw [violated, violated, h s List.mem_cons_self, ih fun s' hs' => h s' (List.mem_cons_of_mem s hs')]

theorem violated_congr (a b : Asg) (n : Nat) (h : ∀ v, 1 ≤ v → v ≤ n → a v = b v)
    (ss : List Soft) (hw : softWf n ss = true) : violated a ss = violated b ss :=
  violated_agree a b ss fun s hs => Lin.holds_congr a b n h s.c (List.all_eq_true.1 hw s hs)

def bruteMaxSat (n : Nat) (hard : Problem) (soft : List Soft) : Option Int :=
  minOver (fun bs => violated (asgOf bs) soft) (modelsOver n hard)

theorem bruteMaxSat_none (n : Nat) (hard : Problem) (soft : List Soft) (hw : hard.wf n = true) :
    bruteMaxSat n hard soft = none ↔ ¬ Satisfiable hard := by
  -- both oracles are `none` exactly when `modelsOver n hard` is empty
  rw [← bruteOpt_none n hard [] hw, bruteMaxSat, bruteOpt, minOver_none, minCost_none]

theorem bruteMaxSat_some (n : Nat) (hard : Problem) (soft : List Soft) (m : Int)
    (hw : hard.wf n = true) (hs : softWf n soft = true) (h : bruteMaxSat n hard soft = some m) :
    ∃ a, IsMaxSatOpt hard soft a ∧ violated a soft = m := by
  unfold bruteMaxSat at h
  obtain ⟨⟨bs, hbs, hc⟩, hmin⟩ := minOver_some _ _ m h
  rw [mem_modelsOver] at hbs
  refine ⟨asgOf bs, ⟨hbs.2, ?_⟩, hc⟩
  intro b hb
  have hag := asgOf_restrict b n
  have hmem : restrict b 1 n ∈ modelsOver n hard :=
    (mem_modelsOver ..).2 ⟨restrict_length b n 1, (Problem.holds_congr _ b n hag hard hw).trans hb⟩
  have := hmin _ hmem
  rw [violated_congr _ b n hag soft hs] at this
  omega

theorem bruteMaxSat_unique (n : Nat) (hard : Problem) (soft : List Soft) (m : Int)
    (hw : hard.wf n = true) (hs : softWf n soft = true) (h : bruteMaxSat n hard soft = some m)
    (a : Asg) (ha : IsMaxSatOpt hard soft a) : violated a soft = m := by
  obtain ⟨b, hb, hbc⟩ := bruteMaxSat_some n hard soft m hw hs h
  have h1 := ha.2 b hb.1
  have h2 := hb.2 a ha.1
  omega

end GS
