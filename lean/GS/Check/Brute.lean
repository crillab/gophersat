import GS.Spec.LitSum
/-!
# GS.Check.Brute — exhaustive oracles, proved equal to the spec

`bruteSat`, `bruteCnfSat`, `bruteOpt`, `entailsB`, `isMUSB` enumerate the
`2^n` boolean lists of length `n`. The theorems say that, for problems whose literals lie
in `1..n`, these decide exactly `Satisfiable`, `CnfSat`, `IsOptimum`, `Entails`, `IsMUS` over *all*
total assignments: an assignment and its restriction to `1..n` (`restrict a 1 n`, a leaf) give such a
problem the same value. `bruteCount` is the spec's `countOver`, the length of the enumeration
`modelsOver`: there is nothing to prove it equal to, only what the enumeration holds
(`mem_modelsOver`, `modelsOver_nodup`: the lists of length `n` that satisfy the problem, each once).
-/
namespace GS

theorem agree_of_litOk {a b : Asg} {n : Nat} (h : ∀ v, 1 ≤ v → v ≤ n → a v = b v) {l : Int}
    (hl : litOk n l = true) : a l.natAbs = b l.natAbs :=
  have hl := (litOk_iff n l).1 hl
  h _ (Int.natAbs_pos.2 hl.1) hl.2

section
variable (a b : Asg) (n : Nat) (h : ∀ v, 1 ≤ v → v ≤ n → a v = b v)
include h

theorem litTrue_congr (l : Int) (hl : litOk n l = true) : litTrue a l = litTrue b l :=
  litTrue_agree a b l (agree_of_litOk h hl)

theorem lhs_congr : ∀ ts : List (Int × Int), termsWf n ts = true → lhs a ts = lhs b ts :=
  fun ts hw => lhs_agree a b ts fun t ht => agree_of_litOk h (List.all_eq_true.1 hw t ht)

theorem Lin.holds_congr (c : Lin) (hw : c.wf n = true) : c.holds a = c.holds b :=
  Lin.holds_agree a b c fun t ht => agree_of_litOk h (List.all_eq_true.1 hw t ht)

theorem Problem.holds_congr : ∀ p : Problem, p.wf n = true → Problem.holds a p = Problem.holds b p :=
  fun _ hw => all_congr_mem fun c hc => Lin.holds_congr a b n h c (List.all_eq_true.1 hw c hc)

theorem clauseTrue_congr : ∀ c : List Int, clauseWf n c = true → clauseTrue a c = clauseTrue b c :=
  fun _ hw => any_congr_mem fun l hl => litTrue_congr a b n h l (List.all_eq_true.1 hw l hl)

theorem cnfTrue_congr : ∀ f : List (List Int), cnfWf n f = true → cnfTrue a f = cnfTrue b f :=
  fun _ hw => all_congr_mem fun c hc => clauseTrue_congr a b n h c (List.all_eq_true.1 hw c hc)

end

theorem length_leaves : ∀ n, (leaves n).length = 2 ^ n
  | 0 => rfl
  | n + 1 => by simp only [leaves, List.length_append, List.length_map, length_leaves n]; omega

theorem mem_leaves : ∀ (n : Nat) (bs : List Bool), bs ∈ leaves n ↔ bs.length = n := by
  intro n
  induction n with
  | zero => intro bs; simp [leaves]
  | succ n ih =>
    intro bs
    cases bs with
    | nil => simp [leaves]
    | cons b bs => cases b <;> simp [leaves, ih]

theorem leaves_nodup : ∀ n : Nat, (leaves n).Nodup := by
  intro n
  induction n with
  | zero => simp [leaves]
  | succ n ih =>
    simp only [leaves]
    unfold List.Nodup at *
    rw [List.pairwise_append]
    refine ⟨?_, ?_, ?_⟩
    · exact List.Pairwise.map _ (fun a b h => by simpa using h) ih
    · exact List.Pairwise.map _ (fun a b h => by simpa using h) ih
    · intro a ha b hb
      simp only [List.mem_map] at ha hb
      obtain ⟨x, _, rfl⟩ := ha
      obtain ⟨y, _, rfl⟩ := hb
      simp

theorem restrict_length (a : Asg) : ∀ (n k : Nat), (restrict a k n).length = n := by
  intro n
  induction n with
  | zero => intro k; rfl
  | succ n ih => intro k; simp [restrict, ih]

theorem restrict_getD (a : Asg) : ∀ (n k i : Nat), i < n → (restrict a k n).getD i false = a (k + i) := by
  intro n
  induction n with
  | zero => intro k i h; omega
  | succ n ih =>
    intro k i h
    cases i with
    | zero => simp [restrict]
    | succ i =>
      simp only [restrict, List.getD_cons_succ]
      rw [ih (k+1) i (by omega)]
      congr 1; omega

theorem asgOf_restrict (a : Asg) (n v : Nat) (h1 : 1 ≤ v) (h2 : v ≤ n) :
    asgOf (restrict a 1 n) v = a v := by
  cases v with
  | zero => omega
  | succ v =>
    simp only [asgOf]
    rw [restrict_getD a n 1 v (by omega)]
    congr 1; omega

theorem restrict_mem_leaves (a : Asg) (n : Nat) : restrict a 1 n ∈ leaves n :=
  (mem_leaves n _).2 (restrict_length a n 1)

def bruteSat (n : Nat) (p : Problem) : Bool :=
  (leaves n).any (fun bs => Problem.holds (asgOf bs) p)

theorem bruteSat_iff (n : Nat) (p : Problem) (hw : p.wf n = true) :
    bruteSat n p = true ↔ Satisfiable p := by
  unfold bruteSat Satisfiable
  rw [List.any_eq_true]
  constructor
  · rintro ⟨bs, _, h⟩; exact ⟨asgOf bs, h⟩
  · rintro ⟨a, h⟩
    refine ⟨restrict a 1 n, restrict_mem_leaves a n, ?_⟩
    rw [Problem.holds_congr (asgOf (restrict a 1 n)) a n (asgOf_restrict a n) p hw]
    exact h

/-- First satisfying boolean list, if any (used to exhibit a witness in replays). -/
def bruteWitness (n : Nat) (p : Problem) : Option (List Bool) :=
  (leaves n).find? (fun bs => Problem.holds (asgOf bs) p)

def bruteCnfSat (n : Nat) (f : List (List Int)) : Bool :=
  (leaves n).any (fun bs => cnfTrue (asgOf bs) f)

theorem bruteCnfSat_iff (n : Nat) (f : List (List Int)) (hw : cnfWf n f = true) :
    bruteCnfSat n f = true ↔ CnfSat f := by
  unfold bruteCnfSat CnfSat
  rw [List.any_eq_true]
  constructor
  · rintro ⟨bs, _, h⟩; exact ⟨asgOf bs, h⟩
  · rintro ⟨a, h⟩
    refine ⟨restrict a 1 n, restrict_mem_leaves a n, ?_⟩
    rw [cnfTrue_congr (asgOf (restrict a 1 n)) a n (asgOf_restrict a n) f hw]
    exact h

def entailsB (n : Nat) (p : Problem) (c : Lin) : Bool :=
  (leaves n).all (fun bs => !Problem.holds (asgOf bs) p || c.holds (asgOf bs))

theorem entailsB_iff (n : Nat) (p : Problem) (c : Lin) (hp : p.wf n = true) (hc : c.wf n = true) :
    entailsB n p c = true ↔ Entails p c := by
  unfold entailsB Entails
  rw [List.all_eq_true]
  constructor
  · intro h a ha
    have hag := asgOf_restrict a n
    have := h (restrict a 1 n) (restrict_mem_leaves a n)
    rw [Problem.holds_congr _ a n hag p hp, Lin.holds_congr _ a n hag c hc, ha] at this
    simpa using this
  · intro h bs _
    cases hh : Problem.holds (asgOf bs) p with
    | false => simp
    | true => simp [h _ hh]

/-- Minimum of `g` over a list, `none` if the list is empty. -/
def minOver (g : List Bool → Int) : List (List Bool) → Option Int
  | [] => none
  | bs :: rest =>
    match minOver g rest with
    | none => some (g bs)
    | some m => some (if g bs < m then g bs else m)

theorem minOver_none (g) : ∀ l, minOver g l = none ↔ l = [] := by
  intro l
  cases l with
  | nil => simp [minOver]
  | cons b l =>
    simp only [minOver]
    split <;> simp

theorem minOver_some (g) : ∀ (l : List (List Bool)) (m : Int), minOver g l = some m →
    (∃ bs ∈ l, g bs = m) ∧ ∀ bs ∈ l, m ≤ g bs
  | [], _, h => nomatch h
  | b :: l, m, h => by
    rw [minOver] at h
    split at h
    · rename_i hn
      cases (minOver_none g l).1 hn
      cases h
      exact ⟨⟨b, List.mem_cons_self, rfl⟩, fun bs hbs => List.mem_singleton.1 hbs ▸ Int.le_refl _⟩
    · rename_i m' hs
      obtain ⟨⟨w, hw, hwc⟩, hmin⟩ := minOver_some g l m' hs
      cases h
      split
      · exact ⟨⟨b, List.mem_cons_self, rfl⟩,
          List.forall_mem_cons.2 ⟨Int.le_refl _, fun bs hbs => by have := hmin bs hbs; omega⟩⟩
      · exact ⟨⟨w, List.mem_cons_of_mem _ hw, hwc⟩, List.forall_mem_cons.2 ⟨by omega, hmin⟩⟩

/-- Minimum of the cost over the satisfying boolean lists, `none` if there is none. -/
def minCost (f : List (Int × Int)) : List (List Bool) → Option Int :=
  minOver (fun bs => cost f (asgOf bs))

def bruteOpt (n : Nat) (p : Problem) (f : List (Int × Int)) : Option Int :=
  minCost f (modelsOver n p)

theorem minCost_none (f) : ∀ l, minCost f l = none ↔ l = [] := minOver_none _

theorem minCost_some (f) : ∀ (l : List (List Bool)) (m : Int), minCost f l = some m →
    (∃ bs ∈ l, cost f (asgOf bs) = m) ∧ ∀ bs ∈ l, m ≤ cost f (asgOf bs) := minOver_some _

theorem mem_modelsOver (n : Nat) (p : Problem) (bs : List Bool) :
    bs ∈ modelsOver n p ↔ bs.length = n ∧ Problem.holds (asgOf bs) p = true := by
  unfold modelsOver
  rw [List.mem_filter, mem_leaves]

theorem bruteOpt_none (n : Nat) (p : Problem) (f) (hw : p.wf n = true) :
    bruteOpt n p f = none ↔ ¬ Satisfiable p := by
  unfold bruteOpt
  rw [minCost_none, ← bruteSat_iff n p hw]
  unfold modelsOver bruteSat
  rw [List.filter_eq_nil_iff, List.any_eq_true]
  constructor
  · intro h ⟨bs, hm, hh⟩; exact h bs hm hh
  · intro h bs hm hh; exact h ⟨bs, hm, hh⟩

theorem bruteOpt_some (n : Nat) (p : Problem) (f) (m : Int) (hw : p.wf n = true)
    (hf : termsWf n f = true) (h : bruteOpt n p f = some m) :
    ∃ a, IsOptimum p f a ∧ cost f a = m := by
  unfold bruteOpt at h
  obtain ⟨⟨bs, hbs, hc⟩, hmin⟩ := minCost_some f _ m h
  rw [mem_modelsOver] at hbs
  refine ⟨asgOf bs, ⟨hbs.2, ?_⟩, hc⟩
  intro b hb
  have hag := asgOf_restrict b n
  have hmem : restrict b 1 n ∈ modelsOver n p := by
    rw [mem_modelsOver]
    refine ⟨restrict_length b n 1, ?_⟩
    rw [Problem.holds_congr _ b n hag p hw]; exact hb
  have := hmin _ hmem
  unfold cost at this hc ⊢
  rw [lhs_congr _ b n hag f hf] at this
  omega

theorem bruteOpt_unique (n : Nat) (p : Problem) (f) (m : Int) (hw : p.wf n = true)
    (hf : termsWf n f = true) (h : bruteOpt n p f = some m) (a : Asg) (ha : IsOptimum p f a) :
    cost f a = m := by
  obtain ⟨b, hb, hbc⟩ := bruteOpt_some n p f m hw hf h
  have h1 := ha.2 b hb.1
  have h2 := hb.2 a ha.1
  omega

def bruteCount (n : Nat) (p : Problem) : Nat := countOver n p

theorem modelsOver_nodup (n : Nat) (p : Problem) : (modelsOver n p).Nodup :=
  List.Pairwise.filter _ (leaves_nodup n)

def isMUSB (n : Nat) (m : List (List Int)) : Bool :=
  !bruteCnfSat n m && (List.range m.length).all (fun i => bruteCnfSat n (dropNth m i))

theorem cnfWf_dropNth (n : Nat) (m : List (List Int)) (i : Nat) (h : cnfWf n m = true) :
    cnfWf n (dropNth m i) = true :=
  cnfWf_subset n (mem_dropNth m i) h

theorem isMUSB_iff (n : Nat) (m : List (List Int)) (hw : cnfWf n m = true) :
    isMUSB n m = true ↔ IsMUS m := by
  unfold isMUSB IsMUS
  rw [Bool.and_eq_true, Bool.not_eq_true', ← Bool.not_eq_true, bruteCnfSat_iff n m hw, List.all_eq_true]
  have hi := fun i => bruteCnfSat_iff n _ (cnfWf_dropNth n m i hw)
  exact and_congr Iff.rfl ⟨fun h i hlt => (hi i).1 (h i (List.mem_range.2 hlt)),
    fun h i hlt => (hi i).2 (h i (List.mem_range.1 hlt))⟩

end GS
