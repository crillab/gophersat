import GS.Generated.IntCode
/-!
# GS.Model.IntCodeSem — the integer reading of the generated bit-vector definitions

`GS/Generated/IntCode.lean` is written by `/verif/trans` from the Go source on every run; this
hand-written layer relates those definitions (two's complement, `BitVec 32` / `BitVec 64`) to the
DIMACS-integer view (`Int` literals) used by every other model of the development:

* `litCode i` is the solver's code of the DIMACS literal `i` (`2(i-1)` / `2(-i-1)+1`), `litDecode`
  its inverse, `litCode i / 2` the 0-based variable; `toInt_IntToLit` ties it to `IntToLit` on
  `0 < |i| ≤ 2^30` (the exact range);
* the flag word `lbdValue : BitVec 32` is `flagWord learned locked lbd`: one equation per generated
  flag function saying what it does to the three fields (`Clause_Cardinality`, a case split on
  `Clause_Learned` around the text of `Clause_lbd`, has `Cardinality_learned/_nonlearned` in
  C01_IntCode instead).

Everything is proved from the generated text: when the Go source changes, these lemmas are
re-checked against the new definitions.
-/
namespace GS.IntCodeSem
open GS.Gen.IntCode

/-- solver code of the DIMACS literal `i ≠ 0` -/
def litCode (i : Int) : Int := if 0 < i then 2 * (i - 1) else 2 * (-i - 1) + 1
/-- DIMACS literal of the code `l ≥ 0` -/
def litDecode (l : Int) : Int := if l % 2 = 1 then -(l / 2 + 1) else l / 2 + 1

theorem litDecode_litCode (i : Int) : litDecode (litCode i) = i := by
  unfold litDecode litCode; split <;> split <;> omega
theorem litCode_litDecode (l : Int) (_h : 0 ≤ l) : litCode (litDecode l) = l := by
  unfold litDecode litCode; split <;> split <;> omega
theorem litCode_nonneg (i : Int) (h : i ≠ 0) : 0 ≤ litCode i := by
  unfold litCode; split <;> omega
/-- variable (1-based, as in `GS.Spec`) = `natAbs` of the literal = code / 2 + 1 -/
theorem litCode_var (i : Int) (_h : i ≠ 0) : litCode i / 2 + 1 = i.natAbs := by
  unfold litCode; split <;> omega

/-! ## signed reading of 32-bit arithmetic

A ring expression over `BitVec 32` reads, signed, as the integer expression taken `bmod 2^32`
(`BitVec.toInt_add` … and the `Int.…_bmod_bmod` lemmas push the `bmod`s outwards); `bmod_self`
removes the outer `bmod` when the integer value is in range.  A literal code `l` is read as
the pair `(l.toInt / 2, l.toInt % 2)` = (variable, sign). -/

theorem toInt_ne_zero {w} {x : BitVec w} (h : x ≠ 0#w) : x.toInt ≠ 0 :=
  fun h0 => h (BitVec.toInt_inj.mp (h0.trans BitVec.toInt_zero.symm))

theorem toInt_bounds {w} (x : BitVec w) : -2^(w-1) ≤ x.toInt ∧ x.toInt < 2^(w-1) :=
  ⟨BitVec.le_toInt x, BitVec.toInt_lt⟩

theorem bmod_self {w : Nat} {z : Int} (lo : -2^w ≤ 2 * z) (hi : 2 * z < 2^w) : z.bmod (2^w) = z :=
  Int.bmod_eq_of_le_mul_two (by push_cast; omega) (by push_cast; omega)

theorem bmod32_inj {x y : Int} (h : x.bmod (2^32) = y.bmod (2^32)) (hxy : x - y < 2^32) (hyx : y - x < 2^32) :
    x = y := by
  have h' := congrArg (· % ((2^32 : Nat) : Int)) h
  simp only [Int.bmod_emod] at h'
  omega

theorem bmod32_emod_two (z : Int) : z.bmod (2^32) % 2 = z % 2 := by
  rw [← Int.emod_emod_of_dvd _ (by decide : (2:Int) ∣ ((2^32 : Nat) : Int)), Int.bmod_emod,
    Int.emod_emod_of_dvd _ (by decide)]

theorem toInt_add_one {v : BitVec 32} (h : v.toInt < 2^31 - 1) : (v + 1#32).toInt = v.toInt + 1 := by
  have := toInt_bounds v
  have h1 : (1#32).toInt = 1 := rfl
  rw [BitVec.toInt_add, h1]; exact bmod_self (by omega) (by omega)

theorem slt_zero_iff (i : BitVec 32) : BitVec.slt i 0#32 = true ↔ i.toInt < 0 := by
  rw [BitVec.slt_eq_decide, BitVec.toInt_zero, decide_eq_true_iff]

theorem toInt_emod_two (x : BitVec 32) : x.toInt % 2 = (x.toNat : Int) % 2 := by
  rw [BitVec.toInt_eq_toNat_cond]; split <;> omega

theorem toInt_div_two (x : BitVec 32) : x.toInt / 2 = (x.sshiftRight 1).toInt := by
  rw [BitVec.toInt_sshiftRight, Int.shiftRight_eq_div_pow]; rfl

theorem IntToLit_of_neg {i : BitVec 32} (h : i.toInt < 0) : IntToLit i = 2#32 * (-i - 1#32) + 1#32 := by
  rw [IntToLit, if_pos ((slt_zero_iff i).mpr h)]

theorem IntToLit_of_nonneg {i : BitVec 32} (h : 0 ≤ i.toInt) : IntToLit i = 2#32 * (i - 1#32) := by
  rw [IntToLit, if_neg (fun hs => Int.not_lt.mpr h ((slt_zero_iff i).mp hs))]

/-- the code of every `i`, wrap-around included -/
theorem toInt_IntToLit_bmod (i : BitVec 32) : (IntToLit i).toInt =
    (if i.toInt < 0 then 2 * (-i.toInt - 1) + 1 else 2 * (i.toInt - 1)).bmod (2^32) := by
  unfold IntToLit
  simp only [BitVec.slt_eq_decide, decide_eq_true_eq, BitVec.toInt_zero]
  split <;>
    simp only [BitVec.toInt_add, BitVec.toInt_mul, BitVec.toInt_sub, BitVec.toInt_neg,
      Int.mul_bmod_bmod, Int.bmod_add_bmod, Int.bmod_sub_bmod] <;> rfl

/-- wrap-around keeps the parity: the last bit of the code is the sign of `i`, for every `i` -/
theorem IntToLit_odd_iff (i : BitVec 32) : (IntToLit i).toInt % 2 = 1 ↔ i.toInt < 0 := by
  rw [toInt_IntToLit_bmod, bmod32_emod_two]; split <;> omega

theorem toInt_IntToLit (i : BitVec 32) (h0 : i ≠ 0#32) (hlo : -2^30 ≤ i.toInt) (hhi : i.toInt ≤ 2^30) :
    (IntToLit i).toInt = litCode i.toInt := by
  have hne := toInt_ne_zero h0
  rw [toInt_IntToLit_bmod, litCode]
  by_cases hp : 0 < i.toInt
  · rw [if_pos hp, if_neg (by omega)]; exact bmod_self (by omega) (by omega)
  · rw [if_neg hp, if_pos (by omega)]; exact bmod_self (by omega) (by omega)

theorem toInt_sdiv_two (l : BitVec 32) : (BitVec.sdiv l 2#32).toInt = Int.tdiv l.toInt 2 :=
  BitVec.toInt_sdiv_of_ne_or_ne l 2#32 (Or.inr (by decide))

theorem and_one_eq_one (l : BitVec 32) : ((l &&& 1#32) == 1#32) = decide (l.toInt % 2 = 1) := by
  have h : (l &&& 1#32).toNat = l.toNat % 2 := Nat.and_one_is_mod _
  rw [toInt_emod_two, Bool.eq_iff_iff, beq_iff_eq, decide_eq_true_iff, ← BitVec.toNat_inj, h]
  change _ = 1 ↔ _
  omega

theorem toInt_Lit_Var (l : BitVec 32) (h : 0 ≤ l.toInt) : (Lit_Var l).toInt = l.toInt / 2 := by
  rw [Lit_Var, toInt_sdiv_two, Int.tdiv_eq_ediv_of_nonneg h]

theorem toInt_Lit_Int (l : BitVec 32) (h : 0 ≤ l.toInt) : (Lit_Int l).toInt = litDecode l.toInt := by
  have hb := toInt_bounds l
  have h1 : (1#32).toInt = 1 := rfl
  have hv : (BitVec.sdiv l 2#32 + 1#32).toInt = l.toInt / 2 + 1 := by
    rw [BitVec.toInt_add, toInt_sdiv_two, Int.tdiv_eq_ediv_of_nonneg h]
    exact bmod_self (by omega) (by omega)
  unfold Lit_Int litDecode
  simp only [and_one_eq_one, decide_eq_true_eq]
  split
  · rw [BitVec.toInt_neg, hv]; exact bmod_self (by omega) (by omega)
  · exact hv

theorem Lit_IsPositive_eq (l : BitVec 32) : Lit_IsPositive l = decide (l.toInt % 2 = 0) := by
  have h : (BitVec.srem l 2#32).toInt = Int.tmod l.toInt 2 := BitVec.toInt_srem l 2#32
  rw [Lit_IsPositive, Bool.eq_iff_iff, beq_iff_eq, decide_eq_true_iff, ← BitVec.toInt_inj, h]
  change _ = 0 ↔ _
  rw [Int.tmod_eq_emod]; split <;> omega

/-- `l ^ 1` keeps the signed half of every bit pattern (also of negative ones) -/
theorem toInt_Negation_div (l : BitVec 32) : (Lit_Negation l).toInt / 2 = l.toInt / 2 := by
  have h : (1#32).sshiftRight 1 = 0#32 := by decide
  rw [toInt_div_two, toInt_div_two, Lit_Negation, BitVec.sshiftRight_xor_distrib, h, BitVec.xor_zero]

theorem toInt_Negation_mod (l : BitVec 32) : (Lit_Negation l).toInt % 2 = 1 - l.toInt % 2 := by
  have h := Nat.xor_mod_two_eq_one (a := l.toNat) (b := 1)
  rw [toInt_emod_two, toInt_emod_two, Lit_Negation, BitVec.toNat_xor]
  change (↑(l.toNat ^^^ 1) : Int) % 2 = _
  omega

theorem toInt_IntToVar (i : BitVec 32) (h : -2^31 < i.toInt) : (IntToVar i).toInt = i.toInt - 1 := by
  have := toInt_bounds i
  have h1 : (1#32).toInt = 1 := rfl
  rw [IntToVar, BitVec.toInt_sub]; exact bmod_self (by omega) (by omega)

/-! ## the flag word `lbdValue`

The word is a record of three fields (`flagWord`), every word is one (`flagWord_surj`), the masks are such
words and the bitwise operations act field by field; each generated function then has one equation saying
what it does to the fields. -/

/-- the layout in the comment of `Clause.lbdValue` (clause.go): leftmost bit learned, second bit locked,
last 30 bits lbd (learned) or cardinality - 1 -/
def flagWord (learned locked : Bool) (lbd : BitVec 30) : BitVec 32 := BitVec.cons learned (BitVec.cons locked lbd)

theorem flagWord_surj (x : BitVec 32) : ∃ a b l, x = flagWord a b l :=
  ⟨x.msb, (x.setWidth 31).msb, (x.setWidth 31).setWidth 30, by
    unfold flagWord; rw [BitVec.cons_msb_setWidth, BitVec.cons_msb_setWidth]⟩

theorem learnedMask_eq : learnedMask = flagWord true false 0#30 := by decide
theorem lockedMask_eq : lockedMask = flagWord false true 0#30 := by decide
theorem bothMasks_eq : bothMasks = flagWord true true 0#30 := by decide

theorem flagWord_and (a b c d : Bool) (l m : BitVec 30) :
    flagWord a b l &&& flagWord c d m = flagWord (a && c) (b && d) (l &&& m) := by
  unfold flagWord; rw [BitVec.cons_and_cons, BitVec.cons_and_cons]

theorem flagWord_or (a b c d : Bool) (l m : BitVec 30) :
    flagWord a b l ||| flagWord c d m = flagWord (a || c) (b || d) (l ||| m) := by
  unfold flagWord; rw [BitVec.cons_or_cons, BitVec.cons_or_cons]

theorem flagWord_not (a b : Bool) (l : BitVec 30) : ~~~flagWord a b l = flagWord (!a) (!b) (~~~l) := by
  unfold flagWord; rw [BitVec.not_cons, BitVec.not_cons]

theorem flagWord_toNat (a b : Bool) (l : BitVec 30) :
    (flagWord a b l).toNat = a.toNat * 2^31 + b.toNat * 2^30 + l.toNat := by
  unfold flagWord; rw [BitVec.toNat_cons', BitVec.toNat_cons', Nat.shiftLeft_eq, Nat.shiftLeft_eq, Nat.add_assoc]

theorem setWidth_eq_flagWord {w} (n : BitVec w) (h : n.toNat < 2^30) :
    n.setWidth 32 = flagWord false false (n.setWidth 30) := by
  apply BitVec.eq_of_toNat_eq
  rw [flagWord_toNat, BitVec.toNat_setWidth, BitVec.toNat_setWidth, Nat.mod_eq_of_lt h, Nat.mod_eq_of_lt (by omega)]
  exact (Nat.zero_add _).symm

theorem Clause_Learned_flagWord (a b : Bool) (l : BitVec 30) : Clause_Learned (flagWord a b l) = a := by
  rw [Clause_Learned, learnedMask_eq, flagWord_and, BitVec.and_zero, Bool.and_false]; cases a <;> rfl

/-- `isLocked` tests BOTH bits -/
theorem Clause_isLocked_flagWord (a b : Bool) (l : BitVec 30) : Clause_isLocked (flagWord a b l) = (a && b) := by
  rw [Clause_isLocked, bothMasks_eq, flagWord_and, BitVec.and_zero]; cases a <;> cases b <;> rfl

theorem Clause_lock_flagWord (a b : Bool) (l : BitVec 30) : Clause_lock (flagWord a b l) = flagWord a true l := by
  rw [Clause_lock, lockedMask_eq, flagWord_or, BitVec.or_zero, Bool.or_false, Bool.or_true]

theorem Clause_unlock_flagWord (a b : Bool) (l : BitVec 30) : Clause_unlock (flagWord a b l) = flagWord a false l := by
  rw [Clause_unlock, lockedMask_eq, flagWord_not, flagWord_and, BitVec.not_zero, BitVec.and_allOnes]
  simp only [Bool.not_false, Bool.and_true, Bool.not_true, Bool.and_false]

theorem Clause_lbd_flagWord (a b : Bool) (l : BitVec 30) : Clause_lbd (flagWord a b l) = l.setWidth 64 := by
  have e := setWidth_eq_flagWord l l.isLt
  rw [BitVec.setWidth_eq] at e
  rw [Clause_lbd, bothMasks_eq, flagWord_not, flagWord_and, BitVec.not_zero, BitVec.and_allOnes]
  simp only [Bool.not_true, Bool.and_false]
  rw [← e, BitVec.setWidth_setWidth (by decide)]

/-- `setLbd` with `lbd ≥ 2^30` writes into the flag bits (`setLbd_overflow`) -/
theorem Clause_setLbd_flagWord (a b : Bool) (l : BitVec 30) (n : BitVec 64) (hn : n.toNat < 2^30) :
    Clause_setLbd (flagWord a b l) n = flagWord a b (n.setWidth 30) := by
  rw [Clause_setLbd, bothMasks_eq, flagWord_and, setWidth_eq_flagWord n hn, flagWord_or, BitVec.and_zero, BitVec.zero_or]
  simp only [Bool.and_true, Bool.or_false]

/-- without a carry out of the lbd field the increment stays inside it (`incLbd_overflow` is the carry) -/
theorem Clause_incLbd_flagWord (a b : Bool) (l : BitVec 30) (h : l.toNat ≠ 2^30 - 1) :
    Clause_incLbd (flagWord a b l) = flagWord a b (l + 1#30) := by
  have hl : l.toNat + 1 < 2^30 := by have := l.isLt; omega
  have := a.toNat_le; have := b.toNat_le
  apply BitVec.eq_of_toNat_eq
  rw [Clause_incLbd, BitVec.toNat_add, flagWord_toNat, flagWord_toNat, BitVec.toNat_add]
  change (_ + 1) % _ = _ + (_ + 1) % _
  rw [Nat.mod_eq_of_lt hl, Nat.mod_eq_of_lt (by omega)]; exact Nat.add_assoc _ _ _

/-! on `Nat`: a mask that lies in the flag bits acts on `x / 2^30`; `|||` leaves the lbd field `x % 2^30`, `&&&` clears it -/

theorem and_highMask (x m : Nat) :
    x &&& (m * 2^30) = ((x / 2^30) &&& m) * 2^30 := by
  rw [← Nat.div_add_mod' (x &&& m * 2^30) (2^30), Nat.and_div_two_pow, Nat.and_mod_two_pow,
    Nat.mul_div_cancel _ (by decide), Nat.mul_mod_left, Nat.and_zero, Nat.add_zero]

theorem or_highMask (x m : Nat) :
    x ||| (m * 2^30) = ((x / 2^30) ||| m) * 2^30 + x % 2^30 := by
  rw [← Nat.div_add_mod' (x ||| m * 2^30) (2^30), Nat.or_div_two_pow, Nat.or_mod_two_pow,
    Nat.mul_div_cancel _ (by decide), Nat.mul_mod_left, Nat.or_zero]

end GS.IntCodeSem
