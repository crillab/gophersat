/-!
# GS.Model.Luby — hand mirror of `luby` (solver/luby.go) and the standard Luby sequence

```go
func luby(i uint) uint {
	for k := 1; k < 32; k++ {
		if i == (1<<k)-1 { return 1 << (k - 1) }
	}
	k := 1
	for {
		if (1<<(k-1)) <= i && i < (1<<k)-1 { return luby(i - (1 << (k - 1)) + 1) }
		k++
	}
}
```

`luby` has loops, so it is mirrored by hand (not by the translator), on `Nat`: the 64-bit
wrap-around of `1<<k` for `k ≥ 64` is NOT modelled.  It matters only outside `1 ≤ i < 2^32-1`:

* `lubyGo_eq_spec` : for `1 ≤ i < 2^32 - 1` the Go recursion terminates (fuel `i` suffices) and
  returns the standard Luby value `lubySpec i` (1,1,2,1,1,2,4,…), which `lubySpec_pow`,
  `lubySpec_rec` and `lubySpec_unique` pin down as THE function with
  `luby (2^k - 1) = 2^(k-1)` and `luby i = luby (i - 2^(k-1) + 1)` for `2^(k-1) ≤ i < 2^k - 1`.
* the hypothesis `i < 2^32 - 1` is forced: the first loop stops at `k = 31`, so at `i = 2^32 - 1`
  no `k` satisfies the test of the second loop (`secondLoop_none_at_pow`, `lubyGo_none_at_pow`): on `Nat` the loop is
  endless.  The real code (run through `VerifLuby`) is saved by the wrap-around `1<<64 = 0` at
  `k = 65` and answers `luby(2^32-1) = 1` instead of `2^31`; `luby(0)` answers 1 the same way (65
  iterations, not endless); `luby(2^64-1)` IS an endless loop.  None is reachable: the call sites
  are `luby(1)` and `luby(uint(NbRestarts)+2)` (solver.go:116, 457), `NbRestarts ≥ 0`, and 2^32
  restarts × 512 conflicts are out of reach.
-/
namespace GS.Luby

/-- first loop: `k, k+1, …` for `n` iterations (called with `k = 1`, `n = 31`) -/
def firstLoop (i : Nat) : Nat → Nat → Option Nat
  | _, 0 => none
  | k, n + 1 => if i = 2 ^ k - 1 then some (2 ^ (k - 1)) else firstLoop i (k + 1) n

/-- second loop: the first `k' ≥ k` with `2^(k'-1) ≤ i < 2^k' - 1`, within `f` iterations -/
def secondLoop (i : Nat) : Nat → Nat → Option Nat
  | _, 0 => none
  | k, f + 1 => if 2 ^ (k - 1) ≤ i ∧ i < 2 ^ k - 1 then some k else secondLoop i (k + 1) f

/-- the Go function; `fuel` bounds the recursion depth, `none` = fuel exhausted / endless loop.
`i + 1` iterations lose nothing in the second loop: the `k` it stops at has `k - 1 < 2^(k-1) ≤ i`. -/
def lubyGo : Nat → Nat → Option Nat
  | 0, _ => none
  | fuel + 1, i =>
    match firstLoop i 1 31 with
    | some r => some r
    | none =>
      match secondLoop i 1 (i + 1) with
      | none => none
      | some k => lubyGo fuel (i - 2 ^ (k - 1) + 1)

/-- the mirror with the fuel that `lubyGo_eq_spec` proves sufficient -/
def luby (i : Nat) : Option Nat := lubyGo i i

/-- the standard Luby sequence (for `i ≥ 1`; `0 ↦ 0` is a junk value) -/
def lubySpec (i : Nat) : Nat :=
  if i = 0 then 0
  else if i + 1 = 2 ^ (i + 1).log2 then 2 ^ ((i + 1).log2 - 1)
  else lubySpec (i + 1 - 2 ^ (i + 1).log2)
termination_by i
decreasing_by
  rename_i h0 _
  have h2 : 2 ^ 1 ≤ i + 1 := by omega
  have h1 : 1 ≤ (i + 1).log2 := (Nat.le_log2 (by omega)).2 h2
  have : 2 ^ 1 ≤ 2 ^ (i + 1).log2 := Nat.pow_le_pow_right (by decide) h1
  have := Nat.log2_self_le (n := i + 1) (by omega)
  omega

/-- `k ≥ 1`, as the proofs use it, for a block that holds some `i` below its end `2^k - 1` -/
theorem two_pow_pred {i k : Nat} (h : i < 2 ^ k - 1) : 2 ^ k = 2 * 2 ^ (k - 1) := by
  cases k with
  | zero => simp at h
  | succ k => exact Nat.pow_succ'

theorem lubySpec_block {i k : Nat} (h1 : 2 ^ k ≤ i + 1) (h2 : i + 1 < 2 * 2 ^ k) (hi : i ≠ 0) :
    lubySpec i = if i + 1 = 2 ^ k then 2 ^ (k - 1) else lubySpec (i + 1 - 2 ^ k) := by
  have a := (Nat.le_log2 (Nat.add_one_ne_zero i)).2 h1
  have b := (Nat.log2_lt (Nat.add_one_ne_zero i) (k := k + 1)).2 (Nat.pow_succ' ▸ h2)
  rw [lubySpec, if_neg hi, show (i + 1).log2 = k by omega]

theorem block_cases (i : Nat) (hi : 1 ≤ i) :
    (∃ k, 1 ≤ k ∧ i = 2 ^ k - 1) ∨ (∃ k, 1 ≤ k ∧ 2 ^ (k - 1) ≤ i ∧ i < 2 ^ k - 1) := by
  have h1 := Nat.log2_self_le (n := i + 1) (by omega)
  have h2 := Nat.lt_log2_self (n := i + 1)
  have hk : 1 ≤ (i + 1).log2 := (Nat.le_log2 (by omega)).2 (by omega : 2 ^ 1 ≤ i + 1)
  by_cases he : i + 1 = 2 ^ (i + 1).log2
  · exact .inl ⟨_, hk, by omega⟩
  · exact .inr ⟨(i + 1).log2 + 1, by omega, by rw [Nat.add_sub_cancel]; omega, by omega⟩

theorem lubySpec_pow (k : Nat) (hk : 1 ≤ k) : lubySpec (2 ^ k - 1) = 2 ^ (k - 1) := by
  have h2 : 2 ^ 1 ≤ 2 ^ k := Nat.pow_le_pow_right (by decide) hk
  rw [lubySpec_block (k := k) (by omega) (by omega) (by omega), if_pos (by omega)]

theorem lubySpec_rec (i k : Nat) (h1 : 2 ^ (k - 1) ≤ i) (h2 : i < 2 ^ k - 1) :
    lubySpec i = lubySpec (i - 2 ^ (k - 1) + 1) := by
  have hs := two_pow_pred h2
  rw [lubySpec_block (k := k - 1) (by omega) (by omega) (by omega), if_neg (by omega)]
  congr 1; omega

theorem lubySpec_unique (f : Nat → Nat)
    (hpow : ∀ k, 1 ≤ k → f (2 ^ k - 1) = 2 ^ (k - 1))
    (hrec : ∀ i k, 2 ^ (k - 1) ≤ i → i < 2 ^ k - 1 → f i = f (i - 2 ^ (k - 1) + 1)) :
    ∀ i, 1 ≤ i → f i = lubySpec i := by
  intro i
  induction i using Nat.strongRecOn with
  | _ i ih =>
    intro hi
    rcases block_cases i hi with ⟨k, hk, e⟩ | ⟨k, _, h1, h2⟩
    · rw [e, hpow _ hk, lubySpec_pow _ hk]
    · have hs := two_pow_pred h2
      rw [hrec i k h1 h2, lubySpec_rec i k h1 h2]
      exact ih _ (by omega) (by omega)

theorem firstLoop_some {i k n r : Nat} (h : firstLoop i k n = some r) :
    ∃ j, k ≤ j ∧ j < k + n ∧ i = 2 ^ j - 1 ∧ r = 2 ^ (j - 1) := by
  fun_induction firstLoop i k n with
  | case1 => contradiction
  | case2 k n he => exact ⟨k, Nat.le_refl _, by omega, he, (Option.some.inj h).symm⟩
  | case3 k n _ ih =>
    obtain ⟨j, a, b, c, d⟩ := ih h
    exact ⟨j, by omega, by omega, c, d⟩

theorem firstLoop_none {i k n : Nat} (h : firstLoop i k n = none) {j : Nat} (a : k ≤ j) (b : j < k + n) :
    i ≠ 2 ^ j - 1 := by
  fun_induction firstLoop i k n with
  | case1 => omega
  | case2 => contradiction
  | case3 k n hne ih =>
    by_cases e : j = k
    · exact e ▸ hne
    · exact ih h (by omega) (by omega)

theorem secondLoop_some {i k f j : Nat} (h : secondLoop i k f = some j) :
    2 ^ (j - 1) ≤ i ∧ i < 2 ^ j - 1 := by
  fun_induction secondLoop i k f with
  | case1 => contradiction
  | case2 k f hc => cases h; exact hc
  | case3 k f _ ih => exact ih h

theorem secondLoop_finds {i k f j : Nat} (a : k ≤ j) (b : j < k + f) (c : 2 ^ (j - 1) ≤ i) (d : i < 2 ^ j - 1) :
    secondLoop i k f ≠ none := by
  fun_induction secondLoop i k f with
  | case1 => omega
  | case2 => exact Option.some_ne_none _
  | case3 k f hne ih =>
    by_cases e : j = k
    · exact absurd ⟨c, d⟩ (e ▸ hne)
    · exact ih (by omega) (by omega)

/-- at `i = 2^k - 1` no `k'` passes the test of the second loop, whatever the number of iterations:
if the first loop missed it (`k ≥ 32`) the loop is endless on `Nat` -/
theorem secondLoop_none_at_pow (k f k0 : Nat) : secondLoop (2 ^ k - 1) k0 f = none :=
  Option.eq_none_iff_forall_ne_some.mpr fun j h => by
    obtain ⟨h1, h2⟩ := secondLoop_some h
    have hp := Nat.one_le_two_pow (n := k)
    -- 2^(j-1) ≤ 2^k - 1 < 2^j - 1  gives  j-1 < k < j
    have a := (Nat.pow_lt_pow_iff_right (by decide : 1 < 2)).1 (by omega : 2 ^ (j - 1) < 2 ^ k)
    have b := (Nat.pow_lt_pow_iff_right (by decide : 1 < 2)).1 (by omega : 2 ^ k < 2 ^ j)
    omega

theorem lubyGo_eq_spec : ∀ i fuel, 1 ≤ i → i < 2 ^ 32 - 1 → i ≤ fuel → lubyGo fuel i = some (lubySpec i) := by
  intro i
  induction i using Nat.strongRecOn with
  | _ i ih =>
    intro fuel h1 h2 hf
    cases fuel with
    | zero => omega
    | succ fuel =>
      unfold lubyGo
      cases hfl : firstLoop i 1 31 with
      | some r =>
        obtain ⟨j, a, _, c, d⟩ := firstLoop_some hfl
        simp only [c, d, lubySpec_pow j a]
      | none =>
        rcases block_cases i h1 with ⟨k, hk, e⟩ | ⟨k, hk, b1, b2⟩
        · -- `i = 2^k - 1 < 2^32 - 1` would have been found by the first loop
          have hp := Nat.one_le_two_pow (n := k)
          have : k < 32 := (Nat.pow_lt_pow_iff_right (by decide : 1 < 2)).1 (by omega)
          exact absurd e (firstLoop_none hfl hk (by omega))
        · have hself : k - 1 < 2 ^ (k - 1) := Nat.lt_two_pow_self
          cases hsl : secondLoop i 1 (i + 1) with
          | none => exact absurd hsl (secondLoop_finds hk (by omega) b1 b2)
          | some k' =>
            obtain ⟨b, c⟩ := secondLoop_some hsl
            have hs := two_pow_pred c
            simp only
            rw [lubySpec_rec i k' b c]
            exact ih _ (by omega) _ (by omega) (by omega) (by omega)

theorem luby_eq_spec (i : Nat) (h1 : 1 ≤ i) (h2 : i < 2 ^ 32 - 1) : luby i = some (lubySpec i) :=
  lubyGo_eq_spec i i h1 h2 (Nat.le_refl _)

theorem lubyGo_none {i : Nat} (h1 : firstLoop i 1 31 = none) (h2 : secondLoop i 1 (i + 1) = none)
    (fuel : Nat) : lubyGo fuel i = none := by
  cases fuel with
  | zero => rfl
  | succ fuel => unfold lubyGo; rw [h1]; simp only; rw [h2]

/-- the forced hypothesis: at `i = 2^k - 1`, `k ≥ 32` (first: `2^32 - 1`) the first loop misses the
value and the (unwrapped) recursion does not answer, whatever the fuel -/
theorem lubyGo_none_at_pow (k : Nat) (hk : 32 ≤ k) (fuel : Nat) : lubyGo fuel (2 ^ k - 1) = none := by
  refine lubyGo_none (Option.eq_none_iff_forall_ne_some.mpr fun r h => ?_) (secondLoop_none_at_pow k _ 1) fuel
  obtain ⟨j, _, b, c, _⟩ := firstLoop_some h
  have := Nat.one_le_two_pow (n := k); have := Nat.one_le_two_pow (n := j)
  have : 2 ^ j < 2 ^ k := Nat.pow_lt_pow_right (by decide) (by omega)
  omega

/-- `luby 0` on `Nat`: no answer either (the real code answers 1 through the wrap-around at `k = 65`) -/
theorem lubyGo_zero (fuel : Nat) : lubyGo fuel 0 = none :=
  lubyGo_none (by decide) (by decide) fuel

/-! non-vacuity: the first 15 terms, through the mirror -/
example : (List.range 15).map (fun i => luby (i + 1)) =
    [1, 1, 2, 1, 1, 2, 4, 1, 1, 2, 1, 1, 2, 4, 8].map some := by decide +kernel
example : lubySpec (2 ^ 3 - 1) = 4 := lubySpec_pow 3 (by decide)
example : (1 : Nat) ≤ 100000 ∧ 100000 < 2 ^ 32 - 1 := by decide

end GS.Luby
