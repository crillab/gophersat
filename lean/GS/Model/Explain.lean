import GS.Check.Rup
/-!
# GS.Model.Explain — line-by-line mirror of the certificate checker of package `explain`

Mirrors `/repo/explain/problem.go` (`Problem`, `initTagged`, `restore`, `(*Problem).unsat`),
`/repo/explain/check.go` (`unsat(pb, clause)`, `(*Problem).Unsat`, `(*Problem).UnsatChan`, the
extraction loop at the end of `UnsatSubset`) and the part of `/repo/explain/parser.go`
(`addClause`) that initialises `units`.

Conventions.
* `Pb.units : Array Int` is the Go slice `units` (`units.size = NbVars`), read through
  `GS.bind` (`units[v-1]`, out of range = 0) and written through `GS.setLit`
  (`Array.setIfInBounds`).  The Go code indexes `units[v-1]` without a bound check, so it
  **panics** on a literal 0 or a literal whose variable exceeds `NbVars` as soon as that
  literal is reached; the model is total and coincides with the Go code on
  literal-well-formed input (`GS.cnfWf units.size`).  `inputWf` is the executable test; the
  driver ops answer `illformed` when it fails.
* `Pb.tagged : List Bool` is the Go slice `tagged` (`make([]bool, NbClauses)`).
* certificate lines are already parsed clauses (`parseClause` drops the `0`s, lines that do
  not start with an integer are skipped before this point, a later unparsable field is an
  error return).
* the Go problem invariant `NbClauses = len(Clauses)` between calls is *not* built in:
  it is the explicit hypothesis `Pb.Ok` of the theorems (ParseCNF trusts the header).

Core-only (no Mathlib / Batteries).
-/
namespace GS.Explain
open GS

/-- `explain.Problem` (fields `NbVars = units.size`, `Options` omitted). -/
structure Pb where
  clauses : List (List Int)
  nbClauses : Nat
  units : Array Int
  tagged : List Bool
deriving Repr

/-! ### parser.go : initialisation of `units` -/

/-- `addClause`: a unit clause binds its variable; a later unit clause on the same variable
    overwrites. (The parser returns an error for a unit clause with `v > NbVars`; here
    `setIfInBounds` leaves the array unchanged in that case.) -/
def addUnit (u : Array Int) (c : List Int) : Array Int :=
  match c with
  | [l] => setLit u l
  | _ => u

/-- `units` after `parseHeader` (`make([]int, NbVars)`) and one `addClause` per clause. -/
def initUnits (nbVars : Nat) (cs : List (List Int)) : Array Int :=
  cs.foldl addUnit (Array.replicate nbVars 0)

/-- The problem as `ParseCNF` builds it from a header `p cnf nbVars len(cs)`. -/
def mkPb (nbVars : Nat) (cs : List (List Int)) : Pb :=
  { clauses := cs, nbClauses := cs.length, units := initUnits nbVars cs, tagged := [] }

/-! ### problem.go -/

/-- `initTagged`: `tagged = make([]bool, NbClauses)`; `tagged[i] = len(Clauses[i]) == 1`.
    (Go panics when `len(Clauses) > NbClauses`; here the extra clauses are ignored.) -/
def initTagged (pb : Pb) : Pb :=
  { pb with tagged := (List.range pb.nbClauses).map fun i =>
      match pb.clauses[i]? with
      | some c => c.length == 1
      | none => false }

/-- `restore`: `pb.Clauses = pb.Clauses[:pb.NbClauses]` -/
def restore (pb : Pb) : Pb := { pb with clauses := pb.clauses.take pb.nbClauses }

/-- The inner `for _, lit := range clause` loop of `(*Problem).unsat`.
    `unb` is the counter `unbound` (0 or 1 while the loop runs), `ul` the variable `unit`.
    * `binding == 0`:
      `if unbound == 1 && lit == unit { continue }` — the first unbound literal again: skipped;
      otherwise `unbound++`; first one is remembered, second one `break`s (`.many`);
    * `binding*lit == v`: `sat = true; break`;
    * end of clause: `unbound == 0` is a conflict, `unbound == 1` a unit.
    Only a repetition of the *first* unbound literal is skipped (`1 2 1` with 1 and 2 unbound
    breaks at `2`).  From the start state `unb = 0` this is `GS.scan` (`scanGo_eq_scan` in
    `GS/Props/C08_Explain.lean`); the two differ only in states `unb ≥ 2`, which the loop never
    reaches (it `break`s when `unbound` becomes 2). -/
def scanGo (u : Array Int) : List Int → Nat → Int → Scan
  | [], 0, _ => .conflict
  | [], _+1, ul => .unit ul
  | l :: rest, unb, ul =>
    let b := bind u l.natAbs
    if b = 0 then
      if unb = 1 ∧ l = ul then scanGo u rest unb ul             -- `continue`
      else if unb = 0 then scanGo u rest 1 l else .many         -- `unbound++`; remember / `break`
    else if b * l = (l.natAbs : Int) then .sat
    else scanGo u rest unb ul

/-- `if i < pb.NbClauses { pb.tagged[i] = true }` -/
def tag (nbC i : Nat) (tg : List Bool) : List Bool := if i < nbC then tg.set i true else tg

/-- state at the end of one `for i, clause := range pb.Clauses` loop -/
structure PassRes where
  conflict : Bool      -- `return true` was executed
  units : Array Int
  done : Array Bool
  tagged : List Bool
  modified : Bool

/-- One execution of `for i, clause := range pb.Clauses { … }`, from clause index `i`. -/
def pass (nbC : Nat) : List (List Int) → Nat → Array Int → Array Bool → List Bool → Bool → PassRes
  | [], _, u, d, tg, m => ⟨false, u, d, tg, m⟩
  | c :: cs, i, u, d, tg, m =>
    if (d[i]?).getD false then pass nbC cs (i+1) u d tg m             -- `if done[i] { continue }`
    else match scanGo u c 0 0 with
      | .sat => pass nbC cs (i+1) u (d.setIfInBounds i true) tg m     -- `done[i] = true; continue`
      | .conflict => ⟨true, u, d, tag nbC i tg, m⟩                    -- tag; `return true`
      | .unit l =>                                                    -- bind, done, tag, modified
        pass nbC cs (i+1) (setLit u l) (d.setIfInBounds i true) (tag nbC i tg) true
      | .many => pass nbC cs (i+1) u d tg m

/-- `for modified { modified = false; for … }`; result `(conflict?, units, tagged, outOfFuel?)`.
    The last component is `true` only when the fuel ran out (never with fuel `≥ units.size + 1`,
    see `GS.Explain.loop_ok`). -/
def loop (nbC : Nat) (cs : List (List Int)) :
    Nat → Array Int → Array Bool → List Bool → Bool × Array Int × List Bool × Bool
  | 0, u, _, tg => (false, u, tg, true)
  | fuel+1, u, d, tg =>
    let r := pass nbC cs 0 u d tg false
    if r.conflict then (true, r.units, r.tagged, false)
    else if r.modified then loop nbC cs fuel r.units r.done r.tagged
    else (false, r.units, r.tagged, false)

/-- `(*Problem).unsat()`: `(result, new units, new tagged)`.
    `done := make([]bool, len(pb.Clauses))`; fuel = number of variables + 2 passes. -/
def propagate (pb : Pb) : Bool × Array Int × List Bool :=
  let r := loop pb.nbClauses pb.clauses (pb.units.size + 2) pb.units
    (Array.replicate pb.clauses.length false) pb.tagged
  (r.1, r.2.1, r.2.2.1)

/-! ### check.go -/

/-- `for _, lit := range clause { if lit > 0 { units[lit-1] = -1 } else { units[-lit-1] = 1 } }`
    — written OVER the existing bindings. -/
def installNeg (u : Array Int) : List Int → Array Int
  | [] => u
  | l :: rest => installNeg (setLit u (-l)) rest

/-- `unsat(pb, clause)`: result and the problem afterwards (`units` restored from `oldUnits`,
    `tagged` keeps what the propagation tagged). -/
def checkLine (pb : Pb) (c : List Int) : Bool × Pb :=
  let r := propagate { pb with units := installNeg pb.units c }
  (r.1, { pb with tagged := r.2.2 })

/-- result of a run of `Unsat` / `UnsatChan`: the returned `valid`, the index of the line at
    which the loop returned (`-1`: the loop ran to its end), the problem before `restore`. -/
structure Run where
  valid : Bool
  stopped : Int
  pb : Pb

/-- the `for sc.Scan()` loop of `Unsat`; `i` = index of the current line -/
def allLoop (pb : Pb) : List (List Int) → Nat → Run
  | [], _ => ⟨true, -1, pb⟩
  | c :: rest, i =>
    let r := checkLine pb c
    if !r.1 then ⟨false, i, r.2⟩                                   -- `return false, nil`
    else allLoop { r.2 with clauses := r.2.clauses ++ [c] } rest (i+1)  -- append, next line

/-- the `for line := range ch` loop of `UnsatChan` -/
def chanLoop (pb : Pb) : List (List Int) → Nat → Run
  | [], _ => ⟨true, -1, pb⟩
  | c :: rest, i =>
    let r := checkLine pb c
    if !r.1 then ⟨false, i, r.2⟩
    else if c.isEmpty then ⟨true, i, r.2⟩                          -- `return true, nil`
    else chanLoop { r.2 with clauses := r.2.clauses ++ [c] } rest (i+1)

/-- `(*Problem).Unsat`: `initTagged`, loop, deferred `restore`. -/
def runAll (pb : Pb) (lines : List (List Int)) : Run :=
  let r := allLoop (initTagged pb) lines 0
  { r with pb := restore r.pb }

/-- `(*Problem).UnsatChan` -/
def runChan (pb : Pb) (lines : List (List Int)) : Run :=
  let r := chanLoop (initTagged pb) lines 0
  { r with pb := restore r.pb }

def checkAll (pb : Pb) (lines : List (List Int)) : Bool := (runAll pb lines).valid
def checkChan (pb : Pb) (lines : List (List Int)) : Bool := (runChan pb lines).valid

/-- a certificate as `UnsatChan` sees it: nothing after the first empty clause is read -/
def cutAtEmpty : List (List Int) → List (List Int)
  | [] => []
  | c :: rest => if c.isEmpty then [c] else c :: cutAtEmpty rest

/-- the extraction loop of `UnsatSubset`: `for i, clause := range pb.Clauses { if pb.tagged[i] … }` -/
def subsetOf : List (List Int) → List Bool → List (List Int)
  | c :: cs, t :: ts => if t then c :: subsetOf cs ts else subsetOf cs ts
  | _, _ => []

/-- indices of the tagged clauses -/
def taggedIdx : List Bool → Nat → List Nat
  | [], _ => []
  | t :: ts, i => if t then i :: taggedIdx ts (i+1) else taggedIdx ts (i+1)

/-- executable well-formedness test: the Go code does not panic on such input -/
def inputWf (nbVars : Nat) (cs lines : List (List Int)) : Bool := cnfWf nbVars cs && cnfWf nbVars lines

end GS.Explain
