import GS.Spec.Basic
/-!
# GS.Model.PbProp — propagation of ONE cardinality / pseudo-boolean constraint (`/repo/solver/watcher.go`)

Line-by-line mirror, on a single constraint, of `watchPB`, `watchCardAMO`, the cardinality branch of
`watchClause`, `simplifyCardConstr`, `simplifyCardAMOConstr`, `swapFalse`, `slackSum`, `propagateAll`,
`simplifyPseudoBool`, `updateWatchPB`, `removeFrom`, `propagateUnit`.

* A constraint is `Clause{lits, lbdValue = card-1, pbData{weights, watched}}`, read `Σ wᵢ·[litᵢ] ≥ card`.
  Here: `lits : List Int` (DIMACS), `weights : List Int`, `card : Int`, `watched : List Bool`.
* The assignment is `s.model`: per variable a signed decision level, `0` = unbound; here `Nat → Int`
  indexed by the DIMACS variable number (`s.model[lit.Var()]` is `m lit.natAbs`).
* `propagateUnit(c, lvl, unit)` binds `unit` at `lvl` and pushes it on the trail: the literals handed to it
  are collected in order in `St.props` and the binding is seen by the rest of the function (`bind`).
* The watch lists: `wlistPb[lit.Negation()]` is edited by `append` / `removeFrom`; an edit is recorded as
  `(true, lit)` (append to the list of `lit.Negation()`) or `(false, lit)` (removeFrom it) in `St.edits`.
  `St.watched` is, position by position, "the constraint is a member of `wlistPb[lits[i].Negation()]`".
  For a pseudo-boolean constraint that is exactly `pbData.watched` (every write of a flag in
  `watchPB` / `updateWatchPB` / `unwatchPB` is paired with the list edit: *consistency* of flags and
  lists is assumed here, it is what makes `removeFrom` safe in `updateWatchPB`); a cardinality
  constraint (`pbData == nil`) has no flags, `watched` is then only the membership and follows the
  literal when `swapFalse` swaps two positions.
* Go panics (index out of range, `removeFrom` on a list that does not hold the constraint) are `Res.panic`;
  running out of fuel is `Res.fuel` (excluded, with the fuel the top-level functions pass, under the
  hypotheses of `card_no_panic` / `pb_no_panic` in `GS.Props.C02_PbProp`; at level `0` the
  `for foundUnit` loop does not end and the mirror runs out of fuel: `pb_loops_at_level_zero`).

Note on `watchClause`: the test that selects `watchCardAMO` is `card == c.Len()+1` (as written in the
code; the comment of `wlistCardAMO` says `card = length - 1`).  `NewCardClause` refuses `card > len`,
so no constraint ever enters `wlistCardAMO` and `simplifyCardAMOConstr` is never dispatched by
`propagate`; an at-most-one shaped constraint (`card = len-1`) lives in `wlistPb` and is handled by
`simplifyCardConstr`.  `simplifyCardAMOConstr` is mirrored all the same (`simplifyCardAMO`).
Core-only.
-/
namespace GS.PbProp
open GS

/-- Result of a mirrored Go function: value, Go panic, or fuel exhausted. -/
inductive Res (α : Type) where
  | ok (a : α)
  | panic
  | fuel
deriving Repr, DecidableEq

def Res.bind {α β : Type} : Res α → (α → Res β) → Res β
  | .ok a, f => f a
  | .panic, _ => .panic
  | .fuel, _ => .fuel

instance : Monad Res where
  pure := Res.ok
  bind := Res.bind

@[simp] theorem Res.bind_ok {α β : Type} (a : α) (f : α → Res β) : (Res.ok a >>= f) = f a := rfl
@[simp] theorem Res.bind_panic {α β : Type} (f : α → Res β) : ((Res.panic : Res α) >>= f) = .panic := rfl
@[simp] theorem Res.bind_fuel {α β : Type} (f : α → Res β) : ((Res.fuel : Res α) >>= f) = .fuel := rfl
@[simp] theorem Res.pure_eq {α : Type} (a : α) : (pure a : Res α) = .ok a := rfl

/-- `Indet` / `Sat` / `Unsat` of `litStatus`. -/
inductive Status where
  | indet | sat | unsat
deriving Repr, DecidableEq

/-- `s.litStatus(l)`. -/
def litStatus (m : Nat → Int) (l : Int) : Status :=
  if m l.natAbs = 0 then .indet
  else if decide (m l.natAbs > 0) = decide (l > 0) then .sat else .unsat

/-- `lvlToSignedLvl(l, lvl)`. -/
def signedLvl (l lvl : Int) : Int := if l > 0 then lvl else -lvl

/-- `s.model[unit.Var()] = lvlToSignedLvl(unit, lvl)`. -/
def bind (m : Nat → Int) (l lvl : Int) : Nat → Int :=
  fun v => if v = l.natAbs then signedLvl l lvl else m v

/-- The part of the solver one call touches. -/
structure St where
  m : Nat → Int
  lits : List Int
  weights : List Int
  watched : List Bool
  props : List Int
  edits : List (Bool × Int)

/-- `propagateUnit(c, lvl, unit)`. -/
def propagateUnit (st : St) (lvl l : Int) : St :=
  { st with m := bind st.m l lvl, props := st.props ++ [l] }

/-- `clause.swap(i, j)` on one slice. -/
def swapL {α : Type} (xs : List α) (i j : Nat) : List α :=
  match xs[i]?, xs[j]? with
  | some a, some b => (xs.set i b).set j a
  | _, _ => xs

/-! ## Initial watches -/

/-- `watchPB`: returns the flags and the appends, in order. -/
def watchPBLoop (goal : Int) : List Int → List Int → Int → Res (List Bool × List (Bool × Int))
  | [], _, _ => .ok ([], [])
  | l :: ls, ws, sum =>
    if sum < goal then
      match ws with
      | [] => .panic -- `c.Weight(i)`
      | w :: ws' => do
        let (fl, ed) ← watchPBLoop goal ls ws' (sum + w)
        pure (true :: fl, (true, l) :: ed)
    else .ok ((l :: ls).map (fun _ => false), [])

def watchPB (lits weights : List Int) (card : Int) : Res (List Bool × List (Bool × Int)) :=
  match weights with
  | [] => .panic -- `c.Weight(0)`
  | w0 :: _ => watchPBLoop (w0 + card) lits weights 0

/-- `for i := 0; i < n; i++ { lit := c.Get(i); append }` of `watchClause` (cardinality branch, `n = card+1`)
    and of `watchCardAMO`. -/
def watchFirst (lits : List Int) : Nat → Nat → Res (List (Bool × Int))
  | 0, _ => .ok []
  | n + 1, i =>
    match lits[i]? with
    | none => .panic
    | some l => do
      let ed ← watchFirst lits n (i + 1)
      pure ((true, l) :: ed)

/-- Which list `watchClause` puts a cardinality constraint (`card > 1`, no `pbData`) in:
    `true` = `wlistCardAMO` (test as written: `card == c.Len()+1`), `false` = `wlistPb`. -/
def watchCardIsAMO (lits : List Int) (card : Int) : Bool := decide (card = (lits.length : Int) + 1)

/-! ## simplifyCardConstr -/

inductive CountRes where
  | sat
  | confl
  | fin (nbTrue nbFalse nbUnb : Int)
deriving Repr, DecidableEq

/-- The counting loop of `simplifyCardConstr` from position `i` on (`ls` = the literals not yet seen). -/
def countLoop (m : Nat → Int) (len card : Int) : List Int → Int → Int → Int → CountRes
  | [], t, f, u => .fin t f u
  | l :: ls, t, f, u =>
    match litStatus m l with
    | .indet =>
      if (u + 1) + t > card then .fin t f (u + 1) else countLoop m len card ls t f (u + 1)
    | .sat =>
      if t + 1 = card then .sat
      else if u + (t + 1) > card then .fin (t + 1) f u else countLoop m len card ls (t + 1) f u
    | .unsat =>
      if len - (f + 1) < card then .confl
      else if u + t > card then .fin t (f + 1) u else countLoop m len card ls t (f + 1) u

/-- `i := 0; for nbUnb > 0 { lit := clause.Get(i); if s.model[lit.Var()] == 0 { propagateUnit; nbUnb-- } else { i++ } }`. -/
def cardPropLoop (lvl : Int) : Nat → St → Nat → Int → Res St
  | fuel, st, i, nbUnb =>
    if nbUnb > 0 then
      match fuel with
      | 0 => .fuel
      | fuel + 1 =>
        match st.lits[i]? with
        | none => .panic
        | some lit =>
          if st.m lit.natAbs = 0 then cardPropLoop lvl fuel (propagateUnit st lvl lit) i (nbUnb - 1)
          else cardPropLoop lvl fuel st (i + 1) nbUnb
    else .ok st

/-- First inner loop of `swapFalse`: `lit := Get(i); for status(lit) != Unsat { i++; if i == card+1 { return }; lit = Get(i) }`.
    `none` = the function returned. -/
def skipNonFalse (m : Nat → Int) (lits : List Int) (card1 : Int) : Nat → Nat → Res (Option Nat)
  | fuel, i =>
    match lits[i]? with
    | none => .panic
    | some lit =>
      if litStatus m lit ≠ .unsat then
        if ((i : Int) + 1) = card1 then .ok none
        else match fuel with
          | 0 => .fuel
          | fuel + 1 => skipNonFalse m lits card1 fuel (i + 1)
      else .ok (some i)

/-- Second inner loop: `lit = Get(j); for status(lit) == Unsat { j++; lit = Get(j) }`. -/
def skipFalse (m : Nat → Int) (lits : List Int) : Nat → Nat → Res Nat
  | fuel, j =>
    match lits[j]? with
    | none => .panic
    | some lit =>
      if litStatus m lit = .unsat then
        match fuel with
        | 0 => .fuel
        | fuel + 1 => skipFalse m lits fuel (j + 1)
      else .ok j

/-- Body of the outer loop of `swapFalse` once `i` and `j` are found: `clause.swap(i, j)`,
    `removeFrom(wlistPb[¬lit_i])` (panics when the constraint is not in it), `append(wlistPb[¬lit_j])`. -/
def swapStep (st : St) (i j : Nat) : Res St :=
  match st.lits[i]?, st.lits[j]? with
  | some li, some lj =>
    if st.watched[i]? = some true then
      .ok { st with
        lits := swapL st.lits i j
        weights := swapL st.weights i j
        watched := (st.watched.set i true).set j false
        edits := st.edits ++ [(false, li), (true, lj)] }
    else .panic
  | _, _ => .panic

/-- Outer loop of `swapFalse`. -/
def swapFalseLoop (card1 : Int) : Nat → St → Nat → Nat → Res St
  | fuel, st, i, j =>
    if (i : Int) < card1 then
      match fuel with
      | 0 => .fuel
      | fuel + 1 =>
        match skipNonFalse st.m st.lits card1 st.lits.length i with
        | .ok none => .ok st
        | .ok (some i') =>
          match skipFalse st.m st.lits st.lits.length j with
          | .ok j' =>
            match swapStep st i' j' with
            | .ok st' => swapFalseLoop card1 fuel st' (i' + 1) (j' + 1)
            | .panic => .panic
            | .fuel => .fuel
          | .panic => .panic
          | .fuel => .fuel
        | .panic => .panic
        | .fuel => .fuel
    else .ok st

/-- `swapFalse(clause)`. -/
def swapFalse (card : Int) (st : St) : Res St :=
  swapFalseLoop (card + 1) (st.lits.length + 1) st 0 (card + 1).toNat

/-- `simplifyCardConstr(clause, lvl)`: the Boolean returned (`false` = conflict) and the state after. -/
def simplifyCard (lvl card : Int) (st : St) : Res (Bool × St) :=
  match countLoop st.m st.lits.length card st.lits 0 0 0 with
  | .sat => .ok (true, st)
  | .confl => .ok (false, st)
  | .fin t _ u =>
    if u + t = card then do
      let st' ← cardPropLoop lvl (u.toNat + st.lits.length + 1) st 0 u
      pure (true, st')
    else do
      let st' ← swapFalse card st
      pure (true, st')

/-! ## simplifyCardAMOConstr -/

/-- First loop: `false` when a second false literal is met. -/
def amoScan (m : Nat → Int) (lits : List Int) : Nat → Nat → Bool → Res Bool
  | 0, _, _ => .ok true
  | n + 1, i, ff =>
    match lits[i]? with
    | none => .panic
    | some l =>
      if litStatus m l = .unsat then
        if ff then .ok false else amoScan m lits n (i + 1) true
      else amoScan m lits n (i + 1) ff

/-- Second loop: every unbound literal among the first `card+1` is propagated. -/
def amoProp (lvl : Int) : Nat → Nat → St → Res St
  | 0, _, st => .ok st
  | n + 1, i, st =>
    match st.lits[i]? with
    | none => .panic
    | some l =>
      if st.m l.natAbs = 0 then amoProp lvl n (i + 1) (propagateUnit st lvl l)
      else amoProp lvl n (i + 1) st

/-- `simplifyCardAMOConstr(clause, lvl)` (`length := card + 1`). -/
def simplifyCardAMO (lvl card : Int) (st : St) : Res (Bool × St) :=
  match amoScan st.m st.lits (card + 1).toNat 0 false with
  | .ok false => .ok (false, st)
  | .ok true => do
    let st' ← amoProp lvl (card + 1).toNat 0 st
    pure (true, st')
  | .panic => .panic
  | .fuel => .fuel

/-! ## simplifyPseudoBool -/

/-- `slackSum(c)`: `for i, w := range c.pbData.weights { status := litStatus(c.Get(i)) … }`. -/
def slackLoop (m : Nat → Int) (card : Int) : List Int → List Int → Int → Int → Res (Int × Bool)
  | [], _, slack, _ => .ok (slack, false)
  | _ :: _, [], _, _ => .panic
  | w :: ws, l :: ls, slack, sum =>
    match litStatus m l with
    | .indet => slackLoop m card ws ls (slack + w) sum
    | .sat => if sum + w ≥ card then .ok (slack + w, true) else slackLoop m card ws ls (slack + w) (sum + w)
    | .unsat => slackLoop m card ws ls slack sum

def slackSum (card : Int) (st : St) : Res (Int × Bool) :=
  slackLoop st.m card st.weights st.lits (-card) 0

/-- `propagateAll(c, lvl)` (the literals do not move: iterate over them). -/
def propAllLoop (lvl : Int) : List Int → St → St
  | [], st => st
  | l :: ls, st =>
    if litStatus st.m l = .indet then propAllLoop lvl ls (propagateUnit st lvl l)
    else propAllLoop lvl ls st

def propagateAll (lvl : Int) (st : St) : St := propAllLoop lvl st.lits st

/-- One pass `for i := 0; i < clause.Len(); i++ { if litStatus(lit) == Indet && clause.Weight(i) > slack { propagateUnit; foundUnit = true } }`
    (`ls`, `ws`: the literals / weights from position `i` on). -/
def pbPassLoop (lvl slack : Int) : List Int → List Int → St → Bool → Res (St × Bool)
  | [], _, st, fu => .ok (st, fu)
  | l :: ls, ws, st, fu =>
    if litStatus st.m l = .indet then
      match ws with
      | [] => .panic
      | w :: ws' =>
        if w > slack then pbPassLoop lvl slack ls ws' (propagateUnit st lvl l) true
        else pbPassLoop lvl slack ls ws' st fu
    else pbPassLoop lvl slack ls ws.tail st fu

/-- First loop of `updateWatchPB`: `for weightWatched <= card && i < clause.Len()`. Returns the state and `i`. -/
def uwLoop1 (card : Int) : Nat → St → Nat → Int → Res (St × Nat)
  | fuel, st, i, ww =>
    if ww ≤ card ∧ i < st.lits.length then
      match fuel with
      | 0 => .fuel
      | fuel + 1 =>
        match st.lits[i]? with
        | none => .panic
        | some lit =>
          if litStatus st.m lit = .unsat then
            match st.watched[i]? with
            | none => .panic
            | some true =>
              uwLoop1 card fuel { st with watched := st.watched.set i false, edits := st.edits ++ [(false, lit)] } (i + 1) ww
            | some false => uwLoop1 card fuel st (i + 1) ww
          else
            match st.weights[i]? with
            | none => .panic
            | some w =>
              match st.watched[i]? with
              | none => .panic
              | some false =>
                uwLoop1 card fuel { st with watched := st.watched.set i true, edits := st.edits ++ [(true, lit)] } (i + 1) (ww + w)
              | some true => uwLoop1 card fuel st (i + 1) (ww + w)
    else .ok (st, i)

/-- Second loop of `updateWatchPB`: `for i := i; i < clause.Len(); i++ { if watched[i] { removeFrom; watched[i] = false } }`. -/
def uwLoop2 : Nat → St → Nat → Res St
  | fuel, st, i =>
    if i < st.lits.length then
      match fuel with
      | 0 => .fuel
      | fuel + 1 =>
        match st.watched[i]? with
        | none => .panic
        | some true =>
          match st.lits[i]? with
          | none => .panic
          | some lit =>
            uwLoop2 fuel { st with watched := st.watched.set i false, edits := st.edits ++ [(false, lit)] } (i + 1)
        | some false => uwLoop2 fuel st (i + 1)
    else .ok st

/-- `updateWatchPB(clause)`. -/
def updateWatchPB (card : Int) (st : St) : Res St :=
  match uwLoop1 card st.lits.length st 0 0 with
  | .ok (st', i) => uwLoop2 st.lits.length st' i
  | .panic => .panic
  | .fuel => .fuel

/-- `for foundUnit { … }` of `simplifyPseudoBool`, then `updateWatchPB`. -/
def pbLoop (lvl card : Int) : Nat → St → Res (Bool × St)
  | 0, _ => .fuel
  | fuel + 1, st =>
    match slackSum card st with
    | .ok (slack, sat) =>
      if sat then .ok (true, st)
      else if slack < 0 then .ok (false, st)
      else if slack = 0 then .ok (true, propagateAll lvl st)
      else
        match pbPassLoop lvl slack st.lits st.weights st false with
        | .ok (st', true) => pbLoop lvl card fuel st'
        | .ok (st', false) =>
          match updateWatchPB card st' with
          | .ok st'' => .ok (true, st'')
          | .panic => .panic
          | .fuel => .fuel
        | .panic => .panic
        | .fuel => .fuel
    | .panic => .panic
    | .fuel => .fuel

/-- `simplifyPseudoBool(clause, lvl)`. -/
def simplifyPB (lvl card : Int) (st : St) : Res (Bool × St) :=
  pbLoop lvl card (st.lits.length + 1) st

/-! ## Dispatch of `propagate` -/

inductive Kind where
  | card | amo | pb
deriving Repr, DecidableEq

/-- The call `propagate` makes for a constraint found in `wlistPb[lit]` (`c.PseudoBoolean()` → `pb`, else `card`)
    or in `wlistCardAMO[lit]` (`amo`). -/
def simplify (k : Kind) (lvl card : Int) (st : St) : Res (Bool × St) :=
  match k with
  | .card => simplifyCard lvl card st
  | .amo => simplifyCardAMO lvl card st
  | .pb => simplifyPB lvl card st

def St.init (m : Nat → Int) (lits weights : List Int) (watched : List Bool) : St :=
  ⟨m, lits, weights, watched, [], []⟩

end GS.PbProp
