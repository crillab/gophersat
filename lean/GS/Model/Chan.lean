/-!
# GS.Model.Chan — small-step semantics of Go channels and the gophersat channel protocols

Core-only.  Values carried by channels are abstract identifiers (`Nat`): the i-th result /
model / certificate line.  (In `maxsat.(*Solver).Optimal` the forwarder trims the model before
re-sending it; trimming is a pure per-value function, so the forwarded value is identified with
the received one.)

## Channel semantics (Go memory model / language spec, "Channel types", "Send statements",
"Receive operator", "Close")

A channel has a capacity `cap`, a FIFO buffer `buf` (`buf.length ≤ cap` is an invariant of
every system below) and a `closed` flag.

* buffered send (`sendBuf`): enabled iff the channel is open and `buf.length < cap`; appends.
* **unbuffered send = rendezvous** (`sync`): for `cap = 0` no buffered send is ever enabled
  (`buf.length < 0` is false).  A send completes only together with a receive of another process
  that is *ready* (its next action is a receive on the same channel): both processes advance in
  ONE atomic step, the value goes directly from sender to receiver.  This is the synchronous
  (CSP) reading.  Choice justified: the alternative — a one-slot hand-off buffer plus "sender
  resumes only once the slot was taken" — has exactly one extra intermediate state per send
  ("value deposited, sender still blocked"), in which the only enabled action concerning that
  channel is the matching receive; that state is not observable by any process (the sender is
  blocked, `len(ch)` is 0 for an unbuffered channel), so contracting it gives the same reachable
  observable states and the same deadlocks, while keeping the state space small.
  For `cap > 0` Go may also hand a value directly to a waiting receiver; that is
  indistinguishable from `sendBuf` immediately followed by `recvVal`, so it is not a separate rule.
* send on a closed channel, close of a closed channel, close of a nil (absent) channel:
  the whole program panics — `panic := true`, no further step (`sendClosed`, `closeClosed`, `closeNil`).
  A *blocked* sender also panics when the channel gets closed under it: it is still at its send,
  so `sendClosed` becomes enabled.
* receive: takes the head of the buffer if any (`recvVal`, also on a closed channel: buffered
  values are still delivered after `close`); on an empty closed channel it returns "closed"
  (`recvClosed`); on an empty open channel it blocks (or takes part in a `sync`).
* send / receive on a nil (absent) channel block forever (no rule).

## Processes
Programs are data (`List Instr`); a process is a program plus its local variables
(`hold`: the forwarder's `res` waiting to be re-sent; `got`: log of every value received, in order;
`sawClose`: a receive returned "closed").  `Proc.act` gives the next action of a process,
the scheduler is arbitrary: `LStep` picks any enabled process (any enabled pair for `sync`).
Every step carries the list of events it emits (one event, or `sent; received` for a rendezvous).
-/
namespace GS.Chan

structure Chan where
  cap : Nat
  buf : List Nat
  closed : Bool
deriving DecidableEq, Repr

inductive Instr
  /-- `c <- v` -/
  | send (c : Nat) (v : Nat)
  /-- `<-c` once (value logged in `got`, or `sawClose`) -/
  | recv (c : Nat)
  /-- `close(c)` -/
  | close (c : Nat)
  /-- `for v := range c { log v }` : receive until the channel is seen closed -/
  | range (c : Nat)
  /-- a reader that stops on its own after `k` values (or when it sees the close): `UnsatChan` -/
  | rangeMax (c : Nat) (k : Nat)
  /-- `for res = range src { dst <- res }` -/
  | forward (src dst : Nat)
  /-- `return v` (statically known value) -/
  | ret (v : Option Nat)
  /-- `return res` where `res` is the last value received -/
  | retLast
deriving DecidableEq, Repr

inductive Event
  | sent (c : Nat) (v : Nat)
  | received (c : Nat) (v : Nat)
  | closed (c : Nat)
  /-- a receive on `c` returned "closed" -/
  | sawClosed (c : Nat)
  /-- a `rangeMax` reader stopped reading on its own -/
  | stopped (c : Nat)
  | returned (v : Option Nat)
  | panicked
deriving DecidableEq, Repr

structure Proc where
  code : List Instr
  hold : Option Nat := none
  got : List Nat := []
  sawClose : Bool := false
deriving DecidableEq, Repr

structure State where
  procs : List Proc
  chans : List Chan
  panic : Bool := false
deriving DecidableEq, Repr

/-- Next action of a process, with its continuation(s). -/
inductive Act
  | idle
  | tau (e : Event) (p' : Proc)
  | send (c : Nat) (v : Nat) (p' : Proc)
  | recv (c : Nat) (onVal : Nat → Proc) (onClosed : Proc)
  | close (c : Nat) (p' : Proc)

def Proc.act (p : Proc) : Act :=
  match p.code with
  | [] => .idle
  | .send c v :: rest => .send c v { p with code := rest }
  | .recv c :: rest =>
      .recv c (fun v => { p with code := rest, got := p.got ++ [v] })
              { p with code := rest, sawClose := true }
  | .range c :: rest =>
      .recv c (fun v => { p with got := p.got ++ [v] })
              { p with code := rest, sawClose := true }
  | .rangeMax c 0 :: rest => .tau (.stopped c) { p with code := rest }
  | .rangeMax c (k+1) :: rest =>
      .recv c (fun v => { p with code := .rangeMax c k :: rest, got := p.got ++ [v] })
              { p with code := rest, sawClose := true }
  | .forward src dst :: rest =>
      match p.hold with
      | some v => .send dst v { p with hold := none }
      | none =>
        .recv src (fun v => { p with hold := some v, got := p.got ++ [v] })
                  { p with code := rest, sawClose := true }
  | .close c :: rest => .close c { p with code := rest }
  | .ret v :: rest => .tau (.returned v) { p with code := rest }
  | .retLast :: rest => .tau (.returned p.got.getLast?) { p with code := rest }

def State.setProc (s : State) (i : Nat) (p : Proc) : State := { s with procs := s.procs.set i p }
def State.setChan (s : State) (c : Nat) (ch : Chan) : State := { s with chans := s.chans.set c ch }
def State.crash (s : State) : State := { s with panic := true }

/-- Labelled small-step relation; the scheduler is the nondeterministic choice of `i` (and `j`). -/
inductive LStep : State → List Event → State → Prop
  | tau {s : State} {i : Nat} {p p' : Proc} {e : Event} :
      s.panic = false → s.procs[i]? = some p → p.act = .tau e p' →
      LStep s [e] (s.setProc i p')
  | sendBuf {s : State} {i c v : Nat} {p p' : Proc} {ch : Chan} :
      s.panic = false → s.procs[i]? = some p → p.act = .send c v p' →
      s.chans[c]? = some ch → ch.closed = false → ch.buf.length < ch.cap →
      LStep s [.sent c v] ((s.setProc i p').setChan c { ch with buf := ch.buf ++ [v] })
  | sendClosed {s : State} {i c v : Nat} {p p' : Proc} {ch : Chan} :
      s.panic = false → s.procs[i]? = some p → p.act = .send c v p' →
      s.chans[c]? = some ch → ch.closed = true →
      LStep s [.panicked] s.crash
  | sync {s : State} {i j c v : Nat} {p p' q qc : Proc} {f : Nat → Proc} {ch : Chan} :
      s.panic = false → i ≠ j → s.procs[i]? = some p → s.procs[j]? = some q →
      p.act = .send c v p' → q.act = .recv c f qc →
      s.chans[c]? = some ch → ch.closed = false → ch.cap = 0 → ch.buf = [] →
      LStep s [.sent c v, .received c v] ((s.setProc i p').setProc j (f v))
  | recvVal {s : State} {i c v : Nat} {p pc : Proc} {f : Nat → Proc} {ch : Chan} {b : List Nat} :
      s.panic = false → s.procs[i]? = some p → p.act = .recv c f pc →
      s.chans[c]? = some ch → ch.buf = v :: b →
      LStep s [.received c v] ((s.setProc i (f v)).setChan c { ch with buf := b })
  | recvClosed {s : State} {i c : Nat} {p pc : Proc} {f : Nat → Proc} {ch : Chan} :
      s.panic = false → s.procs[i]? = some p → p.act = .recv c f pc →
      s.chans[c]? = some ch → ch.buf = [] → ch.closed = true →
      LStep s [.sawClosed c] (s.setProc i pc)
  | close {s : State} {i c : Nat} {p p' : Proc} {ch : Chan} :
      s.panic = false → s.procs[i]? = some p → p.act = .close c p' →
      s.chans[c]? = some ch → ch.closed = false →
      LStep s [.closed c] ((s.setProc i p').setChan c { ch with closed := true })
  | closeClosed {s : State} {i c : Nat} {p p' : Proc} {ch : Chan} :
      s.panic = false → s.procs[i]? = some p → p.act = .close c p' →
      s.chans[c]? = some ch → ch.closed = true →
      LStep s [.panicked] s.crash
  | closeNil {s : State} {i c : Nat} {p p' : Proc} :
      s.panic = false → s.procs[i]? = some p → p.act = .close c p' →
      s.chans[c]? = none →
      LStep s [.panicked] s.crash

def Step (s s' : State) : Prop := ∃ l, LStep s l s'

/-- `LReach s0 tr s` : `s` is reachable from `s0` by an execution emitting the events `tr`. -/
inductive LReach (s0 : State) : List Event → State → Prop
  | init : LReach s0 [] s0
  | step {tr l : List Event} {s s' : State} : LReach s0 tr s → LStep s l s' → LReach s0 (tr ++ l) s'

def Reachable (s0 s : State) : Prop := ∃ tr, LReach s0 tr s

/-- `Steps n s s'` : an execution of exactly `n` steps. -/
inductive Steps : Nat → State → State → Prop
  | zero {s : State} : Steps 0 s s
  | succ {n : Nat} {s s' s'' : State} : Steps n s s' → Step s' s'' → Steps (n+1) s s''

/-- Every rule of `LStep` moves a process that has an instruction left. -/
theorem not_step_of_code_nil {s s' : State} (h : ∀ p ∈ s.procs, p.code = []) : ¬ Step s s' := by
  rintro ⟨l, hl⟩
  have idle {i : Nat} {p : Proc} (hp : s.procs[i]? = some p) : p.act = .idle := by
    simp only [Proc.act, h p (List.mem_of_getElem? hp)]
  cases hl with
  | tau _ hp ha | sendBuf _ hp ha | sendClosed _ hp ha | recvVal _ hp ha | recvClosed _ hp ha
  | close _ hp ha | closeClosed _ hp ha | closeNil _ hp ha => exact nomatch (idle hp).symm.trans ha
  | sync _ _ hp _ ha => exact nomatch (idle hp).symm.trans ha

/-! ## Executable successors -/

/-- The (at most one) non-rendezvous step of process `i`. -/
def localStep (s : State) (i : Nat) : Option (List Event × State) :=
  match s.procs[i]? with
  | none => none
  | some p =>
    match p.act with
    | .idle => none
    | .tau e p' => some ([e], s.setProc i p')
    | .send c v p' =>
      match s.chans[c]? with
      | none => none
      | some ch =>
        if ch.closed then some ([.panicked], s.crash)
        else if ch.buf.length < ch.cap then
          some ([.sent c v], (s.setProc i p').setChan c { ch with buf := ch.buf ++ [v] })
        else none
    | .recv c f pc =>
      match s.chans[c]? with
      | none => none
      | some ch =>
        match ch.buf with
        | v :: b => some ([.received c v], (s.setProc i (f v)).setChan c { ch with buf := b })
        | [] => if ch.closed then some ([.sawClosed c], s.setProc i pc) else none
    | .close c p' =>
      match s.chans[c]? with
      | none => some ([.panicked], s.crash)
      | some ch =>
        if ch.closed then some ([.panicked], s.crash)
        else some ([.closed c], (s.setProc i p').setChan c { ch with closed := true })

/-- The rendezvous of sender `i` with receiver `j`, if enabled. -/
def syncStep (s : State) (i j : Nat) : Option (List Event × State) :=
  if i = j then none else
  match s.procs[i]?, s.procs[j]? with
  | some p, some q =>
    match p.act, q.act with
    | .send c v p', .recv c' f _ =>
      if c = c' then
        match s.chans[c]? with
        | some ch =>
          if ch.closed = false ∧ ch.cap = 0 ∧ ch.buf = [] then
            some ([.sent c v, .received c v], (s.setProc i p').setProc j (f v))
          else none
        | none => none
      else none
    | _, _ => none
  | _, _ => none

def lsuccessors (s : State) : List (List Event × State) :=
  if s.panic then [] else
  (List.range s.procs.length).flatMap fun i =>
    (localStep s i).toList ++
    (List.range s.procs.length).flatMap fun j => (syncStep s i j).toList

def successors (s : State) : List State := (lsuccessors s).map (·.2)

theorem localStep_idle {s : State} {i : Nat} {p : Proc} (hp : s.procs[i]? = some p) (ha : p.act = .idle) :
    localStep s i = none := by
  simp only [localStep, hp, ha]

theorem localStep_tau {s : State} {i : Nat} {p p' : Proc} {e : Event} (hp : s.procs[i]? = some p)
    (ha : p.act = .tau e p') : localStep s i = some ([e], s.setProc i p') := by
  simp only [localStep, hp, ha]

theorem localStep_send {s : State} {i c v : Nat} {p p' : Proc} {ch : Chan} {x : List Event × State}
    (hp : s.procs[i]? = some p) (ha : p.act = .send c v p') (hc : s.chans[c]? = some ch) (hcl : ch.closed = false) :
    localStep s i = some x ↔ ch.buf.length < ch.cap ∧
      ([.sent c v], (s.setProc i p').setChan c { ch with buf := ch.buf ++ [v] }) = x := by
  simp [localStep, hp, ha, hc, hcl]

theorem localStep_recv_cons {s : State} {i c v : Nat} {p pc : Proc} {f : Nat → Proc} {ch : Chan} {b : List Nat}
    (hp : s.procs[i]? = some p) (ha : p.act = .recv c f pc) (hc : s.chans[c]? = some ch) (hb : ch.buf = v :: b) :
    localStep s i = some ([.received c v], (s.setProc i (f v)).setChan c { ch with buf := b }) := by
  simp only [localStep, hp, ha, hc, hb]

theorem localStep_recv_nil {s : State} {i c : Nat} {p pc : Proc} {f : Nat → Proc} {ch : Chan} {x : List Event × State}
    (hp : s.procs[i]? = some p) (ha : p.act = .recv c f pc) (hc : s.chans[c]? = some ch) (hb : ch.buf = []) :
    localStep s i = some x ↔ ch.closed = true ∧ ([.sawClosed c], s.setProc i pc) = x := by
  simp [localStep, hp, ha, hc, hb]

theorem localStep_close {s : State} {i c : Nat} {p p' : Proc} {ch : Chan} (hp : s.procs[i]? = some p)
    (ha : p.act = .close c p') (hc : s.chans[c]? = some ch) (hcl : ch.closed = false) :
    localStep s i = some ([.closed c], (s.setProc i p').setChan c { ch with closed := true }) := by
  simp [localStep, hp, ha, hc, hcl]

theorem syncStep_eq {s : State} {i j c c' v : Nat} {p p' q qc : Proc} {f : Nat → Proc} {ch : Chan}
    (hij : i ≠ j) (hp : s.procs[i]? = some p) (hq : s.procs[j]? = some q)
    (ha : p.act = .send c v p') (hb : q.act = .recv c' f qc) (hc : s.chans[c]? = some ch) :
    syncStep s i j =
      if c = c' ∧ ch.closed = false ∧ ch.cap = 0 ∧ ch.buf = [] then
        some ([.sent c v, .received c v], (s.setProc i p').setProc j (f v))
      else none := by
  by_cases h : c = c'
  · subst h
    simp only [syncStep, hij, hp, hq, ha, hb, hc, if_false, if_true, true_and]
  · simp only [syncStep, hij, hp, hq, ha, hb, h, if_false, false_and]

theorem localStep_sound {s : State} {i : Nat} {l : List Event} {s' : State}
    (hp : s.panic = false) (h : localStep s i = some (l, s')) : LStep s l s' := by
  revert h
  -- one case per branch of `localStep`; the lookups that select a branch are the premises of its rule
  fun_cases localStep s i <;> intro h <;> cases h
  · exact .tau hp ‹_› ‹_›
  · exact .sendClosed hp ‹_› ‹_› ‹_› ‹_›
  · exact .sendBuf hp ‹_› ‹_› ‹_› (Bool.eq_false_iff.mpr ‹_›) ‹_›
  · exact .recvVal hp ‹_› ‹_› ‹_› ‹_›
  · exact .recvClosed hp ‹_› ‹_› ‹_› ‹_› ‹_›
  · exact .closeNil hp ‹_› ‹_› ‹_›
  · exact .closeClosed hp ‹_› ‹_› ‹_› ‹_›
  · exact .close hp ‹_› ‹_› ‹_› (Bool.eq_false_iff.mpr ‹_›)

theorem syncStep_inv {s : State} {i j : Nat} {p q : Proc} {l : List Event} {s' : State}
    (hp : s.procs[i]? = some p) (hq : s.procs[j]? = some q) (h : syncStep s i j = some (l, s')) :
    ∃ c v p' f qc ch, i ≠ j ∧ p.act = .send c v p' ∧ q.act = .recv c f qc ∧ s.chans[c]? = some ch ∧
      ch.closed = false ∧ ch.cap = 0 ∧ ch.buf = [] ∧
      l = [.sent c v, .received c v] ∧ s' = (s.setProc i p').setProc j (f v) := by
  revert h
  fun_cases syncStep s i j <;> intro h <;> cases h
  next hij _ _ hq' hp' v p' c f qc hb ch hcond ha hc =>
  cases hp.symm.trans hp'
  cases hq.symm.trans hq'
  exact ⟨c, v, p', f, qc, ch, hij, ha, hb, hc, hcond.1, hcond.2.1, hcond.2.2, rfl, rfl⟩

theorem mem_lsuccessors {s : State} {x : List Event × State} :
    x ∈ lsuccessors s ↔ s.panic = false ∧ ∃ i, i < s.procs.length ∧
      (localStep s i = some x ∨ ∃ j, j < s.procs.length ∧ syncStep s i j = some x) := by
  cases hp : s.panic <;> simp [lsuccessors, hp]

theorem lstep_iff_mem {s : State} {l : List Event} {s' : State} :
    LStep s l s' ↔ (l, s') ∈ lsuccessors s := by
  rw [mem_lsuccessors]
  constructor
  · intro h
    have lt {i : Nat} {p : Proc} (h : s.procs[i]? = some p) : i < s.procs.length :=
      (List.getElem?_eq_some_iff.mp h).1
    cases h with
    | tau hp hpi ha => exact ⟨hp, _, lt hpi, .inl (localStep_tau hpi ha)⟩
    | sendBuf hp hpi ha hc hcl hlt =>
      exact ⟨hp, _, lt hpi, .inl ((localStep_send hpi ha hc hcl).mpr ⟨hlt, rfl⟩)⟩
    | sendClosed hp hpi ha hc hcl => exact ⟨hp, _, lt hpi, .inl (by simp [localStep, hpi, ha, hc, hcl])⟩
    | sync hp hij hpi hqj ha hb hc hcl hcap hbuf =>
      exact ⟨hp, _, lt hpi, .inr ⟨_, lt hqj, by simp [syncStep_eq hij hpi hqj ha hb hc, hcl, hcap, hbuf]⟩⟩
    | recvVal hp hpi ha hc hb => exact ⟨hp, _, lt hpi, .inl (localStep_recv_cons hpi ha hc hb)⟩
    | recvClosed hp hpi ha hc hb hcl =>
      exact ⟨hp, _, lt hpi, .inl ((localStep_recv_nil hpi ha hc hb).mpr ⟨hcl, rfl⟩)⟩
    | close hp hpi ha hc hcl => exact ⟨hp, _, lt hpi, .inl (localStep_close hpi ha hc hcl)⟩
    | closeClosed hp hpi ha hc hcl => exact ⟨hp, _, lt hpi, .inl (by simp [localStep, hpi, ha, hc, hcl])⟩
    | closeNil hp hpi ha hc => exact ⟨hp, _, lt hpi, .inl (by simp [localStep, hpi, ha, hc])⟩
  · rintro ⟨hp, i, hi, h | ⟨j, hj, h⟩⟩
    · exact localStep_sound hp h
    · have hpi := List.getElem?_eq_getElem hi
      have hqj := List.getElem?_eq_getElem hj
      obtain ⟨c, v, p', f, qc, ch, hij, ha, hb, hc, hcl, hcap, hbuf, rfl, rfl⟩ := syncStep_inv hpi hqj h
      exact .sync hp hij hpi hqj ha hb hc hcl hcap hbuf

theorem step_iff_mem {s s' : State} : Step s s' ↔ s' ∈ successors s := by
  unfold Step successors
  constructor
  · rintro ⟨l, h⟩
    exact List.mem_map.mpr ⟨(l, s'), lstep_iff_mem.mp h, rfl⟩
  · intro h
    rcases List.mem_map.mp h with ⟨⟨l, t⟩, hm, rfl⟩
    exact ⟨l, lstep_iff_mem.mpr hm⟩

/-! ## Bounded exhaustive exploration -/

def dedup : List State → List State
  | [] => []
  | s :: r => if r.elem s then dedup r else s :: dedup r

theorem mem_dedup {s : State} : ∀ {l : List State}, s ∈ dedup l ↔ s ∈ l
  | [] => by simp [dedup]
  | a :: r => by
    unfold dedup
    by_cases h : r.elem a = true
    · simp only [h, if_true]
      have ha : a ∈ r := by simpa using h
      rw [mem_dedup]
      constructor
      · exact fun h => List.mem_cons_of_mem _ h
      · intro h
        rcases List.mem_cons.mp h with rfl | h
        · exact ha
        · exact h
    · simp only [h, Bool.false_eq_true, if_false, List.mem_cons]
      rw [mem_dedup]

/-- States one step after a state of `ss`. -/
def expand (ss : List State) : List State := dedup (ss.flatMap successors)

/-- `layer n ss` : the states reachable from a state of `ss` in exactly `n` steps. -/
def layer : Nat → List State → List State
  | 0, ss => ss
  | n+1, ss => layer n (expand ss)

theorem mem_expand {ss : List State} {s' : State} : s' ∈ expand ss ↔ ∃ s, s ∈ ss ∧ Step s s' := by
  unfold expand
  rw [mem_dedup, List.mem_flatMap]
  constructor
  · rintro ⟨s, hs, h⟩; exact ⟨s, hs, step_iff_mem.mpr h⟩
  · rintro ⟨s, hs, h⟩; exact ⟨s, hs, step_iff_mem.mp h⟩

theorem Steps.cons {n : Nat} {s s1 s' : State} (h1 : Step s s1) (h : Steps n s1 s') : Steps (n+1) s s' := by
  induction h with
  | zero => exact .succ .zero h1
  | succ _ h2 ih => exact .succ (ih h1) h2

theorem Steps.uncons {n : Nat} {s s' : State} (h : Steps (n+1) s s') : ∃ s1, Step s s1 ∧ Steps n s1 s' := by
  generalize hm : n + 1 = m at h
  induction h generalizing n with
  | zero => omega
  | @succ k s s1 s2 hk hs ih =>
    have : k = n := by omega
    subst this
    cases k with
    | zero => cases hk; exact ⟨_, hs, .zero⟩
    | succ k =>
      rcases ih rfl with ⟨t, ht, hr⟩
      exact ⟨t, ht, .succ hr hs⟩

theorem mem_layer {n : Nat} : ∀ {ss : List State} {s' : State},
    s' ∈ layer n ss ↔ ∃ s, s ∈ ss ∧ Steps n s s' := by
  induction n with
  | zero =>
    intro ss s'
    simp only [layer]
    constructor
    · intro h; exact ⟨s', h, .zero⟩
    · rintro ⟨s, hs, h⟩; cases h; exact hs
  | succ n ih =>
    intro ss s'
    simp only [layer]
    rw [ih]
    constructor
    · rintro ⟨s1, h1, hr⟩
      rcases mem_expand.mp h1 with ⟨s, hs, hst⟩
      exact ⟨s, hs, Steps.cons hst hr⟩
    · rintro ⟨s, hs, h⟩
      rcases Steps.uncons h with ⟨s1, h1, hr⟩
      exact ⟨s1, mem_expand.mpr ⟨s, hs, h1⟩, hr⟩

/-- All states within `n` steps. -/
def reachN : Nat → List State → List State
  | 0, ss => ss
  | n+1, ss => ss ++ reachN n (expand ss)

theorem mem_reachN {n : Nat} : ∀ {ss : List State} {s' : State},
    s' ∈ reachN n ss ↔ ∃ k, k ≤ n ∧ s' ∈ layer k ss := by
  induction n with
  | zero =>
    intro ss s'
    simp only [reachN]
    constructor
    · intro h; exact ⟨0, Nat.le_refl _, h⟩
    · rintro ⟨k, hk, h⟩
      have : k = 0 := by omega
      subst this; exact h
  | succ n ih =>
    intro ss s'
    simp only [reachN, List.mem_append]
    rw [ih]
    constructor
    · rintro (h | ⟨k, hk, h⟩)
      · exact ⟨0, by omega, h⟩
      · exact ⟨k+1, by omega, h⟩
    · rintro ⟨k, hk, h⟩
      cases k with
      | zero => exact Or.inl h
      | succ k => exact Or.inr ⟨k, by omega, h⟩

theorem reachable_iff_steps {s0 s : State} : Reachable s0 s ↔ ∃ n, Steps n s0 s := by
  constructor
  · rintro ⟨tr, h⟩
    induction h with
    | init => exact ⟨0, .zero⟩
    | step _ hs ih => rcases ih with ⟨n, hn⟩; exact ⟨n+1, .succ hn ⟨_, hs⟩⟩
  · rintro ⟨n, h⟩
    induction h with
    | zero => exact ⟨[], .init⟩
    | succ _ hs ih =>
      rcases ih with ⟨tr, htr⟩
      rcases hs with ⟨l, hl⟩
      exact ⟨tr ++ l, .step htr hl⟩

theorem steps_split {n k : Nat} {s s' : State} (h : Steps (n + k) s s') : ∃ m, Steps n s m := by
  induction k generalizing s' with
  | zero => exact ⟨s', h⟩
  | succ k ih =>
    cases h with
    | succ h1 _ => exact ih h1

theorem reachable_iff_mem_reachN {n : Nat} {s0 : State} (hn : layer n [s0] = []) {s : State} :
    Reachable s0 s ↔ s ∈ reachN n [s0] := by
  rw [mem_reachN, reachable_iff_steps]
  constructor
  · rintro ⟨m, hm⟩
    by_cases hle : m ≤ n
    · exact ⟨m, hle, mem_layer.mpr ⟨s0, by simp, hm⟩⟩
    · exfalso
      have : m = n + (m - n) := by omega
      rw [this] at hm
      rcases steps_split hm with ⟨mid, hmid⟩
      have : mid ∈ layer n [s0] := mem_layer.mpr ⟨s0, by simp, hmid⟩
      rw [hn] at this; simp at this
  · rintro ⟨k, _, hk⟩
    rcases mem_layer.mp hk with ⟨s1, h1, hs⟩
    simp at h1; subst h1
    exact ⟨k, hs⟩

theorem exists_lreach_of_layer {n : Nat} {s0 : State} {P : State → Prop}
    (h : ∃ s ∈ layer n [s0], P s) : ∃ tr s, LReach s0 tr s ∧ P s := by
  rcases h with ⟨s, hs, hp⟩
  rcases mem_layer.mp hs with ⟨s1, h1, hst⟩
  simp at h1; subst h1
  rcases reachable_iff_steps.mpr ⟨n, hst⟩ with ⟨tr, htr⟩
  exact ⟨tr, s, htr, hp⟩

theorem steps_bounded {s0 : State} (μ : State → Nat)
    (hdec : ∀ s s', Reachable s0 s → Step s s' → μ s' < μ s)
    {n : Nat} {s : State} (h : Steps n s0 s) : n + μ s ≤ μ s0 := by
  induction h with
  | zero => omega
  | @succ n s s' s'' h1 h2 ih =>
    have hr : Reachable s s' := reachable_iff_steps.mpr ⟨n, h1⟩
    have h3 := hdec _ _ hr h2
    have h4 := ih hdec
    omega

/-! ## The three protocols -/

/-- (P)/(E): `solver.Optimal(results, stop)` / `Enumerate(models, stop)` with a consumer that
    receives until it sees the close.  Process 0 = producer, process 1 = consumer, channel 0 = `results`.
    The producer returns its last result (`vals.getLast?`). -/
def producerCode (vals : List Nat) : List Instr :=
  vals.map (Instr.send 0) ++ [.close 0, .ret vals.getLast?]

def producerSystem (cap : Nat) (vals : List Nat) : State :=
  { procs := [ { code := producerCode vals }, { code := [.range 0] } ],
    chans := [ ⟨cap, [], false⟩ ] }

/-- (F): `maxsat.(*Solver).Optimal`.  Channel 0 = `localRes` (unbuffered), channel 1 = `results`
    (capacity `cap`).  Process 0 = `go s.solver.Optimal(localRes, stop)` (its return value is
    discarded), process 1 = the forwarder (`defer close(results)` runs when the range loop ends,
    then it returns the last `res`), process 2 = consumer of `results`. -/
def forwarderSystem (cap : Nat) (vals : List Nat) : State :=
  { procs := [ { code := vals.map (Instr.send 0) ++ [.close 0] },
               { code := [.forward 0 1, .close 1, .retLast] },
               { code := [.range 1] } ],
    chans := [ ⟨0, [], false⟩, ⟨cap, [], false⟩ ] }

/-- (U): `explain.(*Problem).UnsatSubset`.  Channel 0 = `s.CertChan` (unbuffered), channel 1 = `done`
    (capacity 1).  Process 0 = the goroutine: `s.Solve()` sends the certificate lines `vals`, then
    `close(s.CertChan); done <- st`.  Process 1 = the caller: `UnsatChan` reads at most `k` lines
    (it may stop early), then `for range s.CertChan {}`, then `status := <-done`, which it returns. -/
def unsatSubsetSystem (vals : List Nat) (k : Nat) (st : Nat) : State :=
  { procs := [ { code := vals.map (Instr.send 0) ++ [.close 0, .send 1 st] },
               { code := [.rangeMax 0 k, .range 0, .recv 1, .retLast] } ],
    chans := [ ⟨0, [], false⟩, ⟨1, [], false⟩ ] }

/-- Final state: every process has finished, no panic (the channels are not inspected). -/
def State.allDone (s : State) : Bool := s.procs.all (fun p => p.code.isEmpty) && !s.panic

/-! ## Trace checker -/

/-- `run fuel s evs` : can `s` emit exactly the event sequence `evs`?  Every step emits at least one
    event, so `fuel = evs.length` suffices. -/
def run : Nat → State → List Event → Bool
  | _, _, [] => true
  | 0, _, _ :: _ => false
  | fuel+1, s, e :: evs =>
    (lsuccessors s).any fun (l, s') =>
      l ≠ [] && l.isPrefixOf (e :: evs) && run fuel s' ((e :: evs).drop l.length)

def sentVals : List Event → List Nat
  | [] => []
  | .sent _ v :: r => v :: sentVals r
  | _ :: r => sentVals r

/-- Is `events` a trace of `producerSystem cap vals` for some `vals`?  The only candidate is
    `vals = ` the values sent in `events` (theorem `acceptsTrace_iff` in the Props file). -/
def acceptsTrace (cap : Nat) (events : List Event) : Bool :=
  run events.length (producerSystem cap (sentVals events)) events

end GS.Chan
