/-!
# GS.Model.Print — mirrors of the answer printers of `main.go` (C19), with a decoder of the `v` line

`printDecisionResults` prints `v ` then, for variable `i+1`, `i+1` or `-(i+1)`, then `0`
(`vline`: the integers before the `0`). Both printers print a status line (`statusLine`,
`statusLineOpt`); `printOptimizationResults` prints one `o` line per satisfiable result of the
stream (`oLines`). Its `v` line (`x<i+1>` or `-x<i+1>`, no final `0`) is not modelled.
-/
namespace GS.Print

/-- the integers of a `v` line (without the final 0) for a model, first variable = 1 -/
def vlineFrom : Nat → List Bool → List Int
  | _, [] => []
  | k, b :: bs => (if b then ((k : Int) + 1) else -((k : Int) + 1)) :: vlineFrom (k + 1) bs

def vline (m : List Bool) : List Int := vlineFrom 0 m

/-- reading a `v` line back -/
def decodeV (xs : List Int) : List Bool := xs.map (fun x => decide (x > 0))

/-- status line of the decision printer -/
inductive Status | sat | unsat | indet
deriving DecidableEq, Repr

def statusLine : Status → String
  | .sat => "s SATISFIABLE"
  | .unsat => "s UNSATISFIABLE"
  | .indet => "s UNKNOWN"

def statusLineOpt : Status → String
  | .sat => "s OPTIMUM FOUND"
  | .unsat => "s UNSATISFIABLE"
  | .indet => "s UNKNOWN"

/-- `o` lines: one per satisfiable result of the stream, in order -/
def oLines (stream : List (Status × Int)) : List Int :=
  (stream.filter (fun r => r.1 == .sat)).map (·.2)

example : vline [true, false, true] = [1, -2, 3] := by decide +kernel
example : decodeV [1, -2, 3] = [true, false, true] := by decide +kernel

end GS.Print
