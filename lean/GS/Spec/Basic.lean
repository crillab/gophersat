import GS.Spec.ListLemmas
/-!
# GS.Spec.Basic — the vocabulary every property is stated against

Core-only. Literals are DIMACS integers (non-zero; variable = `natAbs`), as in the public
API of gophersat (`[]int`, `[][]int`, `PBConstr.Lits`). An assignment is a total function
from variable numbers to `Bool`. A linear constraint is `Σ coefᵢ·[litᵢ] ≥ degree` over `Int`,
which covers clauses (all coefficients 1, degree 1), cardinality constraints (coefficients 1)
and pseudo-boolean constraints.
-/
namespace GS

/-- A total assignment: variable number (1-based, as in DIMACS) ↦ truth value. -/
abbrev Asg := Nat → Bool

/-- Truth value of a DIMACS literal. -/
def litTrue (a : Asg) (l : Int) : Bool := if l > 0 then a l.natAbs else !(a l.natAbs)

theorem litTrue_neg (a : Asg) (l : Int) (h : l ≠ 0) : litTrue a (-l) = !litTrue a l := by
  unfold litTrue
  by_cases hp : l > 0
  · simp [hp]; omega
  · simp [hp]; omega

theorem litTrue_natCast (a : Asg) (k : Nat) (hk : 1 ≤ k) : litTrue a (k : Int) = a k := by
  have : (k : Int) > 0 := by omega
  simp only [litTrue, this, if_true, Int.natAbs_natCast]

theorem litTrue_neg_natCast (a : Asg) (k : Nat) (hk : 1 ≤ k) : litTrue a (-(k : Int)) = !a k := by
  rw [litTrue_neg a k (by omega), litTrue_natCast a k hk]

theorem litTrue_agree (a e : Asg) (l : Int) (h : a l.natAbs = e l.natAbs) : litTrue a l = litTrue e l := by
  unfold litTrue; rw [h]

/-- A clause (list of literals) is true when one of its literals is. The empty clause is false. -/
def clauseTrue (a : Asg) (c : List Int) : Bool := c.any (litTrue a)

/-- A CNF (list of clauses) is true when all its clauses are. -/
def cnfTrue (a : Asg) (f : List (List Int)) : Bool := f.all (clauseTrue a)

theorem clauseTrue_iff (a : Asg) (c : List Int) :
    clauseTrue a c = true ↔ ∃ l ∈ c, litTrue a l = true := by
  simp only [clauseTrue, List.any_eq_true]

theorem clauseTrue_cons (a : Asg) (l : Int) (c : List Int) :
    clauseTrue a (l :: c) = (litTrue a l || clauseTrue a c) := rfl

theorem clauseTrue_singleton (a : Asg) (l : Int) : clauseTrue a [l] = litTrue a l := by
  simp [clauseTrue]

theorem cnfTrue_iff (a : Asg) (f : List (List Int)) :
    cnfTrue a f = true ↔ ∀ c ∈ f, clauseTrue a c = true := by
  simp only [cnfTrue, List.all_eq_true]

theorem cnfTrue_append (a : Asg) (f g : List (List Int)) :
    cnfTrue a (f ++ g) = (cnfTrue a f && cnfTrue a g) := List.all_append

theorem cnfTrue_subset (a : Asg) {f g : List (List Int)} (h : f ⊆ g) (hg : cnfTrue a g = true) :
    cnfTrue a f = true :=
  (cnfTrue_iff a f).2 fun c hc => (cnfTrue_iff a g).1 hg c (h hc)

/-- Value contributed by one term `coef · [lit]`. -/
def termVal (a : Asg) (t : Int × Int) : Int := if litTrue a t.2 then t.1 else 0

/-- Left-hand side `Σ coefᵢ·[litᵢ]` of a linear constraint / value of a cost function. -/
def lhs (a : Asg) : List (Int × Int) → Int
  | [] => 0
  | t :: ts => termVal a t + lhs a ts

theorem lhs_cons (a : Asg) (t : Int × Int) (ts : List (Int × Int)) :
    lhs a (t :: ts) = termVal a t + lhs a ts := rfl

theorem lhs_append (a : Asg) (xs ys : List (Int × Int)) : lhs a (xs ++ ys) = lhs a xs + lhs a ys := by
  induction xs with
  | nil => simp [lhs]
  | cons x xs ih => simp only [List.cons_append, lhs_cons, ih]; omega

theorem additive_perm {α} {S : List α → Int} {φ : α → Int} (hS : ∀ t ts, S (t :: ts) = φ t + S ts)
    {l1 l2 : List α} (h : l1.Perm l2) : S l1 = S l2 := by
  induction h with
  | nil => rfl
  | cons x _ ih => rw [hS, hS, ih]
  | swap x y l => simp only [hS]; omega
  | trans _ _ ih1 ih2 => exact ih1.trans ih2

theorem lhs_perm (a : Asg) {xs ys : List (Int × Int)} (h : xs.Perm ys) : lhs a xs = lhs a ys :=
  additive_perm (lhs_cons a) h

theorem termVal_bounds (a : Asg) {t : Int × Int} (h : 0 ≤ t.1) : 0 ≤ termVal a t ∧ termVal a t ≤ t.1 := by
  unfold termVal; split <;> omega

theorem termVal_neg (a : Asg) (t : Int × Int) (h : t.2 ≠ 0) : termVal a (t.1, -t.2) = t.1 - termVal a t := by
  simp only [termVal, litTrue_neg a t.2 h]; cases litTrue a t.2 <;> simp

theorem termVal_zero (a : Asg) (t : Int × Int) (h : t.1 = 0) : termVal a t = 0 := by
  simp only [termVal, h, ite_self]

theorem lhs_ones (a : Asg) : ∀ ls : List Int, lhs a (ls.map fun l => ((1 : Int), l)) = (ls.countP (litTrue a) : Nat)
  | [] => rfl
  | l :: ls => by
    rw [List.map_cons, lhs_cons, lhs_ones a ls, List.countP_cons, termVal]
    split <;> omega

theorem zip_map_fst_snd : ∀ ts : List (Int × Int), (ts.map (·.1)).zip (ts.map (·.2)) = ts :=
  fun _ => (List.zip_of_prod rfl rfl).symm

/-- Linear pseudo-boolean constraint `Σ coefᵢ·[litᵢ] ≥ degree`; terms are `(coef, lit)`. -/
structure Lin where
  terms : List (Int × Int)
  degree : Int
deriving Repr, DecidableEq, Inhabited

def Lin.holds (a : Asg) (c : Lin) : Bool := decide (c.degree ≤ lhs a c.terms)

theorem Lin.holds_iff (a : Asg) (c : Lin) : c.holds a = true ↔ c.degree ≤ lhs a c.terms := decide_eq_true_iff

/-- The clause `l₁ ∨ … ∨ lₖ` as a linear constraint. -/
def Lin.ofClause (ls : List Int) : Lin := ⟨ls.map (fun l => (1, l)), 1⟩

/-- "At least `k` of `ls` are true". -/
def Lin.ofCard (ls : List Int) (k : Int) : Lin := ⟨ls.map (fun l => (1, l)), k⟩

theorem ofClause_holds (a : Asg) (c : List Int) : (Lin.ofClause c).holds a = clauseTrue a c := by
  rw [Bool.eq_iff_iff, Lin.holds_iff, Lin.ofClause, lhs_ones, clauseTrue, List.any_eq_true]
  exact (by omega : (1 : Int) ≤ (List.countP (litTrue a) c : Nat) ↔ 0 < List.countP (litTrue a) c).trans
    List.countP_pos_iff

theorem ofClause_singleton_holds (a : Asg) (l : Int) : (Lin.ofClause [l]).holds a = litTrue a l := by
  rw [ofClause_holds, clauseTrue_singleton]

abbrev Problem := List Lin

def Problem.holds (a : Asg) (p : Problem) : Bool := p.all (·.holds a)

theorem Problem.holds_append (a : Asg) (p q : Problem) :
    Problem.holds a (p ++ q) = (Problem.holds a p && Problem.holds a q) :=
  List.all_append

theorem Problem.holds_iff (a : Asg) (p : Problem) : Problem.holds a p = true ↔ ∀ c ∈ p, c.holds a = true :=
  List.all_eq_true

theorem Problem.holds_snoc (a : Asg) (p : Problem) (c : Lin) :
    Problem.holds a (p ++ [c]) = (Problem.holds a p && c.holds a) := by
  simp [Problem.holds]

def Satisfiable (p : Problem) : Prop := ∃ a, Problem.holds a p = true

def Entails (p : Problem) (c : Lin) : Prop := ∀ a, Problem.holds a p = true → c.holds a = true

/-- CNF as a problem of linear constraints. -/
def Problem.ofCnf (f : List (List Int)) : Problem := f.map Lin.ofClause

theorem ofCnf_holds (a : Asg) : ∀ f : List (List Int), Problem.holds a (Problem.ofCnf f) = cnfTrue a f := by
  intro f
  simp only [Problem.holds, Problem.ofCnf, cnfTrue, List.all_map, Function.comp_def, ofClause_holds]

/-- Cost of an assignment under a linear cost function. -/
def cost (f : List (Int × Int)) (a : Asg) : Int := lhs a f

/-- `a` is an optimal model of `p` for cost function `f`. -/
def IsOptimum (p : Problem) (f : List (Int × Int)) (a : Asg) : Prop :=
  Problem.holds a p = true ∧ ∀ b, Problem.holds b p = true → cost f a ≤ cost f b

/-- `c` is true in every model of the CNF `f`. -/
def CnfEntails (f : List (List Int)) (c : List Int) : Prop :=
  ∀ a, cnfTrue a f = true → clauseTrue a c = true

def CnfSat (f : List (List Int)) : Prop := ∃ a, cnfTrue a f = true

theorem Entails.of_mem {p : Problem} {c : Lin} (h : c ∈ p) : Entails p c :=
  fun a ha => (Problem.holds_iff a p).1 ha c h

theorem CnfEntails.of_mem {f : List (List Int)} {c : List Int} (h : c ∈ f) : CnfEntails f c :=
  fun a ha => (cnfTrue_iff a f).1 ha c h

theorem CnfSat.mono {f g : List (List Int)} (h : f ⊆ g) : CnfSat g → CnfSat f :=
  fun ⟨a, ha⟩ => ⟨a, cnfTrue_subset a h ha⟩

theorem CnfEntails.mono {f g : List (List Int)} {c : List Int} (h : f ⊆ g) (hc : CnfEntails f c) :
    CnfEntails g c := fun a ha => hc a (cnfTrue_subset a h ha)

theorem Satisfiable.congr {p q : Problem} (h : ∀ b, Problem.holds b p = Problem.holds b q) :
    Satisfiable p ↔ Satisfiable q := by simp only [Satisfiable, h]

theorem IsOptimum.congr {p q : Problem} (f : List (Int × Int)) (a : Asg)
    (h : ∀ b, Problem.holds b p = Problem.holds b q) : IsOptimum p f a ↔ IsOptimum q f a := by
  simp only [IsOptimum, h]

/-! ### Well-formedness: literals are non-zero and within the declared variables -/

def litOk (n : Nat) (l : Int) : Bool := l != 0 && decide (l.natAbs ≤ n)

def Lin.wf (n : Nat) (c : Lin) : Bool := c.terms.all (fun t => litOk n t.2)

def Problem.wf (n : Nat) (p : Problem) : Bool := p.all (Lin.wf n)

def termsWf (n : Nat) (ts : List (Int × Int)) : Bool := ts.all (fun t => litOk n t.2)

def clauseWf (n : Nat) (c : List Int) : Bool := c.all (litOk n)

def cnfWf (n : Nat) (f : List (List Int)) : Bool := f.all (clauseWf n)

theorem litOk_iff (n : Nat) (l : Int) : litOk n l = true ↔ l ≠ 0 ∧ l.natAbs ≤ n := by
  simp only [litOk, Bool.and_eq_true, bne_iff_ne, decide_eq_true_eq]

theorem litOk_neg (n : Nat) (l : Int) : litOk n (-l) = litOk n l := by
  have : (-l != 0) = (l != 0) := by rw [Bool.eq_iff_iff, bne_iff_ne, bne_iff_ne]; omega
  unfold litOk
  rw [this, Int.natAbs_neg]

theorem termsWf_iff (n : Nat) (f : List (Int × Int)) : termsWf n f = true ↔ ∀ t ∈ f, litOk n t.2 = true :=
  List.all_eq_true

theorem clauseWf_iff (n : Nat) (c : List Int) :
    clauseWf n c = true ↔ ∀ l ∈ c, l ≠ 0 ∧ l.natAbs ≤ n := by
  simp only [clauseWf, List.all_eq_true, litOk_iff]

theorem cnfWf_iff (n : Nat) (f : List (List Int)) :
    cnfWf n f = true ↔ ∀ c ∈ f, ∀ l ∈ c, l ≠ 0 ∧ l.natAbs ≤ n := by
  simp only [cnfWf, List.all_eq_true, clauseWf_iff]

theorem cnfWf_cons (n : Nat) (c : List Int) (cs : List (List Int)) :
    cnfWf n (c :: cs) = true ↔ clauseWf n c = true ∧ cnfWf n cs = true := Bool.and_eq_true_iff

theorem cnfWf_append_one (n : Nat) (cs : List (List Int)) (c : List Int)
    (h1 : cnfWf n cs = true) (h2 : clauseWf n c = true) : cnfWf n (cs ++ [c]) = true := by
  unfold cnfWf at h1 ⊢
  simp [List.all_append, h1, h2]

theorem Problem.wf_append_one (n : Nat) (q : Problem) (c : Lin) (hq : q.wf n = true) (hc : c.wf n = true) :
    Problem.wf n (q ++ [c]) = true := by
  unfold Problem.wf at *
  simp [List.all_append, hq, hc]

theorem cnfWf_subset (n : Nat) {f g : List (List Int)} (h : f ⊆ g) (hg : cnfWf n g = true) : cnfWf n f = true :=
  (cnfWf_iff n f).2 fun c hc => (cnfWf_iff n g).1 hg c (h hc)

/-- Assignment read off a list of booleans: variable `v ≥ 1` is `bs[v-1]`, everything else false. -/
def asgOf (bs : List Bool) : Asg
  | 0 => false
  | v + 1 => bs.getD v false

/-- All boolean lists of length `n`. -/
def leaves : Nat → List (List Bool)
  | 0 => [[]]
  | n + 1 => (leaves n).map (false :: ·) ++ (leaves n).map (true :: ·)

/-- The `n` values of an assignment from variable `from_` on, as a list. -/
def restrict (a : Asg) : Nat → Nat → List Bool
  | _, 0 => []
  | from_, n + 1 => a from_ :: restrict a (from_ + 1) n

/-- Models of `p` over the declared variables `1..n`, as boolean lists. -/
def modelsOver (n : Nat) (p : Problem) : List (List Bool) :=
  (leaves n).filter (fun bs => Problem.holds (asgOf bs) p)

/-- Number of total assignments over `1..n` that satisfy `p`. -/
def countOver (n : Nat) (p : Problem) : Nat := (modelsOver n p).length

/-- `xs` is a sub-multiset of `ys`: every clause occurs in `xs` at most as often as in `ys`
    (clauses compared as literal lists). -/
def subMultiset : List (List Int) → List (List Int) → Bool
  | [], _ => true
  | x :: xs, ys => if x ∈ ys then subMultiset xs (ys.erase x) else false

/-- Removing the `i`-th element. -/
def dropNth {α} (xs : List α) (i : Nat) : List α := xs.take i ++ xs.drop (i + 1)

theorem dropNth_eq_eraseIdx {α} (xs : List α) (i : Nat) : dropNth xs i = xs.eraseIdx i :=
  (List.eraseIdx_eq_take_drop_succ xs i).symm

theorem mem_dropNth {α} (xs : List α) (i : Nat) (x : α) (h : x ∈ dropNth xs i) : x ∈ xs :=
  List.mem_of_mem_eraseIdx (dropNth_eq_eraseIdx xs i ▸ h)

/-- `m` is a minimal unsatisfiable set of clauses. -/
def IsMUS (m : List (List Int)) : Prop :=
  ¬ CnfSat m ∧ ∀ i, i < m.length → CnfSat (dropNth m i)

end GS
