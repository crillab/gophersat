/-!
# GS.Spec.ListLemmas — facts about core lists and functions that several groups of proof files use
-/
namespace GS

theorem congrArg₂ {α β γ} (f : α → β → γ) {a a' : α} {b b' : β} (ha : a = a') (hb : b = b') : f a b = f a' b' :=
  ha ▸ hb ▸ rfl

theorem of_mem_takeWhile {α} {p : α → Bool} {l : List α} {a : α} (h : a ∈ l.takeWhile p) : p a = true :=
  List.all_eq_true.1 List.all_takeWhile a h

theorem takeWhile_eq_filter {α} {p : α → Bool} : ∀ {l : List α},
    l.Pairwise (fun x y => p y = true → p x = true) → l.takeWhile p = l.filter p
  | [], _ => rfl
  | x :: xs, h => by
    obtain ⟨hx, hr⟩ := List.pairwise_cons.1 h
    rw [List.takeWhile_cons, List.filter_cons]
    cases hp : p x with
    | true => exact congrArg (x :: ·) (takeWhile_eq_filter hr)
    | false => exact (List.filter_eq_nil_iff.2 fun y hy hpy => by rw [hx y hy hpy] at hp; cases hp).symm

theorem set_eq_self {α} {l : List α} {i : Nat} {x : α} (h : l[i]? = some x) : l.set i x = l := by
  obtain ⟨hi, rfl⟩ := List.getElem?_eq_some_iff.1 h
  exact List.set_getElem_self hi

theorem snoc_split {α} {es pre post : List α} {e x : α} (h : es ++ [e] = pre ++ x :: post) :
    (post = [] ∧ pre = es ∧ x = e) ∨ ∃ post', post = post' ++ [e] ∧ es = pre ++ x :: post' := by
  rcases List.eq_nil_or_concat post with rfl | ⟨post', b, rfl⟩
  · left
    have := List.append_inj' h rfl
    simp only [List.cons.injEq, and_true] at this
    exact ⟨rfl, this.1.symm, this.2.symm⟩
  · right
    rw [List.concat_eq_append] at h
    have h' : es ++ [e] = (pre ++ x :: post') ++ [b] := by simpa using h
    have := List.append_inj' h' rfl
    simp only [List.cons.injEq, and_true] at this
    refine ⟨post', ?_, this.1⟩
    rw [List.concat_eq_append, this.2]

theorem mem_foldl_addNew {α} [DecidableEq α] : ∀ (ls us : List α) (x : α),
    x ∈ ls.foldl (fun us l => if l ∈ us then us else us ++ [l]) us ↔ x ∈ us ∨ x ∈ ls
  | [], _, _ => (or_iff_left List.not_mem_nil).symm
  | l :: ls, us, x => by
    rw [List.foldl_cons, mem_foldl_addNew ls, List.mem_cons]
    split
    · next hl => exact ⟨Or.imp_right Or.inr, fun h => h.elim Or.inl fun h => h.elim (fun e => Or.inl (e ▸ hl)) Or.inr⟩
    · rw [List.mem_append, List.mem_singleton, or_assoc]

theorem zip_ones (ls : List Int) : (ls.map fun _ => (1 : Int)).zip ls = ls.map fun l => ((1 : Int), l) := by
  simpa only [List.map_id, id_eq] using List.zip_map' (f := fun _ => (1 : Int)) (g := id) (l := ls)

theorem all_congr_mem {α} {l : List α} {p q : α → Bool} (h : ∀ x ∈ l, p x = q x) : l.all p = l.all q := by
  induction l with
  | nil => rfl
  | cons x xs ih =>
    rw [List.all_cons, List.all_cons, h x List.mem_cons_self, ih fun y hy => h y (List.mem_cons_of_mem _ hy)]

theorem any_congr_mem {α} {l : List α} {p q : α → Bool} (h : ∀ x ∈ l, p x = q x) : l.any p = l.any q := by
  induction l with
  | nil => rfl
  | cons x xs ih =>
    rw [List.any_cons, List.any_cons, h x List.mem_cons_self, ih fun y hy => h y (List.mem_cons_of_mem _ hy)]

/-- de Morgan, the negation being a polarity -/
theorem all_bne {α} (l : List α) (u : α → Bool) (b : Bool) :
    (l.all u != b) = if b then l.any (fun x => u x != b) else l.all (fun x => u x != b) := by
  cases b <;> simp [List.not_all_eq_any_not]

theorem any_bne {α} (l : List α) (u : α → Bool) (b : Bool) :
    (l.any u != b) = if b then l.all (fun x => u x != b) else l.any (fun x => u x != b) := by
  cases b <;> simp [List.not_any_eq_all_not]

theorem all_imp_mem {α} {l : List α} {u v : α → Bool} (h : ∀ x ∈ l, u x = true → v x = true) :
    l.all u = true → l.all v = true :=
  fun hu => List.all_eq_true.2 fun x hx => h x hx (List.all_eq_true.1 hu x hx)

theorem any_imp_mem {α} {l : List α} {u v : α → Bool} (h : ∀ x ∈ l, u x = true → v x = true) :
    l.any u = true → l.any v = true :=
  fun hu => (List.any_eq_true.1 hu).elim fun x hx => List.any_eq_true.2 ⟨x, hx.1, h x hx.1 hx.2⟩

end GS
