import GS.Spec.Basic
/-!
# GS.Spec.LitSum — the weight of the terms whose literal passes a test

`litSum p ts` adds the weights of the terms of `ts` whose literal passes `p`. The left-hand side of a
constraint is the sum for the true literals (`lhs_eq_litSum`), the total weight the sum for every literal
(`litSum_true`); the sums a solver keeps under a partial assignment (weight not yet lost, weight already
won, slack without some literals) are the sums for other tests. With non-negative weights a weaker test
gives a larger sum (`litSum_mono`), larger by the weight of any term that passes the one test and not the
other (`litSum_mono_lt`): every comparison between two such sums is one of these two.
-/
namespace GS

def litSum (p : Int → Bool) : List (Int × Int) → Int
  | [] => 0
  | t :: ts => (if p t.2 then t.1 else 0) + litSum p ts

theorem lhs_eq_litSum (a : Asg) : ∀ ts : List (Int × Int), lhs a ts = litSum (litTrue a) ts
  | [] => rfl
  | t :: ts => congrArg (termVal a t + ·) (lhs_eq_litSum a ts)

theorem litSum_true : ∀ ts : List (Int × Int), litSum (fun _ => true) ts = (ts.map (·.1)).sum
  | [] => rfl
  | t :: ts => congrArg (t.1 + ·) (litSum_true ts)

theorem litSum_append (p : Int → Bool) : ∀ ts us : List (Int × Int), litSum p (ts ++ us) = litSum p ts + litSum p us
  | [], us => by simp only [List.nil_append, litSum, Int.zero_add]
  | t :: ts, us => by simp only [List.cons_append, litSum, litSum_append p ts us, Int.add_assoc]

theorem litSum_perm (p : Int → Bool) {ts us : List (Int × Int)} (h : ts.Perm us) : litSum p ts = litSum p us :=
  additive_perm (fun _ _ => rfl) h

theorem litSum_congr {p q : Int → Bool} : ∀ {ts : List (Int × Int)}, (∀ t ∈ ts, p t.2 = q t.2) →
    litSum p ts = litSum q ts
  | [], _ => rfl
  | t :: ts, h => by
    simp only [litSum, h t List.mem_cons_self, litSum_congr fun x hx => h x (List.mem_cons_of_mem _ hx)]

theorem lhs_agree (a e : Asg) (ts : List (Int × Int)) (h : ∀ t ∈ ts, a t.2.natAbs = e t.2.natAbs) :
    lhs a ts = lhs e ts := by
  rw [lhs_eq_litSum, lhs_eq_litSum]
  exact litSum_congr fun t ht => litTrue_agree a e t.2 (h t ht)

theorem Lin.holds_agree (a e : Asg) (c : Lin) (h : ∀ t ∈ c.terms, a t.2.natAbs = e t.2.natAbs) :
    c.holds a = c.holds e := by
  unfold Lin.holds; rw [lhs_agree a e c.terms h]

theorem litSum_nonneg (p : Int → Bool) : ∀ {ts : List (Int × Int)}, (∀ t ∈ ts, 0 ≤ t.1) → 0 ≤ litSum p ts
  | [], _ => Int.le_refl _
  | t :: ts, hnn => by
    have := litSum_nonneg p fun x hx => hnn x (List.mem_cons_of_mem _ hx)
    have := hnn t List.mem_cons_self
    simp only [litSum]; split <;> omega

theorem lhs_nonneg (a : Asg) (ts : List (Int × Int)) (hw : ∀ t ∈ ts, 0 ≤ t.1) : 0 ≤ lhs a ts :=
  lhs_eq_litSum a ts ▸ litSum_nonneg _ hw

theorem litSum_mono {p q : Int → Bool} : ∀ {ts : List (Int × Int)}, (∀ t ∈ ts, 0 ≤ t.1) →
    (∀ t ∈ ts, p t.2 = true → q t.2 = true) → litSum p ts ≤ litSum q ts
  | [], _, _ => Int.le_refl _
  | t :: ts, hnn, h => by
    have ih := litSum_mono (fun x hx => hnn x (List.mem_cons_of_mem _ hx))
      (fun x hx => h x (List.mem_cons_of_mem _ hx))
    have h0 := hnn t List.mem_cons_self
    have ht := h t List.mem_cons_self
    simp only [litSum]
    cases hp : p t.2
    · simp only [Bool.false_eq_true, if_false]; split <;> omega
    · simp only [ht hp, if_true]; omega

theorem litSum_mono_lt {p q : Int → Bool} {w l : Int} {ts : List (Int × Int)} (hnn : ∀ t ∈ ts, 0 ≤ t.1)
    (h : ∀ t ∈ ts, p t.2 = true → q t.2 = true) (hm : (w, l) ∈ ts) (hp : p l = false) (hq : q l = true) :
    litSum p ts + w ≤ litSum q ts := by
  obtain ⟨as, bs, rfl⟩ := List.append_of_mem hm
  have h1 := litSum_mono (ts := as) (fun t ht => hnn t (List.mem_append_left _ ht))
    fun t ht => h t (List.mem_append_left _ ht)
  have h2 := litSum_mono (ts := bs) (fun t ht => hnn t (List.mem_append_right _ (List.mem_cons_of_mem _ ht)))
    fun t ht => h t (List.mem_append_right _ (List.mem_cons_of_mem _ ht))
  simp only [litSum_append, litSum, hp, hq, Bool.false_eq_true, if_false, if_true]
  omega

theorem litSum_full {p : Int → Bool} {ts : List (Int × Int)} (hpos : ∀ t ∈ ts, 0 < t.1) :
    litSum (fun _ => true) ts ≤ litSum p ts ↔ ∀ t ∈ ts, p t.2 = true := by
  refine ⟨fun h t ht => ?_, fun h => Int.le_of_eq (litSum_congr fun t ht => (h t ht).symm)⟩
  cases hp : p t.2
  · have := litSum_mono_lt (q := fun _ => true) (fun t ht => Int.le_of_lt (hpos t ht)) (fun _ _ _ => rfl) ht hp rfl
    have := hpos t ht
    omega
  · rfl

end GS
